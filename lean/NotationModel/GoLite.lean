/-
GoLite - the run-time library of the Go-to-Lean translator (`/verif/extract/go2lean.go`).

The translator turns selected Go functions of /repo into Lean `Id.run do` blocks (mutable
locals become `let mut`, `for` loops become `for .. in ..`, early `return` stays `return`).
Everything the translated text may refer to that is not Go syntax lives here: integer ranges
for counting loops, indexing, association-list maps, `nil`-able values as `Option`, error values
(what one property alone needs - bit tests, string prefixes, `x[:i]`, `delete` - is added to this
namespace by that property's `Src/TypesCxx.lean`). The second half of the file holds the lemmas the
tie proofs read translated loops and tests with: `len(x)` against zero, map entries, and loops in `Id` -
those that run to the end are folds, those that leave at the first hit are `List.findSome?`, those
that change their state on the way and may stop are a fold in `Except` seen through an abstraction
of the loop state, counting loops are structural recursion.

Conventions (part of the trusted base, DESIGN.md 10.5):
* Go `int` is `Int` (no overflow: none of the translated functions does arithmetic beyond
  counting list positions); Go `string` is `String` (compared and searched by Unicode scalar -
  the translated functions only compare whole strings or look for ASCII separators).
* a Go map is an association list; `Map.set` keeps one entry per key; iteration order is the
  list order, i.e. ONE of the orders Go may pick - theorems about translated loops over maps are
  stated for every list, hence for every order.
* a pointer that may be nil is an `Option`; dereferencing nil yields `default` here where Go
  would panic (absence of panics is property C12's business, not the translator's).
* an error value is `Err kind` - the translated functions are judged on whether and which kind
  of error they return, not on message texts (`errorf` forgets its format string).
-/
namespace GoLite

/-- `for i := hi; i >= lo; i--` -/
def downTo (hi lo : Int) : List Int :=
  (List.range (hi - lo + 1).toNat).reverse.map (fun (k : Nat) => lo + (k : Int))

/-- `for i := lo; i < hi; i++` -/
def upTo (lo hi : Int) : List Int :=
  (List.range (hi - lo).toNat).map (fun (k : Nat) => lo + (k : Int))

def idx [Inhabited α] (xs : List α) (i : Int) : α := xs[i.toNat]!

theorem idx_natCast [Inhabited α] (xs : List α) (k : Nat) : idx xs (k : Int) = xs[k]! := by
  simp [idx]

abbrev len (xs : List α) : Int := (xs.length : Int)

def contains [BEq α] (xs : List α) (x : α) : Bool := xs.contains x

/-- `for i, x := range xs` -/
def enum (xs : List α) : List (Int × α) := (List.range xs.length).map (fun (k : Nat) => (k : Int)) |>.zip xs

def deref [Inhabited α] (p : Option α) : α := p.getD default

/-- `*S[i] = v` for a slice of pointers kept as a list of values (translator option ptrSlice) -/
def setAt (xs : List α) (i : Int) (v : α) : List α := xs.set i.toNat v

/-- error values: only the kind is kept (the Go error type, or "error" for fmt.Errorf /
errors.New); message texts are not modelled, so a reworded message changes nothing here -/
structure Err where
  kind : String
  deriving DecidableEq, Repr, Inhabited

def errorf (_fmt : String) : Err := ⟨"error"⟩
def errT (kind _fmt : String) : Err := ⟨kind⟩
/-- `fmt.Errorf("..%w..", .., err)`: the new error wraps `err`, so `errors.Is` sees through it -
the kind of the wrapped error is kept (a nil `err` gives a plain error) -/
def wrapf (_fmt : String) (e : Option Err) : Err := e.getD ⟨"error"⟩

/-- `errors.Is(err, target)` for sentinel / typed errors: same kind -/
def errIs (e : Option Err) (target : Err) : Bool := e == some target
/-- `errors.Join(errs...)`: nil iff every element is nil -/
def errJoin (es : List (Option Err)) : Option Err := if es.all (·.isNone) then none else some ⟨"joined"⟩

/-- a Go map as an association list -/
abbrev Map (κ ν : Type) := List (κ × ν)

namespace Map
def get? [BEq κ] (m : Map κ ν) (k : κ) : Option ν := (m.find? (fun p => p.1 == k)).map (·.2)
/-- `v, ok := m[k]` -/
def lookup [BEq κ] [Inhabited ν] (m : Map κ ν) (k : κ) : ν × Bool :=
  match get? m k with
  | some v => (v, true)
  | none => (default, false)
/-- `m[k]` -/
def get [BEq κ] [Inhabited ν] (m : Map κ ν) (k : κ) : ν := (lookup m k).1
/-- `m[k] = v` -/
def set [BEq κ] (m : Map κ ν) (k : κ) (v : ν) : Map κ ν :=
  if m.any (fun p => p.1 == k) then m.map (fun p => if p.1 == k then (k, v) else p) else m ++ [(k, v)]
end Map

/-- `strings.Cut(s, sep)` for a one-character separator -/
def cut (s : String) (sep : Char) : String × String × Bool :=
  let cs := s.toList
  if cs.contains sep then
    (String.ofList (cs.takeWhile (· != sep)), String.ofList ((cs.dropWhile (· != sep)).drop 1), true)
  else (s, "", false)

/-- `strings.ContainsAny(s, chars)` -/
def containsAny (s chars : String) : Bool := s.toList.any (fun c => chars.toList.contains c)

/-- `strings.TrimSpace` (Unicode White_Space restricted to what Go's unicode.IsSpace knows in Latin-1) -/
def isSpace (c : Char) : Bool :=
  c == ' ' || c == '\t' || c == '\n' || c == '\x0b' || c == '\x0c' || c == '\r' || c == '\u0085' || c == '\u00a0'
def trimSpace (s : String) : String :=
  String.ofList ((s.toList.dropWhile isSpace).reverse.dropWhile isSpace).reverse

/-- `x[lo:hi]` / `x[:hi]` / `x[lo:]` (`hi = none`: up to the end). On strings positions count
characters where Go counts bytes: a translated function must obtain its positions from an operation
that counts the same way (e.g. an index-of oracle defined on characters), as noted at the target. -/
class Slice (α : Type) where
  slice : α → Int → Option Int → α

instance {β : Type} : Slice (List β) where
  slice xs lo hi := ((match hi with | some h => xs.take h.toNat | none => xs)).drop lo.toNat

instance : Slice String where
  slice s lo hi := String.ofList (((match hi with | some h => s.toList.take h.toNat | none => s.toList)).drop lo.toNat)

def slice {α : Type} [Slice α] (x : α) (lo : Int) (hi : Option Int) : α := Slice.slice x lo hi

/-! ### `len(x)` against zero, in the spellings Go has for "empty" and "not empty"

`len(x) > 0` and `0 < len(x)` are one term to Lean, as are `len(x) < 1` and `1 > len(x)`; `!=` is `bne`, the negation of `==`. -/

theorem len_beq_zero (l : List α) : (len l == 0) = l.isEmpty := by cases l <;> rfl

theorem zero_beq_len (l : List α) : (0 == len l) = l.isEmpty := by cases l <;> rfl

theorem len_pos (l : List α) : decide (0 < len l) = !l.isEmpty := by
  cases l with
  | nil => rfl
  | cons a l => exact decide_eq_true (Int.natCast_pos.2 (Nat.succ_pos _))

theorem len_lt_one (l : List α) : decide (len l < 1) = l.isEmpty := by cases l <;> rfl

/-! ### pointers and maps -/

theorem deref_some [Inhabited α] (x : α) : deref (some x) = x := rfl

/-- (`Map.lookup` and `Map.get` are `match`es on `Map.get?`: unfold them, then rewrite with this) -/
theorem Map.get?_eq_lookup [BEq κ] [LawfulBEq κ] (m : Map κ ν) (k : κ) : Map.get? m k = List.lookup k m := by
  induction m with
  | nil => rfl
  | cons a m ih =>
    rw [List.lookup_cons, ← ih, Map.get?, List.find?_cons, BEq.comm]
    cases k == a.1 <;> rfl

/-! reading an entry after `m[k] = v` -/

theorem Map.get?_set_self [BEq κ] [LawfulBEq κ] (m : Map κ ν) (k : κ) (v : ν) :
    Map.get? (Map.set m k v) k = some v := by
  unfold Map.get? Map.set
  induction m with
  | nil => simp
  | cons p m ih =>
    by_cases h : (p.1 == k) = true
    · simp [h]
    · have h' : (p.1 == k) = false := by simpa using h
      by_cases hany : (m.any fun p => p.1 == k) = true
      · simp [hany, h'] at ih ⊢
        exact ih
      · simp [hany, h'] at ih ⊢
        simp [ih]

theorem Map.get?_set_ne [BEq κ] [LawfulBEq κ] (m : Map κ ν) (k k' : κ) (v : ν)
    (hk : (k == k') = false) : Map.get? (Map.set m k v) k' = Map.get? m k' := by
  have hmap : ∀ m : Map κ ν,
      ((m.map fun p => if p.1 == k then (k, v) else p).find? fun p => p.1 == k').map (·.2) =
        (m.find? fun p => p.1 == k').map (·.2) := by
    intro m
    induction m with
    | nil => rfl
    | cons p m ih =>
      by_cases h : (p.1 == k) = true
      · have : (p.1 == k') = false := by rw [beq_iff_eq.1 h]; exact hk
        simpa [h, hk, this] using ih
      · by_cases h2 : (p.1 == k') = true
        · simp [h, h2, List.find?_cons]
        · simpa [h, h2, List.find?_cons] using ih
  unfold Map.get? Map.set
  split
  · exact hmap m
  · simp [List.find?_append, hk]

/-! ### `Id` computations are plain values -/
theorem idPure {α : Type} (a : α) : (pure a : Id α) = a := rfl
theorem idBind {α β : Type} (x : Id α) (f : α → Id β) : x >>= f = f x := rfl

/-! ### loops without `break` / `return`

The first two take the body as a variable; `forIn_lastMatch` and `forIn_appendIf` fix the skeleton
`if test then assign` of the body and take only the test as a variable. -/

/-- a `for .. range` loop whose body runs to its end on every element of the list is a left fold -/
theorem forIn_yield_foldl_mem {α σ : Type} (body : α → σ → Id (ForInStep σ)) (f : σ → α → σ) (l : List α)
    (h : ∀ a ∈ l, ∀ s, body a s = pure (ForInStep.yield (f s a))) (s : σ) :
    forIn l s body = pure (l.foldl f s) := by
  induction l generalizing s with
  | nil => rfl
  | cons a l ih =>
    rw [List.forIn_cons, h a (List.mem_cons_self ..), pure_bind, List.foldl_cons]
    exact ih (fun b hb => h b (List.mem_cons_of_mem _ hb)) _

theorem forIn_yield_foldl {α σ : Type} (body : α → σ → Id (ForInStep σ)) (f : σ → α → σ)
    (h : ∀ a s, body a s = pure (ForInStep.yield (f s a))) (l : List α) (s : σ) :
    forIn l s body = pure (l.foldl f s) :=
  forIn_yield_foldl_mem body f l (fun a _ => h a) s

/-- `for _, x := range xs { if p(x) { r = &x } }`: the last match wins -/
theorem forIn_lastMatch {α : Type} (xs : List α) (p : α → Bool) (b : Option α) :
    (forIn xs b (fun x s => if p x = true then (pure (ForInStep.yield (some x)) : Id _) else pure (ForInStep.yield s))) =
      pure (match (xs.filter p).getLast? with
        | some x => some x
        | none => b) := by
  induction xs generalizing b with
  | nil => rfl
  | cons x xs ih =>
    rw [List.forIn_cons]
    by_cases hp : p x = true
    · simp only [if_pos hp, pure_bind, ih, List.filter_cons_of_pos hp, List.getLast?_cons]
      cases (xs.filter p).getLast? <;> rfl
    · simp only [if_neg hp, pure_bind, ih, List.filter_cons_of_neg hp]

/-- `for _, x := range xs { if p(x) { r = append(r, x) } }` is `filter` -/
theorem forIn_appendIf {α : Type} (l : List α) (p : α → Bool) (acc : List α) :
    (forIn l acc (fun a r => if p a = true then (pure (ForInStep.yield (r ++ [a])) : Id _) else pure (ForInStep.yield r))) =
      pure (acc ++ l.filter p) := by
  induction l generalizing acc with
  | nil => simp
  | cons a l ih =>
    rw [List.forIn_cons]
    by_cases hp : p a = true
    · simp only [if_pos hp, pure_bind, ih, List.filter_cons_of_pos hp, List.append_assoc, List.singleton_append]
    · simp only [if_neg hp, pure_bind, ih, List.filter_cons_of_neg hp]

/-! ### search loops

A loop that leaves at its first hit is `List.findSome?` (`forIn_findSome`), or `List.any` when only the fact of a hit
matters (`forIn_any`); the `findSome?_*` lemmas say what is found when the hit is decided by a test. -/

/-- a loop that leaves (`break`, `return`) at the first element on which `f` answers, in the state `f` names,
and until then leaves its state `s` alone -/
theorem forIn_findSome {α σ : Type} (f : α → Option σ) (s : σ) (body : α → σ → Id (ForInStep σ))
    (h : ∀ a, body a s = pure (match f a with
      | some s' => ForInStep.done s'
      | none => ForInStep.yield s)) (l : List α) :
    forIn l s body = pure ((l.findSome? f).getD s) := by
  induction l with
  | nil => rfl
  | cons a l ih =>
    rw [List.forIn_cons, h, List.findSome?_cons]
    cases f a with
    | some s' => rfl
    | none => exact ih

/-- `for _, a := range l { if .. { return r } }`: the first element on which the body returns decides
(`f a = some r` when the body returns `r` at `a`) -/
theorem forIn_findReturn {α ρ : Type} (f : α → Option ρ)
    (body : α → Option ρ × Unit → Id (ForInStep (Option ρ × Unit)))
    (h : ∀ a s, body a s = pure (match f a with
      | some r => ForInStep.done (some r, ())
      | none => ForInStep.yield (none, ()))) (l : List α) :
    forIn l (none, ()) body = pure (l.findSome? f, ()) := by
  rw [forIn_findSome (fun a => (f a).map (some ·, ())) _ body (fun a => by rw [h]; cases f a <;> rfl),
    ← Function.comp_def, ← List.map_findSome?]
  cases l.findSome? f <;> rfl

theorem findSome?_isNone {α β : Type} (f : α → Option β) (l : List α) :
    (l.findSome? f).isNone = l.all (fun a => (f a).isNone) := by
  induction l with
  | nil => rfl
  | cons a l ih => rw [List.findSome?_cons, List.all_cons]; cases f a <;> simp [ih]

theorem findSome?_if {α β : Type} (p : α → Bool) (g : α → β) (l : List α) :
    l.findSome? (fun a => if p a then some (g a) else none) = (l.find? p).map g := by
  induction l with
  | nil => rfl
  | cons a l ih => rw [List.findSome?_cons, List.find?_cons, ih]; cases p a <;> rfl

theorem findSome?_if_some {α β : Type} (p : α → Bool) (r : β) (l : List α) :
    l.findSome? (fun a => if p a then some r else none) = if l.any p then some r else none := by
  induction l with
  | nil => rfl
  | cons a l ih => rw [List.findSome?_cons, List.any_cons, ih]; cases p a <;> rfl

theorem findSome?_if_none {α β : Type} (p : α → Bool) (r : β) (l : List α) :
    l.findSome? (fun a => if p a then none else some r) = if l.all p then none else some r := by
  induction l with
  | nil => rfl
  | cons a l ih => rw [List.findSome?_cons, List.all_cons, ih]; cases p a <;> rfl

/-- a loop that leaves at the first element passing the test `f`, in a state `sd` that does not depend on the
element (an early `return` of a constant; a flag and `break`), and until then leaves its state `s` alone -/
theorem forIn_any {α σ : Type} (f : α → Bool) (s sd : σ) (body : α → σ → Id (ForInStep σ))
    (h : ∀ a, body a s = pure (if f a then ForInStep.done sd else ForInStep.yield s)) (l : List α) :
    forIn l s body = pure (if l.any f then sd else s) := by
  rw [forIn_findSome (fun a => if f a then some sd else none) s body (fun a => by rw [h]; cases f a <;> rfl),
    findSome?_if_some]
  cases l.any f <;> rfl

/-- `for _, a := range l { if p(a) { return v(a) } }` -/
theorem forIn_returnIf {α ρ : Type} (l : List α) (p : α → Bool) (v : α → ρ) :
    (forIn l ((none : Option ρ), ()) (fun a _ =>
      if p a = true then (pure (ForInStep.done (some (v a), ())) : Id _) else pure (ForInStep.yield (none, ())))) =
      pure ((l.find? p).map v, ()) := by
  rw [forIn_findReturn (fun a => if p a then some (v a) else none) _ (fun a _ => by cases p a <;> rfl), findSome?_if]

/-- `for _, t := range xs { if t == k { r = t; break } }`: `k` if it occurs, else the start value -/
theorem forIn_firstEq {α : Type} [BEq α] [LawfulBEq α] (xs : List α) (k d : α) :
    (forIn xs d (fun t s => if (t == k) = true then (pure (ForInStep.done t) : Id _) else pure (ForInStep.yield s))) =
      pure (if xs.contains k then k else d) := by
  -- the element found equals `k`, so the loop may as well break with `k`
  rw [forIn_any (· == k) d k _ (fun t => by
    cases h : t == k
    · rfl
    · rw [eq_of_beq h]; rfl), List.contains_eq_any_beq]
  simp only [BEq.comm (a := k)]

/-! ### loops that may stop early (`return` / `break` inside `for .. range`) and change their state on the way

(a loop that only searches is `forIn_findSome` / `forIn_findReturn` above) -/

/-- a fold that stops at the first error, remembering the state it stopped in -/
def foldE {α τ ε : Type} (step : τ → α → Except ε τ) : List α → τ → Except (τ × ε) τ
  | [], t => .ok t
  | a :: l, t =>
    match step t a with
    | .ok t' => foldE step l t'
    | .error e => .error (t, e)

/-- a `for .. range` loop whose body, seen through an abstraction of the loop state, either
continues with a new abstract state or stops: it is `foldE` of the abstract step -/
theorem forIn_eq_foldE {α S τ ε : Type} (body : α → S → Id (ForInStep S))
    (step : τ → α → Except ε τ) (abs : τ → S) (stop : τ → ε → S)
    (h : ∀ a t, body a (abs t) =
      pure (match step t a with
        | .ok t' => ForInStep.yield (abs t')
        | .error e => ForInStep.done (stop t e)))
    (l : List α) (t : τ) :
    forIn l (abs t) body =
      pure (match foldE step l t with
        | .ok t' => abs t'
        | .error (t', e) => stop t' e) := by
  induction l generalizing t with
  | nil => simp [foldE]
  | cons a l ih =>
    rw [List.forIn_cons, h]
    cases hs : step t a with
    | ok t' => simp [foldE, hs, ih]
    | error e => simp [foldE, hs]

/-- the form `rw` takes: the start state as it stands in the goal, with the proof that it is an abstraction
(`rfl` when `abs` is written out; needed because `rw` does not unfold an `abs` that is a definition) -/
theorem forIn_eq_foldE' {α S τ ε : Type} (body : α → S → Id (ForInStep S))
    (step : τ → α → Except ε τ) (abs : τ → S) (stop : τ → ε → S)
    (h : ∀ a t, body a (abs t) =
      pure (match step t a with
        | .ok t' => ForInStep.yield (abs t')
        | .error e => ForInStep.done (stop t e)))
    (l : List α) (s : S) (t : τ) (hs : s = abs t) :
    forIn l s body =
      pure (match foldE step l t with
        | .ok t' => abs t'
        | .error (t', e) => stop t' e) := by
  subst hs; exact forIn_eq_foldE body step abs stop h l t

/-! ### counting loops as recursion -/

theorem downTo_succ (n : Nat) :
    downTo (n : Int) 0 = (n : Int) :: downTo ((n : Int) - 1) 0 := by
  unfold downTo
  have h1 : ((n : Int) - 0 + 1).toNat = n + 1 := by omega
  have h2 : ((n : Int) - 1 - 0 + 1).toNat = n := by omega
  rw [h1, h2, List.range_succ]
  simp

theorem downTo_neg : downTo (-1) 0 = [] := by
  unfold downTo; simp

/-- a counting-down loop as recursion: `step (n-1)` first, `step 0` last -/
def loopDown (step : Nat → σ → σ) : Nat → σ → σ
  | 0, s => s
  | n + 1, s => loopDown step n (step n s)

/-- `for i := n-1; i >= 0; i--` whose body always runs to its end (no break / return) is
`loopDown` of the body's state transformer -/
theorem forIn_downTo_eq_loopDown {σ : Type} (body : Int → σ → Id (ForInStep σ)) (step : Nat → σ → σ)
    (h : ∀ (k : Nat) s, body (k : Int) s = pure (ForInStep.yield (step k s))) (n : Nat) (s : σ) :
    forIn (downTo ((n : Int) - 1) 0) s body = pure (loopDown step n s) := by
  induction n generalizing s with
  | zero => simp [downTo_neg, loopDown]
  | succ n ih =>
    have e : (((n + 1 : Nat) : Int) - 1) = (n : Int) := by omega
    rw [e, downTo_succ, List.forIn_cons, h]
    simp only [pure_bind]
    exact ih (step n s)

/-- the state transformer of a loop body -/
def stepOf {σ : Type} (body : Int → σ → Id (ForInStep σ)) (k : Nat) (s : σ) : σ := (Id.run (body (k : Int) s)).value

/-- the same without naming the transformer: it is read off the body -/
theorem forIn_downTo_of_yields {σ : Type} (body : Int → σ → Id (ForInStep σ))
    (hy : ∀ (k : Nat) s, ∃ s', body (k : Int) s = pure (ForInStep.yield s')) (n : Nat) (s : σ) :
    forIn (downTo ((n : Int) - 1) 0) s body = pure (loopDown (stepOf body) n s) := by
  apply forIn_downTo_eq_loopDown
  intro k s
  obtain ⟨s', h⟩ := hy k s
  simp [stepOf, h, ForInStep.value]

/-- simulation: if every step of a loop commutes with an abstraction function, so does the loop -/
theorem loopDown_sim {σ τ : Type} (step : Nat → σ → σ) (abs : τ → σ) (mstep : Nat → τ → τ) (n : Nat)
    (h : ∀ k, k < n → ∀ t, step k (abs t) = abs (mstep k t)) (s : σ) (t : τ) (hs : s = abs t) :
    loopDown step n s = abs (loopDown mstep n t) := by
  induction n generalizing s t with
  | zero => simpa [loopDown] using hs
  | succ n ih =>
    rw [loopDown, loopDown]
    apply ih (fun k hk => h k (by omega))
    rw [hs, h n (by omega)]

end GoLite
