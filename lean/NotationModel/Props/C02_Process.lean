/-
C02, second module of theorems (picked up by `check` as `Props/C02_*.lean`): the tie of the
translated `processSignature` / `processPluginResponse` to the model. Kept apart from Props/C02.lean
because it imports the translated source of a 170-line function.
-/
import NotationModel.Props.C02
import NotationModel.Lemmas.C02Process
import NotationModel.Generated.SrcProcess

/-! ### tie to the translated source: `processSignature` and `processPluginResponse`

`Generated/SrcProcess.lean` holds `processSignature` and `processPluginResponse` translated from
verifier/verifier.go on every run (pointers into `outcome.VerificationResults` tracked by ghost
positions, see go2lean.go `ptrSlice`). Everything they call that is not translated elsewhere is an
oracle (`Src/TypesProcess.lean`); the theorems quantify over all oracles. -/
open NotationModel.Src NotationModel.Src.verifier NotationModel.Src.«notation» NotationModel.Src.pluginframework
open NotationModel.Src.signature
open NotationModel.C02 NotationModel.C02.Process NotationModel.C02.Tie

namespace GoLite
theorem forIn_appendUnless {α : Type} (l : List α) (p : α → Bool) (acc : List α) :
    (forIn l acc (fun a r => if p a = true then (pure (ForInStep.yield r) : Id _) else pure (ForInStep.yield (r ++ [a])))) =
      pure (acc ++ l.filter (fun a => !p a)) := by
  rw [← forIn_appendIf]
  congr; funext a r; cases p a <;> rfl
end GoLite

namespace NotationModel.C02.Tie
section Process

/-- the other arguments of `processSignature`, handed on to the oracles -/
structure Args where
  sigBlob : SigBlob
  mt : String
  pn : String
  tis : List String
  tss : List String
  sv : trustpolicy.SignatureVerification
  pc : GoLite.Map String String

def keyOf (a : Attribute) : String := match a.Key with | .str k => k | .other _ => ""
def strOf : AVal → Option String | .str s => some s | .other _ => none

/-- the verification capabilities in the plugin's metadata, as `processSignature` filters them -/
def verifCaps (md : GetMetadataResponse) : List String :=
  md.Capabilities.filter (fun c => c == CapabilityRevocationCheckVerifier || c == CapabilityTrustedIdentityVerifier)

/-- what the oracles answer, in the order `processSignature` asks them (`TraceOK` ties each field to its call) -/
structure Trace where
  name : String
  minVer : String
  got : Option VerifyPlugin × Option GoLite.Err
  md : GetMetadataResponse × Option GoLite.Err
  ld : List x509.Certificate × Option GoLite.Err
  rA0 : ValidationResult
  ierr : Option GoLite.Err
  rE : ValidationResult
  rT : ValidationResult
  rR : ValidationResult
  ex : VerifySignatureResponse × Option GoLite.Err

/-- the verification capabilities `processSignature` keeps: those of the plugin's metadata when the signature names one -/
def Trace.pcaps (t : Trace) (si : SignerInfo) : List String :=
  if classifyPlugin si = .named then verifCaps t.md.1 else []

/-- the authenticity result after the native identity check (which overwrites the error of the SAME result object) -/
def Trace.rA (t : Trace) (si : SignerInfo) : ValidationResult :=
  if !(t.pcaps si).contains CapabilityTrustedIdentityVerifier && t.ierr.isSome then { t.rA0 with Error := t.ierr } else t.rA0

def revSkipped (enf : GoLite.Map String String) : Bool :=
  GoLite.Map.get enf trustpolicy.TypeRevocation == trustpolicy.ActionSkip

def Trace.toVerify (t : Trace) (si : SignerInfo) (enf : GoLite.Map String String) : List String :=
  (t.pcaps si).filter (fun c => !(revSkipped enf && c == CapabilityRevocationCheckVerifier))

/-- every field of the trace is what the corresponding oracle answers, asked with the arguments the Go code
hands it at that point (the outcome as it stands then) -/
structure TraceOK (env : Env) (v : Verifier) (a : Args) (o0 : Outcome) (ec : EnvelopeContent) (rI : ValidationResult)
    (t : Trace) : Prop where
  name : t.name = (getVerificationPlugin ec.SignerInfo).1
  minVer : t.minVer = (getVerificationPluginMinVersion env.isValidSemver ec.SignerInfo).1
  got : t.got = (GoLite.deref v.pluginManager).Get t.name
  md : t.md = (GoLite.deref t.got.1).GetMetadata { PluginConfig := a.pc }
  ld : t.ld = env.loadX509TrustStores ec.SignerInfo.SignedAttributes.SigningScheme a.pn a.tss v.trustStore
  rA0 : t.rA0 = if t.ld.2.isSome then
      { «Type» := trustpolicy.TypeAuthenticity, Action := GoLite.Map.get o0.VerificationLevel.Enforcement trustpolicy.TypeAuthenticity, Error := t.ld.2 }
    else env.verifyAuthenticity t.ld.1 { EnvelopeContent := some ec, VerificationLevel := o0.VerificationLevel, VerificationResults := [rI] }
  ierr : t.ierr = env.verifyX509TrustedIdentities a.pn a.tis ec.SignerInfo.CertificateChain
  rE : t.rE = env.verifyExpiry { EnvelopeContent := some ec, VerificationLevel := o0.VerificationLevel, VerificationResults := [rI, t.rA ec.SignerInfo] }
  rT : t.rT = env.verifyAuthenticTimestamp a.pn a.tss a.sv v.trustStore v.revocationTimestampingValidator
      { EnvelopeContent := some ec, VerificationLevel := o0.VerificationLevel, VerificationResults := [rI, t.rA ec.SignerInfo, t.rE] }
  rR : t.rR = v.verifyRevocation { EnvelopeContent := some ec, VerificationLevel := o0.VerificationLevel, VerificationResults := [rI, t.rA ec.SignerInfo, t.rE, t.rT] }
  ex : t.ex = env.executePlugin t.got.1 (t.toVerify ec.SignerInfo o0.VerificationLevel.Enforcement) (some ec) a.tis a.pc

/-- the trace of a call: every oracle asked exactly as `processSignature` asks it -/
def traceOf (env : Env) (v : Verifier) (a : Args) (o0 : Outcome) (ec : EnvelopeContent) (rI : ValidationResult) : Trace :=
  let si := ec.SignerInfo
  let mk (rs : List ValidationResult) : Outcome := { EnvelopeContent := some ec, VerificationLevel := o0.VerificationLevel, VerificationResults := rs }
  let name := (getVerificationPlugin si).1
  let got := (GoLite.deref v.pluginManager).Get name
  let md := (GoLite.deref got.1).GetMetadata { PluginConfig := a.pc }
  let ld := env.loadX509TrustStores si.SignedAttributes.SigningScheme a.pn a.tss v.trustStore
  let rA0 : ValidationResult := if ld.2.isSome then
      { «Type» := trustpolicy.TypeAuthenticity, Action := GoLite.Map.get o0.VerificationLevel.Enforcement trustpolicy.TypeAuthenticity, Error := ld.2 }
    else env.verifyAuthenticity ld.1 (mk [rI])
  let ierr := env.verifyX509TrustedIdentities a.pn a.tis si.CertificateChain
  let t0 : Trace := ⟨name, (getVerificationPluginMinVersion env.isValidSemver si).1, got, md, ld, rA0, ierr, default, default, default, default⟩
  let rA := t0.rA si
  let rE := env.verifyExpiry (mk [rI, rA])
  let rT := env.verifyAuthenticTimestamp a.pn a.tss a.sv v.trustStore v.revocationTimestampingValidator (mk [rI, rA, rE])
  let rR := v.verifyRevocation (mk [rI, rA, rE, rT])
  let ex := env.executePlugin got.1 (t0.toVerify si o0.VerificationLevel.Enforcement) (some ec) a.tis a.pc
  { t0 with rE := rE, rT := rT, rR := rR, ex := ex }

/-- the hypothesis `TraceOK` of the tie is satisfiable for every call (so the tie speaks about every call) -/
theorem traceOf_ok (env : Env) (v : Verifier) (a : Args) (o0 : Outcome) (ec : EnvelopeContent) (rI : ValidationResult) :
    TraceOK env v a o0 ec rI (traceOf env v a o0 ec rI) :=
  ⟨rfl, rfl, rfl, rfl, rfl, rfl, rfl, rfl, rfl, rfl, rfl⟩

/-- the scenario of the model (`Input`) that a call of `processSignature` amounts to -/
def toInput (env : Env) (v : Verifier) (si : SignerInfo) (t : Trace) : Input :=
  { level := "", override := [],
    pluginAttr := classifyPlugin si,
    minVerAttr := classifyMinVer env.isValidSemver si,
    extAttrs := (getNonPluginExtendedCriticalAttributes si).map (fun x => { key := keyOf x, critical := x.Critical }),
    pluginState := if v.pluginManager.isNone then .managerNil else if t.got.2.isSome then .notInstalled
      else if t.md.2.isSome then .metadataError else .installed,
    pluginVersion := if !env.isValidSemver t.md.1.Version then .invalidSemver
      else if !env.isRequiredVerificationPluginVer t.md.1.Version t.minVer then .tooOld else .ok,
    capIdentity := (verifCaps t.md.1).contains CapabilityTrustedIdentityVerifier,
    capRevocation := (verifCaps t.md.1).contains CapabilityRevocationCheckVerifier,
    trust := if t.ld.2.isSome then .storeError else if t.rA0.Error.isSome then .notFound else .found,
    identityMatch := t.ierr.isNone,
    wildcardIdentity := false,
    expired := t.rE.Error.isSome,
    timestampOk := t.rT.Error.isNone,
    revocation := if t.rR.Error.isSome then .revoked else .ok,
    pluginCallError := t.ex.2.isSome,
    processed := t.ex.1.ProcessedAttributes.filterMap strOf,
    verdictIdentity := verdictOf t.ex.1 CapabilityTrustedIdentityVerifier,
    verdictRevocation := verdictOf t.ex.1 CapabilityRevocationCheckVerifier }

/-- what the tie assumes of the oracles (each is a fact about a callee of `processSignature`, not about it) -/
structure Contracts (env : Env) (v : Verifier) : Prop where
  /-- every validation reports under its own type, with the action the outcome's level gives that type -/
  auth : ∀ cs o, (env.verifyAuthenticity cs o).«Type» = trustpolicy.TypeAuthenticity ∧
    (env.verifyAuthenticity cs o).Action = GoLite.Map.get o.VerificationLevel.Enforcement trustpolicy.TypeAuthenticity
  expiry : ∀ o, (env.verifyExpiry o).«Type» = trustpolicy.TypeExpiry ∧
    (env.verifyExpiry o).Action = GoLite.Map.get o.VerificationLevel.Enforcement trustpolicy.TypeExpiry
  timestamp : ∀ p t s x y o, (env.verifyAuthenticTimestamp p t s x y o).«Type» = trustpolicy.TypeAuthenticTimestamp ∧
    (env.verifyAuthenticTimestamp p t s x y o).Action = GoLite.Map.get o.VerificationLevel.Enforcement trustpolicy.TypeAuthenticTimestamp
  revocation : ∀ o, (v.verifyRevocation o).«Type» = trustpolicy.TypeRevocation ∧
    (v.verifyRevocation o).Action = GoLite.Map.get o.VerificationLevel.Enforcement trustpolicy.TypeRevocation
  /-- a plugin manager that reports no error hands out a plugin -/
  got : ∀ m n, v.pluginManager = some m → (m.Get n).2 = none → (m.Get n).1.isSome = true
  /-- no minimum version demanded: every valid version will do (`semver.Compare(v, "v") = +1`) -/
  noMin : ∀ ver, env.isValidSemver ver = true → env.isRequiredVerificationPluginVer ver "" = true


/-- the plugin lists each verification capability at most once, trusted identity first (the shapes the
model's two capability flags can express) -/
def NormalCaps (l : List String) : Prop :=
  l = (if l.contains CapabilityTrustedIdentityVerifier then [CapabilityTrustedIdentityVerifier] else []) ++
      (if l.contains CapabilityRevocationCheckVerifier then [CapabilityRevocationCheckVerifier] else [])

theorem resOf_of_contract {r : ValidationResult} {ty : String} {enf : GoLite.Map String String}
    (h : r.«Type» = ty ∧ r.Action = GoLite.Map.get enf ty) : resOf r = ⟨ty, Enf.get enf ty, r.Error.isSome⟩ := by
  simp [resOf, h.1, h.2, mapGet_eq_enfGet]

theorem resOf_auth (env : Env) (v : Verifier) (hc : Contracts env v) (cs : List x509.Certificate) (o : Outcome) :
    resOf (env.verifyAuthenticity cs o) = ⟨Facts.typeAuthenticity, Enf.get o.VerificationLevel.Enforcement Facts.typeAuthenticity, (env.verifyAuthenticity cs o).Error.isSome⟩ :=
  resOf_of_contract (hc.auth cs o)
theorem resOf_expiry (env : Env) (v : Verifier) (hc : Contracts env v) (o : Outcome) :
    resOf (env.verifyExpiry o) = ⟨Facts.typeExpiry, Enf.get o.VerificationLevel.Enforcement Facts.typeExpiry, (env.verifyExpiry o).Error.isSome⟩ :=
  resOf_of_contract (hc.expiry o)
theorem resOf_timestamp (env : Env) (v : Verifier) (hc : Contracts env v) (p : String) (t : List String) (s : trustpolicy.SignatureVerification) (x y : Nat) (o : Outcome) :
    resOf (env.verifyAuthenticTimestamp p t s x y o) = ⟨Facts.typeAuthenticTimestamp, Enf.get o.VerificationLevel.Enforcement Facts.typeAuthenticTimestamp, (env.verifyAuthenticTimestamp p t s x y o).Error.isSome⟩ :=
  resOf_of_contract (hc.timestamp p t s x y o)
theorem resOf_revocation (env : Env) (v : Verifier) (hc : Contracts env v) (o : Outcome) :
    resOf (v.verifyRevocation o) = ⟨Facts.typeRevocation, Enf.get o.VerificationLevel.Enforcement Facts.typeRevocation, (v.verifyRevocation o).Error.isSome⟩ :=
  resOf_of_contract (hc.revocation o)

theorem capsOf_toInput (env : Env) (v : Verifier) (si : SignerInfo) (t : Trace)
    (hcaps : NormalCaps (verifCaps t.md.1)) :
    capsOf (toInput env v si t) = t.pcaps si := by
  unfold capsOf Trace.pcaps toInput
  simp only []
  by_cases hn : classifyPlugin si = .named
  · simp only [hn, beq_self_eq_true, if_true]
    exact hcaps.symm
  · have : (classifyPlugin si == PluginAttr.named) = false := by simpa using hn
    simp [this, hn]

theorem forIn_anyReturnC {α ρ : Type} (l : List α) (q : α → Bool) (v : ρ) :
    forIn l ((none : Option ρ), ()) (fun a _ => if q a = true then (pure (ForInStep.done (some v, ())) : Id _) else pure (ForInStep.yield (none, ()))) =
      pure (if l.any q = true then (some v, ()) else (none, ())) :=
  GoLite.forIn_any q _ _ _ (fun _ => rfl) l

theorem ite_cases {α : Sort _} {c : Prop} [Decidable c] {a b r : α} (h1 : c → a = r) (h2 : ¬c → b = r) :
    (if c then a else b) = r := by
  by_cases h : c
  · rw [if_pos h]; exact h1 h
  · rw [if_neg h]; exact h2 h

theorem trust_failed (a b : Bool) :
    ((if a = true then Trust.storeError else if b = true then Trust.notFound else Trust.found) != Trust.found) = (a || b) := by
  cases a <;> cases b <;> decide
theorem revocation_failed (a : Bool) :
    ((if a = true then Revocation.revoked else Revocation.ok) != Revocation.ok) = a := by
  cases a <;> decide

theorem trust_ne3 : (Trust.found != Trust.found) = false := by decide
theorem rev_ne2 : (Revocation.ok != Revocation.ok) = false := by decide

theorem contains_default (x : String) : GoLite.contains (default : List String) x = false := rfl
theorem contains_nil (x : String) : GoLite.contains ([] : List String) x = false := rfl

/-- what the tie compares: accepted or not, and the results recorded after the integrity result -/
def view (r : Option GoLite.Err × Outcome) : Bool × List Result :=
  (r.1.isNone, (r.2.VerificationResults.drop 1).map resOf)

/-- the model's answer, as the tie compares it -/
def modelView (i : Input) (enf : Enf) : Bool × List Result := ((process i enf).accepted, (process i enf).results)

/-! #### the model's stages with the plugin's verification capabilities as a LIST

The model's `Input` says which verification capabilities the plugin declares by two flags (`capsOf`: at most one of
each, trusted identity first). The Go code works on the LIST the plugin's metadata gives, in its order and with its
repetitions. The stages below (suffix `G`) are the model's own (same text, `capsOf i` replaced by a parameter); `processEG_capsOf`
shows they ARE the model on the lists the flags can express, and the tie is proved against them for EVERY list. -/
def toVerifyG (caps : List String) (enf : Enf) : List String :=
  caps.filter (fun c => !(revSkippedBy enf && c == capRevocation))

def discoverG (i : Input) (caps : List String) (s : St) : Except St St :=
  -- getVerificationPlugin: an existing but malformed attribute is an error
  if i.pluginAttr == .notCritical || i.pluginAttr == .notString || i.pluginAttr == .blank then .error s
  else if i.pluginAttr != .named then .ok s
  -- min version attribute is only looked at when a plugin is named
  else if i.minVerAttr == .notCritical || i.minVerAttr == .notString || i.minVerAttr == .blank ||
      i.minVerAttr == .invalidSemver then .error s
  else if i.pluginState == .managerNil then .error s
  else
  let s := { s with managerGets := s.managerGets + 1 }
  if i.pluginState == .notInstalled then .error s
  else if i.pluginState == .metadataError then .error s
  else if i.pluginVersion == .invalidSemver then .error s
  else if i.minVerAttr == .valid && i.pluginVersion == .tooOld then .error s
  else if caps.isEmpty then .error s
  else .ok s

def authStageG (i : Input) (caps : List String) (enf : Enf) (s : St) : Except St St :=
  let s := { s with storeLoads := s.storeLoads + 1 }
  let auth : Result := { type := Facts.typeAuthenticity, action := enf.get Facts.typeAuthenticity,
                         failed := i.trust != .found }
  match s.push auth with
  | .error s' => .error s'
  | .ok s' =>
    if !caps.contains capIdentity && !i.identityMatch then
      let s'' := { s' with results := failAuthenticity s'.results }
      if isCritical { auth with failed := true } then .error s'' else .ok s''
    else .ok s'

def revocationStageG (i : Input) (caps : List String) (enf : Enf) (s : St) : Except St St :=
  if !revSkippedBy enf && !caps.contains capRevocation then
    let s := { s with validatorCalls := s.validatorCalls + 1 }
    s.push { type := Facts.typeRevocation, action := enf.get Facts.typeRevocation,
             failed := i.revocation != .ok }
  else .ok s

def pluginStageG (i : Input) (caps : List String) (enf : Enf) (s : St) : Except St St :=
  if i.pluginAttr == .named then
    if (toVerifyG caps enf).isEmpty then
      .ok s                            -- plugin named but never executed (known finding F-C02b)
    else
      let s := { s with pluginVerifyCaps := some (toVerifyG caps enf),
                        pluginAttrsToProcess := some (sortKeys (i.extAttrs.map (·.key))) }
      if i.pluginCallError then .error s
      else processResponse i enf (toVerifyG caps enf) s
  else
    -- no plugin named: a critical extended attribute cannot be processed by anyone
    if i.extAttrs.any (·.critical) then .error s else .ok s

def processEG (i : Input) (enf : Enf) (caps : List String) : Except St St :=
  discoverG i caps {} >>= authStageG i caps enf >>= expiryStage i enf >>= timestampStage i enf >>=
    revocationStageG i caps enf >>= pluginStageG i caps enf

theorem processEG_capsOf (i : Input) (enf : Enf) : processEG i enf (capsOf i) = processE i enf := rfl

/-- accepted or not, and the results, of a run of the model's stages -/
def obsPair (e : Except St St) : Bool × List Result :=
  match e with
  | .ok s => (true, s.results)
  | .error s => (false, s.results)

theorem modelView_eq (i : Input) (enf : Enf) : modelView i enf = obsPair (processE i enf) := by
  unfold modelView process obsPair
  cases processE i enf <;> rfl

/-- TIE (translated source): `processPluginResponse`, for EVERY list of verification capabilities, plugin response and
outcome: it returns an error exactly when the model's `processResponse` stops, and leaves behind exactly the model's
results (the trusted-identity verdict written into the authenticity result recorded earlier - through the pointer the
Go code finds in the outcome -, the revocation verdict appended) -/
theorem source_processPluginResponse_refines_model (i : Input) (resp : VerifySignatureResponse) (pre : List ValidationResult)
    (caps : List String) (o : Outcome) (s : St)
    (hrel : Rel pre o s) (hpre : pre.all (fun r => !isAuth r) = true)
    (hvi : i.verdictIdentity = verdictOf resp CapabilityTrustedIdentityVerifier)
    (hvr : i.verdictRevocation = verdictOf resp CapabilityRevocationCheckVerifier)
    (hcaps : ∀ c ∈ caps, c = CapabilityTrustedIdentityVerifier ∨ c = CapabilityRevocationCheckVerifier)
    (hauth : hasAuth s)
    (hplug : (getVerificationPlugin (GoLite.deref o.EnvelopeContent).SignerInfo).2 = none)
    (hext : i.extAttrs.any (fun a => !i.processed.contains a.key) =
      (getNonPluginExtendedCriticalAttributes (GoLite.deref o.EnvelopeContent).SignerInfo).any
        (fun a => !slices.ContainsAny resp.ProcessedAttributes a.Key)) :
    match processResponse i o.VerificationLevel.Enforcement caps s with
    | .ok s' => (processPluginResponse caps resp o).1 = none ∧ Rel pre (processPluginResponse caps resp o).2 s'
    | .error s' => (processPluginResponse caps resp o).1.isSome = true ∧ Rel pre (processPluginResponse caps resp o).2 s' := by
  rw [processPluginResponse_eq_spec]
  exact respSpec_sim i resp pre caps o s hrel hpre hvi hvr hcaps hauth hplug hext

/-! #### `processSignature` as a whole -/

/-- the plugin response, seen through `view`: the translated `processPluginResponse` on an outcome whose results
after the first are the model's results gives the model's verdict and results -/
theorem respView (i : Input) (resp : VerifySignatureResponse) (r0 : ValidationResult) (caps : List String)
    (o : Outcome) (s : St)
    (hrel : Rel [r0] o s) (hpre : isAuth r0 = false)
    (hvi : i.verdictIdentity = verdictOf resp CapabilityTrustedIdentityVerifier)
    (hvr : i.verdictRevocation = verdictOf resp CapabilityRevocationCheckVerifier)
    (hcaps : ∀ c ∈ caps, c = CapabilityTrustedIdentityVerifier ∨ c = CapabilityRevocationCheckVerifier)
    (hauth : hasAuth s)
    (hplug : (getVerificationPlugin (GoLite.deref o.EnvelopeContent).SignerInfo).2 = none)
    (hext : i.extAttrs.any (fun a => !i.processed.contains a.key) =
      (getNonPluginExtendedCriticalAttributes (GoLite.deref o.EnvelopeContent).SignerInfo).any
        (fun a => !slices.ContainsAny resp.ProcessedAttributes a.Key)) :
    view (processPluginResponse caps resp o) = obsPair (processResponse i o.VerificationLevel.Enforcement caps s) := by
  have h := source_processPluginResponse_refines_model i resp [r0] caps o s hrel (by simp [hpre]) hvi hvr hcaps hauth hplug hext
  cases hp : processResponse i o.VerificationLevel.Enforcement caps s with
  | ok s' =>
    rw [hp] at h
    obtain ⟨h1, rs, h2, h3⟩ := h
    simp [view, obsPair, h1, h2, h3]
  | error s' =>
    rw [hp] at h
    obtain ⟨h1, rs, h2, h3⟩ := h
    cases he : (processPluginResponse caps resp o).1 with
    | none => rw [he] at h1; cases h1
    | some e => simp [view, obsPair, he, h2, h3]

theorem contains_filterMap_strOf (P : List AVal) (k : String) :
    (P.filterMap strOf).contains k = P.contains (.str k) := by
  induction P with
  | nil => rfl
  | cons x P ih =>
    cases x with
    | str s =>
      simp only [List.filterMap_cons, strOf, List.contains_cons, ih]
      congr 1
      by_cases h : k = s
      · subst h; simp
      · have : (AVal.str k == AVal.str s) = false := by simpa using h
        simp [h, this]
    | other n =>
      simp only [List.filterMap_cons, strOf, List.contains_cons, ih]
      have : (AVal.str k == AVal.other n) = false := by simp
      simp [this]

theorem ext_any_eq (si : SignerInfo) (P : List AVal) :
    ((getNonPluginExtendedCriticalAttributes si).map (fun x => ({ key := keyOf x, critical := x.Critical } : ExtAttr))).any
        (fun a => !(P.filterMap strOf).contains a.key) =
      (getNonPluginExtendedCriticalAttributes si).any (fun a => !slices.ContainsAny P a.Key) := by
  rw [source_getNonPluginExtendedCriticalAttributes_refines_model]
  generalize si.SignedAttributes.ExtendedAttributes = l
  induction l with
  | nil => rfl
  | cons x l ih =>
    cases hk : x.Key with
    | other n => simp only [List.filter_cons, hk]; simpa using ih
    | str k =>
      by_cases hh : VerificationPluginHeaders.contains k = true
      · simp only [List.filter_cons, hk, hh]; simpa using ih
      · have hh' : VerificationPluginHeaders.contains k = false := by simpa using hh
        simp only [List.filter_cons, hk, hh', Bool.not_false, if_true, List.map_cons, List.any_cons, ih]
        congr 1
        simp only [keyOf, hk, slices.ContainsAny]
        rw [contains_filterMap_strOf]

theorem toVerify_caps (t : Trace) (si : SignerInfo) (enf : GoLite.Map String String) :
    ∀ c ∈ t.toVerify si enf, c = CapabilityTrustedIdentityVerifier ∨ c = CapabilityRevocationCheckVerifier := by
  intro c hc
  unfold Trace.toVerify Trace.pcaps at hc
  have hc' := (List.mem_filter.1 hc).1
  split at hc'
  · unfold verifCaps at hc'
    have := (List.mem_filter.1 hc').2
    simp at this
    rcases this with h | h
    · exact Or.inr h
    · exact Or.inl h
  · cases hc'

@[simp] theorem toInput_pluginAttr (env : Env) (v : Verifier) (si : SignerInfo) (t : Trace) :
    (toInput env v si t).pluginAttr = classifyPlugin si := rfl
@[simp] theorem toInput_minVerAttr (env : Env) (v : Verifier) (si : SignerInfo) (t : Trace) :
    (toInput env v si t).minVerAttr = classifyMinVer env.isValidSemver si := rfl
@[simp] theorem toInput_extAttrs (env : Env) (v : Verifier) (si : SignerInfo) (t : Trace) :
    (toInput env v si t).extAttrs = (getNonPluginExtendedCriticalAttributes si).map (fun x => { key := keyOf x, critical := x.Critical }) := rfl
@[simp] theorem toInput_pluginState (env : Env) (v : Verifier) (si : SignerInfo) (t : Trace) :
    (toInput env v si t).pluginState = (if v.pluginManager.isNone then .managerNil else if t.got.2.isSome then .notInstalled else if t.md.2.isSome then .metadataError else .installed) := rfl
@[simp] theorem toInput_pluginVersion (env : Env) (v : Verifier) (si : SignerInfo) (t : Trace) :
    (toInput env v si t).pluginVersion = (if !env.isValidSemver t.md.1.Version then .invalidSemver else if !env.isRequiredVerificationPluginVer t.md.1.Version t.minVer then .tooOld else .ok) := rfl
@[simp] theorem toInput_capIdentity (env : Env) (v : Verifier) (si : SignerInfo) (t : Trace) :
    (toInput env v si t).capIdentity = (verifCaps t.md.1).contains CapabilityTrustedIdentityVerifier := rfl
@[simp] theorem toInput_capRevocation (env : Env) (v : Verifier) (si : SignerInfo) (t : Trace) :
    (toInput env v si t).capRevocation = (verifCaps t.md.1).contains CapabilityRevocationCheckVerifier := rfl
@[simp] theorem toInput_trust (env : Env) (v : Verifier) (si : SignerInfo) (t : Trace) :
    (toInput env v si t).trust = (if t.ld.2.isSome then .storeError else if t.rA0.Error.isSome then .notFound else .found) := rfl
@[simp] theorem toInput_identityMatch (env : Env) (v : Verifier) (si : SignerInfo) (t : Trace) :
    (toInput env v si t).identityMatch = t.ierr.isNone := rfl
@[simp] theorem toInput_expired (env : Env) (v : Verifier) (si : SignerInfo) (t : Trace) :
    (toInput env v si t).expired = t.rE.Error.isSome := rfl
@[simp] theorem toInput_timestampOk (env : Env) (v : Verifier) (si : SignerInfo) (t : Trace) :
    (toInput env v si t).timestampOk = t.rT.Error.isNone := rfl
@[simp] theorem toInput_revocation (env : Env) (v : Verifier) (si : SignerInfo) (t : Trace) :
    (toInput env v si t).revocation = (if t.rR.Error.isSome then .revoked else .ok) := rfl
@[simp] theorem toInput_pluginCallError (env : Env) (v : Verifier) (si : SignerInfo) (t : Trace) :
    (toInput env v si t).pluginCallError = t.ex.2.isSome := rfl
@[simp] theorem toInput_processed (env : Env) (v : Verifier) (si : SignerInfo) (t : Trace) :
    (toInput env v si t).processed = t.ex.1.ProcessedAttributes.filterMap strOf := rfl
@[simp] theorem toInput_verdictIdentity (env : Env) (v : Verifier) (si : SignerInfo) (t : Trace) :
    (toInput env v si t).verdictIdentity = verdictOf t.ex.1 CapabilityTrustedIdentityVerifier := rfl
@[simp] theorem toInput_verdictRevocation (env : Env) (v : Verifier) (si : SignerInfo) (t : Trace) :
    (toInput env v si t).verdictRevocation = verdictOf t.ex.1 CapabilityRevocationCheckVerifier := rfl

theorem revSkipped_eq (enf : GoLite.Map String String) : revSkipped enf = revSkippedBy enf := by
  have haS : trustpolicy.ActionSkip = Facts.actionSkip := by decide
  rw [revSkipped, revSkippedBy, mapGet_eq_enfGet, typeRev_eq, haS]

theorem toVerifyG_eq (t : Trace) (si : SignerInfo) (enf : GoLite.Map String String) :
    toVerifyG (t.pcaps si) enf = t.toVerify si enf := by
  unfold toVerifyG Trace.toVerify
  rw [revSkipped_eq]
  rfl

/-! #### the source's exits against the model's stops (`rest` / `m`: what remains of the function / of the model) -/

theorem ok_bind {ε α β : Type} (a : α) (f : α → Except ε β) : (Except.ok a >>= f) = f a := pure_bind a f

theorem view_exit (c : Bool) (e : Option GoLite.Err) (o : Outcome) (rest : Id (Option GoLite.Err × Outcome)) (s : St)
    (m : St → Except St St) (he : c = true → e.isSome = true)
    (ho : (o.VerificationResults.drop 1).map resOf = s.results)
    (hrest : c = false → view rest = obsPair (m s)) :
    view (if c = true then (pure (e, o) : Id (Option GoLite.Err × Outcome)) else rest) =
      obsPair ((if c = true then Except.error s else Except.ok s) >>= m) := by
  cases c with
  | false => exact hrest rfl
  | true =>
    have he' : e.isNone = false := by cases e <;> simp_all
    simp only [if_true, view, GoLite.idPure, ho, he', obsPair, bind, Except.bind]

/-- one `c` for both sides: at its use source and model write the condition with different instance terms, and `split` /
`rw [if_pos h]` with a hypothesis about one side misses the other -/
theorem view_ite (c : Prop) [Decidable c] (x y : Id (Option GoLite.Err × Outcome)) (p q : Except St St)
    (m : St → Except St St) (h1 : c → view x = obsPair (p >>= m)) (h2 : ¬c → view y = obsPair (q >>= m)) :
    view (if c then x else y) = obsPair ((if c then p else q) >>= m) := by
  by_cases h : c
  · rw [if_pos h, if_pos h]; exact h1 h
  · rw [if_neg h, if_neg h]; exact h2 h

theorem view_record (r : ValidationResult) (o : Outcome) (rest : Id (Option GoLite.Err × Outcome)) (s : St)
    (m : St → Except St St)
    (ho : (o.VerificationResults.drop 1).map resOf = s.results ++ [resOf r])
    (hrest : isCriticalFailure r = false → view rest = obsPair (m { s with results := s.results ++ [resOf r] })) :
    view (if isCriticalFailure r = true then (pure (r.Error, o) : Id (Option GoLite.Err × Outcome)) else rest) =
      obsPair (s.push (resOf r) >>= m) := by
  unfold St.push
  rw [← isCriticalFailure_eq]
  exact view_exit _ _ _ _ _ _ (critFail_isSome r) ho hrest

theorem view_stop (e : Option GoLite.Err) (o : Outcome) (s : St) (m : St → Except St St) (he : e.isSome = true)
    (ho : (o.VerificationResults.drop 1).map resOf = s.results) :
    view (pure (e, o) : Id (Option GoLite.Err × Outcome)) = obsPair (Except.error s >>= m) :=
  view_exit true e o (pure (e, o)) s m (fun _ => he) ho (fun h => nomatch h)

/-! #### the model's stages on `toInput` of a trace record `resOf` of the oracle answers the trace holds -/
section OnTrace
variable {env : Env} {v : Verifier} {a : Args} {o0 : Outcome} {ec : EnvelopeContent} {rI : ValidationResult} {t : Trace}
  (hc : Contracts env v) (ht : TraceOK env v a o0 ec rI t)
include hc ht

theorem resOf_rA0 :
    resOf t.rA0 = ⟨Facts.typeAuthenticity, Enf.get o0.VerificationLevel.Enforcement Facts.typeAuthenticity,
      (toInput env v ec.SignerInfo t).trust != .found⟩ := by
  rw [toInput_trust, trust_failed, ht.rA0]
  by_cases h : t.ld.2.isSome = true
  · simp [h, resOf, typeAuth_eq, mapGet_eq_enfGet]
  · simp only [h, Bool.false_eq_true, if_false, Bool.false_or]
    exact resOf_auth env v hc _ _

theorem type_rA :
    (t.rA ec.SignerInfo).«Type» = Facts.typeAuthenticity := by
  unfold Trace.rA
  split <;> exact congrArg Result.type (resOf_rA0 hc ht)

theorem authStageG_trace (caps : List String) (s : St) :
    authStageG (toInput env v ec.SignerInfo t) caps o0.VerificationLevel.Enforcement s =
      { s with storeLoads := s.storeLoads + 1 }.push (resOf t.rA0) >>= fun s' =>
        if (!caps.contains CapabilityTrustedIdentityVerifier && t.ierr.isSome) = true then
          (if isCritical { resOf t.rA0 with failed := true } = true then .error { s' with results := failAuthenticity s'.results }
           else .ok { s' with results := failAuthenticity s'.results })
        else .ok s' := by
  have hid : (!(toInput env v ec.SignerInfo t).identityMatch) = t.ierr.isSome := by
    rw [toInput_identityMatch]; cases t.ierr <;> rfl
  rw [resOf_rA0 hc ht, ← hid, capId_eq]
  simp only [authStageG, bind, Except.bind]
  split <;> simp_all

theorem revocationStageG_trace (caps : List String) (s : St) :
    revocationStageG (toInput env v ec.SignerInfo t) caps o0.VerificationLevel.Enforcement s =
      if (!revSkipped o0.VerificationLevel.Enforcement && !caps.contains CapabilityRevocationCheckVerifier) = true then
        { s with validatorCalls := s.validatorCalls + 1 }.push (resOf t.rR)
      else .ok s := by
  rw [ht.rR, resOf_revocation env v hc, ← ht.rR, revSkipped_eq, capRev_eq]
  simp [revocationStageG, revocation_failed]

theorem expiryStage_trace (s : St) :
    expiryStage (toInput env v ec.SignerInfo t) o0.VerificationLevel.Enforcement s = s.push (resOf t.rE) := by
  rw [ht.rE, resOf_expiry env v hc, ← ht.rE]
  rfl

theorem timestampStage_trace (s : St) :
    timestampStage (toInput env v ec.SignerInfo t) o0.VerificationLevel.Enforcement s = s.push (resOf t.rT) := by
  rw [ht.rT, resOf_timestamp env v hc, ← ht.rT]
  simp [timestampStage]
end OnTrace

theorem minVer_error (f : String → Bool) (si : SignerInfo) :
    ((getVerificationPluginMinVersion f si).2.isSome &&
        (getVerificationPluginMinVersion f si).2 != some errExtendedAttributeNotExist) =
      (classifyMinVer f si == .notCritical || classifyMinVer f si == .notString || classifyMinVer f si == .blank ||
        classifyMinVer f si == .invalidSemver) := by
  have h := source_getVerificationPluginMinVersion_refines_model f si
  cases hmv : classifyMinVer f si with
  | absent => rw [h.1 hmv]; decide
  | valid => rw [(h.2.1 hmv).1]; rfl
  | _ =>
    obtain ⟨_, g2, g3⟩ := h.2.2 (by rw [hmv]; decide) (by rw [hmv]; decide)
    simp [g2, bne_iff_ne, g3]

/-- TIE (translated source): `processSignature` AS A WHOLE, for EVERY list of capabilities a plugin may declare.
For EVERY verifier, environment of callees, argument list, level and signature that passed integrity: the translated
function is accepted exactly when the model's stages - with the plugin's verification capabilities taken as the LIST
the metadata gives (`processEG`, which IS the model on the lists its flags express: `processEG_capsOf`) - accept the
scenario the oracles' answers amount to (`toInput` of the trace, each oracle asked with the arguments the Go code
hands it at that point), and records exactly the model's results after the integrity result - whether or not the
signature names a verification plugin (discovery, capability filter, native checks the plugin does not own, hand-over
to `processPluginResponse`, the update of the authenticity result through the pointer kept in the outcome).
Assumed: `Contracts` (facts about callees) and an outcome that starts empty. -/
theorem source_processSignature_refines_model_anycaps (env : Env) (v : Verifier) (a : Args) (o0 : Outcome)
    (ec : EnvelopeContent) (rI : ValidationResult) (t : Trace)
    (hc : Contracts env v) (ht : TraceOK env v a o0 ec rI t)
    (hI : env.verifyIntegrity a.sigBlob a.mt o0 = (some ec, rI)) (hIok : rI.Error = none) (hIty : isAuth rI = false)
    (hres : o0.VerificationResults = []) :
    view (processSignature env v a.sigBlob a.mt a.pn a.tis a.tss a.sv a.pc o0) =
      obsPair (processEG (toInput env v ec.SignerInfo t) o0.VerificationLevel.Enforcement (t.pcaps ec.SignerInfo)) := by
  /- The translated function is a nest of join points (`__do_jp`), one for what follows each `if` that does not
  return: `jT` (from the trust stores on), `jAu` (from the authenticity record on), `jE` (from expiry on), `jP` (plugin
  execution / attribute check). One entered from several places gets its specification once, innermost first
  (`hP`, `hE`, `hT`). `-zeta` keeps them shared, `extract_lets` names them and the values between them by position,
  `clear_value` keeps them closed afterwards. -/
  unfold processSignature
  simp -zeta only [Id.run]
  extract_lets -underBinder o1 o2 o3 caps0 ip0 jT ip1 e1 md e2 pv
  have ho3 : o3 = ⟨some ec, o0.VerificationLevel, [rI]⟩ := by
    simp only [o3, o2, o1, hI, hres, List.nil_append]
  have hrI : (env.verifyIntegrity a.sigBlob a.mt o1).2 = rI := by simp only [o1, hI]
  clear_value o3
  subst ho3
  have hT : ∀ s0 : St, s0.results = [] → ∀ ip : Option VerifyPlugin,
      ip.isSome = (classifyPlugin ec.SignerInfo == .named) → (ip.isSome = true → ip = t.got.1) →
      view (jT () (t.pcaps ec.SignerInfo) ip) =
        obsPair (authStageG (toInput env v ec.SignerInfo t) (t.pcaps ec.SignerInfo) o0.VerificationLevel.Enforcement s0 >>= fun s =>
          expiryStage (toInput env v ec.SignerInfo t) o0.VerificationLevel.Enforcement s >>= fun s =>
          timestampStage (toInput env v ec.SignerInfo t) o0.VerificationLevel.Enforcement s >>= fun s =>
          revocationStageG (toInput env v ec.SignerInfo t) (t.pcaps ec.SignerInfo) o0.VerificationLevel.Enforcement s >>=
          pluginStageG (toInput env v ec.SignerInfo t) (t.pcaps ec.SignerInfo) o0.VerificationLevel.Enforcement) := by
    intro s0 hs0 ip hip hgot
    simp -zeta only [jT, GoLite.deref_some, ← ht.ld]
    extract_lets -underBinder tc err jAu ar1 at1 ar2
    have hm : (if err.isSome = true then jAu () at1 ar1 else jAu () at1 ar2) = jAu () at1 (some t.rA0) := by
      rw [ht.rA0]
      by_cases h : t.ld.2.isSome = true <;> simp only [err, ar1, ar2, tc, h, Bool.false_eq_true, if_true, if_false]
    rw [hm]
    simp -zeta only [jAu, GoLite.deref_some]
    extract_lets -underBinder k1 oA jE ierr jC src arI oI
    have hE : ∀ (e : Option GoLite.Err) (ar : Option ValidationResult) (s1 : St), s1.results = [resOf (t.rA ec.SignerInfo)] →
        view (jE () ⟨some ec, o0.VerificationLevel, [rI, t.rA ec.SignerInfo]⟩ e ar) =
          obsPair (expiryStage (toInput env v ec.SignerInfo t) o0.VerificationLevel.Enforcement s1 >>= fun s =>
            timestampStage (toInput env v ec.SignerInfo t) o0.VerificationLevel.Enforcement s >>= fun s =>
            revocationStageG (toInput env v ec.SignerInfo t) (t.pcaps ec.SignerInfo) o0.VerificationLevel.Enforcement s >>=
            pluginStageG (toInput env v ec.SignerInfo t) (t.pcaps ec.SignerInfo) o0.VerificationLevel.Enforcement) := by
      intro e ar s1 hs1
      simp -zeta only [jE]
      extract_lets -underBinder rE oE rT oT jP rR oR
      have hP : ∀ (rs : List ValidationResult) (s : St), s.results = (t.rA ec.SignerInfo :: rs).map resOf →
          view (jP () ⟨some ec, o0.VerificationLevel, rI :: t.rA ec.SignerInfo :: rs⟩) =
            obsPair (pluginStageG (toInput env v ec.SignerInfo t) (t.pcaps ec.SignerInfo) o0.VerificationLevel.Enforcement s) := by
        intro rs s hs
        have hTV : ((default : List String) ++ List.filter (fun c => !(GoLite.Map.get o0.VerificationLevel.Enforcement trustpolicy.TypeRevocation == trustpolicy.ActionSkip &&
            c == CapabilityRevocationCheckVerifier)) (t.pcaps ec.SignerInfo)) = t.toVerify ec.SignerInfo o0.VerificationLevel.Enforcement := rfl
        simp only [jP, GoLite.forIn_appendUnless, forIn_anyReturnC, pure_bind, hTV, GoLite.len_pos, GoLite.deref_some]
        by_cases hn : classifyPlugin ec.SignerInfo = .named
        · have hipS : ip.isSome = true := by rw [hip, hn]; rfl
          have hipN : ip.isNone = false := by cases ip <;> simp_all
          have hg := hgot hipS
          subst hg
          simp only [hipS, hipN, ← ht.ex, if_true, Bool.false_eq_true, if_false,
            pluginStageG, toInput_pluginAttr, hn, beq_self_eq_true, toVerifyG_eq, toInput_pluginCallError]
          by_cases hemp : (t.toVerify ec.SignerInfo o0.VerificationLevel.Enforcement).isEmpty = true
          · simp [hemp, view, obsPair, hs, GoLite.idPure]
          · simp only [hemp, Bool.not_false, if_true, Bool.false_eq_true, if_false]
            by_cases hex : t.ex.2.isSome = true
            · simp [hex, view, obsPair, hs, GoLite.idPure]
            · simp only [hex, Bool.false_eq_true, if_false]
              exact respView (toInput env v ec.SignerInfo t) t.ex.1 rI _
                ⟨some ec, o0.VerificationLevel, rI :: t.rA ec.SignerInfo :: rs⟩ _ ⟨_, rfl, hs⟩ hIty rfl rfl
                (toVerify_caps _ _ _)
                ⟨resOf (t.rA ec.SignerInfo), by rw [hs]; exact List.mem_cons_self, by rw [resOf, type_rA hc ht]; rfl⟩
                ((source_getVerificationPlugin_refines_model ec.SignerInfo).2.1 hn).1
                (ext_any_eq ec.SignerInfo t.ex.1.ProcessedAttributes)
        · have hipS : ip.isSome = false := by rw [hip]; simpa using hn
          have hipN : ip.isNone = true := by cases ip <;> simp_all
          have hn' : (classifyPlugin ec.SignerInfo == PluginAttr.named) = false := by simpa using hn
          simp only [hipS, hipN, if_true, Bool.false_eq_true, if_false, pluginStageG, toInput_pluginAttr, hn',
            toInput_extAttrs, List.any_map, Function.comp_def]
          by_cases hcr : ((getNonPluginExtendedCriticalAttributes ec.SignerInfo).any fun a => a.Critical) = true
          · simp [hcr, view, obsPair, hs, GoLite.idPure]
          · simp [hcr, view, obsPair, hs, GoLite.idPure]
      clear_value jP
      simp only [rE, oE, rT, oT, rR, oR, List.cons_append, List.nil_append, ← ht.rE, ← ht.rT, ← ht.rR]
      rw [expiryStage_trace hc ht]
      refine view_record _ _ _ _ _ (by simp [hs1]) (fun _ => ?_)
      rw [timestampStage_trace hc ht]
      refine view_record _ _ _ _ _ (by simp [hs1]) (fun _ => ?_)
      rw [revocationStageG_trace hc ht]
      simp only [bne, GoLite.contains, revSkipped]
      refine view_ite _ _ _ _ _ _ (fun _ => ?_) (fun _ => ?_)
      · exact view_record _ _ _ _ _ (by simp [hs1]) (fun _ => hP _ _ (by simp [hs1]))
      · exact hP _ _ (by simp [hs1])
    clear_value jE
    rw [authStageG_trace hc ht, bind_assoc]
    refine view_record _ _ _ _ _ (by simp [oA, hs0]) (fun hA0 => ?_)
    have hier : ierr = t.ierr := by simp only [ierr, oA, GoLite.deref_some, ht.ierr]
    -- `k1` is the ghost position `authenticityResult_at`: the write through the pointer lands on the result just appended
    have hk1 : k1 = 1 := rfl
    have h01 : (1 : Int) ≥ 0 := by decide
    simp only [hier, hk1, h01, if_true, jC, oI, arI, src, oA, GoLite.deref_some, GoLite.contains, List.cons_append, List.nil_append, hs0, GoLite.setAt]
    by_cases hcon : (t.pcaps ec.SignerInfo).contains CapabilityTrustedIdentityVerifier = true
    · have hrA : t.rA ec.SignerInfo = t.rA0 := by
        simp only [Trace.rA, hcon, Bool.not_true, Bool.false_and, Bool.false_eq_true, if_false]
      simp only [hcon, Bool.not_true, Bool.false_and, Bool.false_eq_true, if_false]
      rw [← hrA, ok_bind]
      exact hE _ _ _ rfl
    · by_cases hie : t.ierr.isSome = true
      · have hrA : t.rA ec.SignerInfo = { t.rA0 with Error := t.ierr } := by
          simp only [Trace.rA, hcon, hie, Bool.not_false, Bool.and_self, if_true]
        have hty : t.rA0.Type = Facts.typeAuthenticity := congrArg Result.type (resOf_rA0 hc ht)
        have hfa : failAuthenticity [resOf t.rA0] = [resOf (t.rA ec.SignerInfo)] := by
          simp [failAuthenticity, hty, hrA, resOf, hie]
        have hcr : isCritical { type := (resOf t.rA0).type, action := (resOf t.rA0).action, failed := true } =
            isCriticalFailure (t.rA ec.SignerInfo) := by
          rw [isCriticalFailure_eq, hrA]; simp [resOf, hie]
        have hset : [rI, t.rA0].set (Int.toNat 1) (t.rA ec.SignerInfo) = [rI, t.rA ec.SignerInfo] := rfl
        simp only [hcon, hie, Bool.not_false, Bool.and_self, if_true, hfa, hcr, ← hrA, hset]
        exact view_exit _ _ _ _ _ _ (fun _ => hie) rfl (fun _ => hE _ _ _ (by rfl))
      · have hrA : t.rA ec.SignerInfo = t.rA0 := by
          simp only [Trace.rA, hie, Bool.and_false, Bool.false_eq_true, if_false]
        simp only [hcon, hie, hA0, Bool.not_false, Bool.true_and, Bool.false_eq_true, if_false, if_true]
        rw [← hrA, ok_bind]
        exact hE _ _ _ rfl
  clear_value jT
  -- the model's discovery unfolded next to the source's: each test is decided on both sides at once
  simp only [hrI, hIok, Option.isSome_none, Bool.false_eq_true, if_false, ip1, e1, md, e2, pv, GoLite.deref_some,
    ← ht.name, ← ht.minVer, ← ht.got, ← ht.md, GoLite.forIn_appendIf, pure_bind, GoLite.len_beq_zero,
    processEG, discoverG, bind_assoc, toInput_pluginAttr, toInput_minVerAttr, toInput_pluginState, toInput_pluginVersion]
  have hgp := source_getVerificationPlugin_refines_model ec.SignerInfo
  have hgm := source_getVerificationPluginMinVersion_refines_model env.isValidSemver ec.SignerInfo
  cases hpa : classifyPlugin ec.SignerInfo with
  | absent =>
    have hn : t.name = "" := by rw [ht.name, hgp.1 hpa]
    have hp0 : t.pcaps ec.SignerInfo = [] := by simp [Trace.pcaps, hpa]
    rw [hgp.1 hpa, hn]
    simp +decide only [↓reduceIte, ok_bind]
    have := hT {} rfl none (by rw [hpa]; rfl) (fun h => by cases h)
    rw [hp0] at this ⊢
    exact this
  | notCritical | notString | blank =>
    obtain ⟨_, h2, h3⟩ := hgp.2.2 (by rw [hpa]; decide) (by rw [hpa]; decide)
    have h3' : ((getVerificationPlugin ec.SignerInfo).2 != some errExtendedAttributeNotExist) = true := by
      simpa [bne_iff_ne] using h3
    simp +decide only [h2, h3', ↓reduceIte]
    exact view_stop _ _ _ _ h2 rfl
  | named =>
    obtain ⟨h1, at1, hat1, hat2⟩ := hgp.2.1 hpa
    have hname : (t.name != "") = true := by
      rw [ht.name, bne_iff_ne]
      intro he
      have := hpa
      simp only [classifyPlugin, hat1, hat2, he, show GoLite.trimSpace "" = "" by decide] at this
      split at this <;> cases this
    have hpcs : (caps0 ++ List.filter (fun a => a == CapabilityRevocationCheckVerifier || a == CapabilityTrustedIdentityVerifier)
        t.md.1.Capabilities) = t.pcaps ec.SignerInfo := by
      simp only [Trace.pcaps, hpa, if_true, verifCaps]
      rfl
    simp +decide only [h1, hname, hpcs, Option.isSome_none, ↓reduceIte]
    rw [minVer_error, apply_ite view]
    refine ite_cases (fun h => by simp only [h, ↓reduceIte]; exact view_stop _ _ _ _ rfl rfl) (fun hmv => ?_)
    simp only [hmv]
    rw [apply_ite view]
    refine ite_cases (fun h => by simp +decide only [h, ↓reduceIte]; exact view_stop _ _ _ _ rfl rfl) (fun hm => ?_)
    rw [apply_ite view]
    refine ite_cases (fun h => by simp +decide only [h, hm, ↓reduceIte]; exact view_stop _ _ _ _ rfl rfl) (fun hg => ?_)
    rw [apply_ite view]
    refine ite_cases (fun h => by simp +decide only [h, hm, hg, ↓reduceIte]; exact view_stop _ _ _ _ h rfl) (fun hmd => ?_)
    rw [apply_ite view]
    refine ite_cases (fun h => by simp +decide only [h, hm, hg, hmd, ↓reduceIte]; exact view_stop _ _ _ _ rfl rfl)
      (fun hvs => ?_)
    have hvs' : env.isValidSemver t.md.1.Version = true := by simpa using hvs
    rw [apply_ite view]
    refine ite_cases (fun hrq => ?_) (fun hrq => ?_)
    · -- a minimum version is demanded (without one every valid version will do)
      have hval : classifyMinVer env.isValidSemver ec.SignerInfo = .valid := by
        cases h : classifyMinVer env.isValidSemver ec.SignerInfo with
        | valid => rfl
        | absent => rw [ht.minVer, hgm.1 h, hc.noMin _ hvs'] at hrq; cases hrq
        | _ => simp [h] at hmv
      simp +decide only [hval, hm, hg, hmd, hvs, hrq, ↓reduceIte]
      exact view_stop _ _ _ _ rfl rfl
    have hok : (PluginVersion.ok == PluginVersion.tooOld) = false := by decide
    rw [apply_ite view]
    refine ite_cases (fun h => by simp +decide only [h, hm, hg, hmd, hvs, hrq, hok, Bool.and_false, ↓reduceIte]; exact view_stop _ _ _ _ rfl rfl)
      (fun hemp => ?_)
    simp +decide only [hm, hg, hmd, hvs, hrq, hemp, hok, Bool.and_false, ↓reduceIte, ok_bind]
    have hipS : t.got.1.isSome = true := by
      cases hpm : v.pluginManager with
      | none => simp [hpm] at hm
      | some m =>
        rw [ht.got, hpm, GoLite.deref_some] at hg ⊢
        exact hc.got m _ hpm (by simpa using hg)
    exact hT _ rfl _ (by rw [hpa, hipS]; rfl) (fun _ => rfl)

theorem source_processSignature_refines_model_named (env : Env) (v : Verifier) (a : Args) (o0 : Outcome)
    (ec : EnvelopeContent) (rI : ValidationResult) (t : Trace)
    (hc : Contracts env v) (ht : TraceOK env v a o0 ec rI t)
    (hI : env.verifyIntegrity a.sigBlob a.mt o0 = (some ec, rI)) (hIok : rI.Error = none) (hIty : isAuth rI = false)
    (hres : o0.VerificationResults = [])
    (hpa : classifyPlugin ec.SignerInfo = .named) :
    view (processSignature env v a.sigBlob a.mt a.pn a.tis a.tss a.sv a.pc o0) =
      obsPair (processEG (toInput env v ec.SignerInfo t) o0.VerificationLevel.Enforcement (t.pcaps ec.SignerInfo)) :=
  source_processSignature_refines_model_anycaps env v a o0 ec rI t hc ht hI hIok hIty hres

theorem source_processSignature_refines_model_partial (env : Env) (v : Verifier) (a : Args) (o0 : Outcome)
    (ec : EnvelopeContent) (rI : ValidationResult) (t : Trace)
    (hc : Contracts env v) (ht : TraceOK env v a o0 ec rI t)
    (hI : env.verifyIntegrity a.sigBlob a.mt o0 = (some ec, rI)) (hIok : rI.Error = none) (hIty : isAuth rI = false)
    (hres : o0.VerificationResults = [])
    (hnp : classifyPlugin ec.SignerInfo ≠ .named) :
    view (processSignature env v a.sigBlob a.mt a.pn a.tis a.tss a.sv a.pc o0) =
      obsPair (processEG (toInput env v ec.SignerInfo t) o0.VerificationLevel.Enforcement (t.pcaps ec.SignerInfo)) :=
  source_processSignature_refines_model_anycaps env v a o0 ec rI t hc ht hI hIok hIty hres

/-- TIE (translated source, no plugin named), in closed form: for EVERY verifier, environment of callees, argument
list and level, a call of the translated `processSignature` on a signature that passed integrity and names no
(well-formed) verification plugin is accepted exactly when the model accepts the scenario the oracles' answers
amount to, and records exactly the model's results after the integrity result -/
theorem source_processSignature_refines_model_no_plugin (env : Env) (v : Verifier) (a : Args) (o0 : Outcome)
    (ec : EnvelopeContent) (rI : ValidationResult)
    (hc : Contracts env v)
    (hI : env.verifyIntegrity a.sigBlob a.mt o0 = (some ec, rI)) (hIok : rI.Error = none) (hIty : isAuth rI = false)
    (hres : o0.VerificationResults = [])
    (hnp : classifyPlugin ec.SignerInfo ≠ .named) :
    view (processSignature env v a.sigBlob a.mt a.pn a.tis a.tss a.sv a.pc o0) =
      obsPair (processEG (toInput env v ec.SignerInfo (traceOf env v a o0 ec rI)) o0.VerificationLevel.Enforcement
        ((traceOf env v a o0 ec rI).pcaps ec.SignerInfo)) :=
  source_processSignature_refines_model_partial env v a o0 ec rI _ hc (traceOf_ok env v a o0 ec rI) hI hIok hIty hres hnp

/-- the same against the model `process` itself, for plugins that list each verification capability at most once,
trusted identity first (`NormalCaps`: the shapes the model's two capability flags express) -/
theorem source_processSignature_refines_model (env : Env) (v : Verifier) (a : Args) (o0 : Outcome)
    (ec : EnvelopeContent) (rI : ValidationResult) (t : Trace)
    (hc : Contracts env v) (ht : TraceOK env v a o0 ec rI t)
    (hI : env.verifyIntegrity a.sigBlob a.mt o0 = (some ec, rI)) (hIok : rI.Error = none) (hIty : isAuth rI = false)
    (hres : o0.VerificationResults = [])
    (hcaps : NormalCaps (verifCaps t.md.1)) :
    view (processSignature env v a.sigBlob a.mt a.pn a.tis a.tss a.sv a.pc o0) =
      modelView (toInput env v ec.SignerInfo t) o0.VerificationLevel.Enforcement := by
  rw [modelView_eq, ← processEG_capsOf, capsOf_toInput env v ec.SignerInfo t hcaps]
  exact source_processSignature_refines_model_anycaps env v a o0 ec rI t hc ht hI hIok hIty hres

/-- the same in closed form (the trace is the one every call has) -/
theorem source_processSignature_refines_model_closed (env : Env) (v : Verifier) (a : Args) (o0 : Outcome)
    (ec : EnvelopeContent) (rI : ValidationResult)
    (hc : Contracts env v)
    (hI : env.verifyIntegrity a.sigBlob a.mt o0 = (some ec, rI)) (hIok : rI.Error = none) (hIty : isAuth rI = false)
    (hres : o0.VerificationResults = []) :
    view (processSignature env v a.sigBlob a.mt a.pn a.tis a.tss a.sv a.pc o0) =
      obsPair (processEG (toInput env v ec.SignerInfo (traceOf env v a o0 ec rI)) o0.VerificationLevel.Enforcement
        ((traceOf env v a o0 ec rI).pcaps ec.SignerInfo)) :=
  source_processSignature_refines_model_anycaps env v a o0 ec rI _ hc (traceOf_ok env v a o0 ec rI) hI hIok hIty hres

/-! non-vacuity: the translated functions run on concrete oracles -/
section Examples
def ec0 : EnvelopeContent := { SignerInfo := { SignedAttributes := { ExtendedAttributes := [] } } }
def env0 (expiryErr : Option GoLite.Err) : Env :=
  { verifyIntegrity := fun _ _ _ => (some ec0, ⟨"integrity", "enforce", none⟩),
    isValidSemver := fun _ => true,
    isRequiredVerificationPluginVer := fun _ _ => true,
    loadX509TrustStores := fun _ _ _ _ => ([], none),
    verifyAuthenticity := fun _ o => ⟨trustpolicy.TypeAuthenticity, GoLite.Map.get o.VerificationLevel.Enforcement trustpolicy.TypeAuthenticity, none⟩,
    verifyX509TrustedIdentities := fun _ _ _ => none,
    verifyExpiry := fun o => ⟨trustpolicy.TypeExpiry, GoLite.Map.get o.VerificationLevel.Enforcement trustpolicy.TypeExpiry, expiryErr⟩,
    verifyAuthenticTimestamp := fun _ _ _ _ _ o => ⟨trustpolicy.TypeAuthenticTimestamp, GoLite.Map.get o.VerificationLevel.Enforcement trustpolicy.TypeAuthenticTimestamp, none⟩,
    executePlugin := fun _ _ _ _ _ => (default, none) }
def v0 : Verifier :=
  { pluginManager := none,
    verifyRevocation := fun o => ⟨trustpolicy.TypeRevocation, GoLite.Map.get o.VerificationLevel.Enforcement trustpolicy.TypeRevocation, none⟩,
    trustStore := 0, revocationTimestampingValidator := 0 }
def out0 (expiryAction : String) : Outcome :=
  { EnvelopeContent := none,
    VerificationLevel := { Name := "custom", Enforcement := [("integrity", "enforce"), ("authenticity", "enforce"),
      ("authenticTimestamp", "enforce"), ("expiry", expiryAction), ("revocation", "enforce")] },
    VerificationResults := [] }

/-- an expired signature under `expiry: log` is accepted, the failure recorded; under `expiry: enforce` it is rejected
and the later validations are not reached -/
example : view (processSignature (env0 (some ⟨"expired"⟩)) v0 ⟨0⟩ "" "p" [] [] default [] (out0 "log")) =
    (true, [⟨"authenticity", "enforce", false⟩, ⟨"expiry", "log", true⟩, ⟨"authenticTimestamp", "enforce", false⟩,
            ⟨"revocation", "enforce", false⟩]) := by decide +kernel
example : view (processSignature (env0 (some ⟨"expired"⟩)) v0 ⟨0⟩ "" "p" [] [] default [] (out0 "enforce")) =
    (false, [⟨"authenticity", "enforce", false⟩, ⟨"expiry", "enforce", true⟩]) := by decide +kernel
end Examples

/-! non-vacuity of the plugin-named path: the translated function runs a plugin that owns the identity check -/
section ExamplesNamed
def ec1 : EnvelopeContent := { SignerInfo := { SignedAttributes := { ExtendedAttributes :=
  [{ Key := .str "io.cncf.notary.verificationPlugin", Critical := true, Value := .str "p" }] } } }
def plugin1 : VerifyPlugin := { GetMetadata := fun _ => ({ Version := "1.0.0", Capabilities := ["SIGNATURE_GENERATOR.RAW", CapabilityTrustedIdentityVerifier] }, none) }
def v1 : Verifier := { v0 with pluginManager := some { Get := fun _ => (some plugin1, none) } }
def env1 (identityOk : Bool) : Env :=
  { env0 none with
    verifyIntegrity := fun _ _ _ => (some ec1, ⟨"integrity", "enforce", none⟩),
    -- the native identity check would refuse: it must not be consulted, the plugin owns the check
    verifyX509TrustedIdentities := fun _ _ _ => some ⟨"native identity check consulted"⟩,
    executePlugin := fun _ _ _ _ _ => ({ VerificationResults := [(CapabilityTrustedIdentityVerifier, some ⟨identityOk, "r"⟩)], ProcessedAttributes := [] }, none) }

example : view (processSignature (env1 true) v1 ⟨0⟩ "" "p" [] [] default [] (out0 "enforce")) =
    (true, [⟨"authenticity", "enforce", false⟩, ⟨"expiry", "enforce", false⟩, ⟨"authenticTimestamp", "enforce", false⟩,
            ⟨"revocation", "enforce", false⟩]) := by decide +kernel
/-- the plugin's refusal is written into the authenticity result recorded FIRST (through the pointer), and rejects -/
example : view (processSignature (env1 false) v1 ⟨0⟩ "" "p" [] [] default [] (out0 "enforce")) =
    (false, [⟨"authenticity", "enforce", true⟩, ⟨"expiry", "enforce", false⟩, ⟨"authenticTimestamp", "enforce", false⟩,
            ⟨"revocation", "enforce", false⟩]) := by decide +kernel
end ExamplesNamed

end Process
end NotationModel.C02.Tie
