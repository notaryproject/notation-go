/-
C01 (picked up by `check` as `Props/C01_*.lean`): the tie of the
translated `(*verifier).Verify` (verifier/verifier.go, `Generated/SrcVerifyOCI.lean`, regenerated on
every run) to the model's `core` for the OCI entry point. Oracles (`Src/TypesVerify.lean`): the
policy document's statement selection, `processSignature` (tied on its own in Props/C02_Process.lean),
`json.Unmarshal` of the payload; `verifyUserMetadata` and `GetVerificationLevel` are the translated ones.
-/
import NotationModel.Props.C01
import NotationModel.Generated.SrcVerifyOCI


namespace NotationModel.C01.Tie
open NotationModel.Src NotationModel.Src.verifier

/-- the model's descriptor of an OCI descriptor -/
def descOfD (d : ocispec.Descriptor) : Desc :=
  { mediaType := d.MediaType, digest := d.Digest, size := d.Size, annotations := d.Annotations }

/-- the outcome `Verify` creates before anything is looked at -/
def outcome0 (signature : «notation».SigBlob) (lvl : Option trustpolicy.VerificationLevel) : verifier.«notation».VerificationOutcome :=
  { (default : verifier.«notation».VerificationOutcome) with RawSignature := signature, VerificationLevel := lvl }

/-- the scenario of the model that a call of `Verify` under an applicable statement amounts to: what
`processSignature` answers (the model's `parseOk`, `integrityOk`, `payloadTypeOk` and `rest` together: all reject alike),
what the payload decodes to, the descriptor under verification and the required metadata. (so the integrity branch of `core` is
not entered here: it is tied through `verifyIntegrity`, Props/C01_Integrity.lean) -/
def toInputV (env : EnvV) (desc : ocispec.Descriptor) (signature : «notation».SigBlob) (opts : OptsV) (tp : TrustPolicyV) : Input :=
  let lvl := (trustpolicy.GetVerificationLevel tp.SignatureVerification).1
  let ps := env.processSignature signature opts.SignatureMediaType tp.Name tp.TrustedIdentities tp.TrustStores
    tp.SignatureVerification opts.PluginConfig (outcome0 signature lvl)
  let um := env.unmarshal ps.2.EnvelopeContent.Payload.Content default
  { kind := .oci, skip := reflect.DeepEqual lvl trustpolicy.LevelSkip,
    parseOk := true, integrityOk := true, payloadTypeOk := true, rest := ps.1.isNone,
    decoded := if um.1.isNone then some (descOf um.2) else none,
    artifact := descOfD desc, hashSupported := true, required := opts.UserMetadata,
    reader := "", viaRegistry := false, refDigest := none, resolveOk := true, refForm := "", plugin := false,
    blobLen := 0, boundary := 0 }

/-- what the tie compares: was an error returned, and does the returned outcome carry one -/
def viewV (r : Option verifier.«notation».VerificationOutcome × Option GoLite.Err) : Bool × Option Bool :=
  (r.2.isNone, r.1.map (fun o => o.Error.isSome))

theorem defaultOutcomeError : (default : verifier.«notation».VerificationOutcome).Error = none := rfl

/-- the translator's `{ default with .. }` arrives as the explicit record: fold it, to meet `toInputV` -/
theorem outcome0_eq (s : «notation».SigBlob) (l : Option trustpolicy.VerificationLevel) :
    ({ RawSignature := s, VerificationLevel := l,
       EnvelopeContent := (default : verifier.«notation».VerificationOutcome).EnvelopeContent,
       Error := (default : verifier.«notation».VerificationOutcome).Error } : verifier.«notation».VerificationOutcome) = outcome0 s l := rfl

theorem contentEqual_eq (p : envelope.Payload) (d : ocispec.Descriptor) :
    contentEqual p.TargetArtifact d = ociEqual (descOf p) (descOfD d) := rfl

/-- TIE (translated source): `(*verifier).Verify`. Without a policy document or an applicable statement it returns an
error and no outcome; under an applicable statement, for EVERY behaviour of `processSignature`, every decoding of the
payload, every descriptor and every required-metadata map, it returns no error exactly when the model's `core` accepts
the scenario, and the outcome it returns carries an error exactly when the model says so (the mismatch with the
artifact is not overwritten by satisfied metadata, metadata is only looked at when some is required) -/
theorem source_Verify_refines_model (env : EnvV) (v : VerifierV) (desc : ocispec.Descriptor)
    (signature : «notation».SigBlob) (opts : OptsV)
    -- processSignature reports through its return value and the validation results, never through `outcome.Error`
    -- (the translated processSignature of Generated/SrcProcess.lean works on an outcome without that field)
    (hErr : ∀ a b c d e f g o, (env.processSignature a b c d e f g o).2.Error = o.Error) :
    match v.ociTrustPolicyDoc with
    | none => viewV (Verify env v desc signature opts) = (false, none)
    | some d =>
      if (d.GetApplicableTrustPolicy opts.ArtifactReference).2.isSome then
        viewV (Verify env v desc signature opts) = (false, none)
      else
        viewV (Verify env v desc signature opts) =
          ((core (toInputV env desc signature opts (d.GetApplicableTrustPolicy opts.ArtifactReference).1)).accepted,
           (core (toInputV env desc signature opts (d.GetApplicableTrustPolicy opts.ArtifactReference).1)).outcomeError) := by
  unfold Verify
  simp only [Id.run]
  cases hd : v.ociTrustPolicyDoc with
  | none => simp [viewV, GoLite.idPure]
  | some d =>
    simp only [Option.isNone_some, Bool.false_eq_true, if_false, GoLite.deref, Option.getD_some]
    cases hq : d.GetApplicableTrustPolicy opts.ArtifactReference with
    | mk tp perr =>
      simp only [hq]
      by_cases hp : perr.isSome = true
      · simp [hp, viewV, GoLite.idPure]
      · simp only [hp, Bool.false_eq_true, if_false, outcome0_eq]
        by_cases hs : reflect.DeepEqual (trustpolicy.GetVerificationLevel tp.SignatureVerification).1 trustpolicy.LevelSkip = true
        · rw [core_skip _ (by simpa [toInputV] using hs)]
          simp [hs, viewV, GoLite.idPure, outcome0, defaultOutcomeError]
        · simp only [hs, Bool.false_eq_true, if_false]
          have hs' : (toInputV env desc signature opts tp).skip = false := by simpa [toInputV] using hs
          cases hps : env.processSignature signature opts.SignatureMediaType tp.Name tp.TrustedIdentities tp.TrustStores
            tp.SignatureVerification opts.PluginConfig (outcome0 signature (trustpolicy.GetVerificationLevel tp.SignatureVerification).1) with
          | mk pe o1 =>
            simp only [hps]
            cases pe with
            | some e =>
              simp [viewV, GoLite.idPure, core, toInputV, hps, hs, reject]
            | none =>
              simp only [Option.isSome_none, Bool.false_eq_true, if_false]
              cases hum : env.unmarshal o1.EnvelopeContent.Payload.Content default with
              | mk ue pl =>
                simp only [hum]
                cases ue with
                | some e =>
                  simp [viewV, GoLite.idPure, core, toInputV, hps, hum, hs, reject]
                | none =>
                  simp only [Option.isSome_none, Bool.false_eq_true, if_false]
                  -- the model is left with its late checks, the function with its late writes of `outcome.Error`
                  rw [core_decoded _ (descOf pl) hs' rfl rfl rfl (by simp [toInputV, hps]) (by simp [toInputV, hps, hum])
                    (fun h => rfl)]
                  have ho1 : o1.Error = none := by
                    simpa [hErr, outcome0, defaultOutcomeError] using (congrArg (·.2.Error) hps).symm
                  have h3' := source_verifyUserMetadata_isSome pl opts.UserMetadata
                  simp only [GoLite.len_pos, contentEqual_eq]
                  by_cases h1 : ociEqual (descOf pl) (descOfD desc) = true <;>
                  by_cases h2 : opts.UserMetadata.isEmpty = true <;>
                  by_cases h3 : metadataOk (descOf pl) opts.UserMetadata = true <;>
                  simp [h1, h2, h3, h3', ho1, viewV, GoLite.idPure, lateError, okObs, reject, toInputV, GoLite.errorf]

/-! non-vacuity: the translated `Verify` on concrete oracles -/
section Examples
def tp0 : TrustPolicyV := ⟨"p", ["*"], ["ca:s"], ⟨"strict", []⟩⟩
def v0 : VerifierV := { ociTrustPolicyDoc := some { GetApplicableTrustPolicy := fun _ => (tp0, none) } }
def art : ocispec.Descriptor := { MediaType := "m", Digest := "sha256:a", Size := 3, Annotations := [] }
def env0 (signed : ocispec.Descriptor) : EnvV :=
  { processSignature := fun _ _ _ _ _ _ _ o => (none, o),
    unmarshal := fun _ _ => (none, { TargetArtifact := signed }) }
def opts0 (um : GoLite.Map String String) : OptsV := { ArtifactReference := "r@sha256:a", SignatureMediaType := "jws", PluginConfig := [], UserMetadata := um }

/-- the signed target is the artifact and carries the required pair: accepted -/
example : (Verify (env0 { art with Annotations := [("team", "red")] }) v0 art ⟨0⟩ (opts0 [("team", "red")])).2.isNone = true := by decide +kernel
/-- a satisfied metadata requirement does not make up for another artifact's signature -/
example : (Verify (env0 { art with Digest := "sha256:b", Annotations := [("team", "red")] }) v0 art ⟨0⟩ (opts0 [("team", "red")])).2.isSome = true := by decide +kernel
/-- a missing required pair is refused although the target is the artifact -/
example : (Verify (env0 art) v0 art ⟨0⟩ (opts0 [("team", "red")])).2.isSome = true := by decide +kernel
/-- no policy document: an error and no outcome -/
example : (Verify (env0 art) { ociTrustPolicyDoc := none } art ⟨0⟩ (opts0 [])).1.isNone = true := by decide +kernel
end Examples

end NotationModel.C01.Tie
