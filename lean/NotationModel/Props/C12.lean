/-
C12 - No untrusted input or unusual configuration crashes the library; verification errors are
reported consistently. Property theorems only; the model is in `Model/C12.lean`.

Partial by nature (DESIGN.md C12): the theorems cover notation-go's own guard logic and the
(outcome, error) discipline of the verification entry points for every configuration; that
third-party decoders never panic on arbitrary bytes is sampled by the harness, not proved.
-/
import NotationModel.Model.C12

namespace NotationModel.C12

/-- **fact obligation**: every nil guard the model relies on is present in the current source -/
theorem guards_present : sourceGuards.all = true := by decide +kernel

/-- The three ways `verifier.Verify` / `VerifyBlob` and the `notation` wrappers return; a panic is none of them. The index:
a statement had been selected, which excludes an error without outcome. -/
inductive Returned : Bool → Obs → Prop
  | noOutcome : Returned false failNoOutcome
  | ok (sel c : Bool) : Returned sel (okWith c)
  | failed (sel c : Bool) : Returned sel (failWith c)

theorem Returned.weaken {sel : Bool} {o : Obs} (h : Returned sel o) : Returned false o := by
  cases h <;> constructor

theorem Returned.ite_failed {sel : Bool} {o : Obs} (h : Returned sel o) (c : Prop) [Decidable c] :
    Returned sel (if c then failWith true else o) := by
  split
  · exact .failed _ _
  · exact h

theorem verifyWithStmt_returned (g : Guards) (hMgr : g.pluginManagerNil = true) (st : Stmt) (hst : st ≠ .missing)
    (m : Bool) (s : Sig) : Returned (st == .skip || st == .enforce) (verifyWithStmt g st m s) := by
  cases st
  · exact absurd rfl hst
  · exact .noOutcome
  · exact .ok _ _
  · cases s
    · exact .ok _ _
    · exact .failed _ _
    · cases m
      · simp only [verifyWithStmt, hMgr, if_true, Bool.false_eq_true, if_false]
        exact .failed _ _
      · exact .failed _ _

theorem vVerify_returned (g : Guards) (hDoc : g.vVerifyDocNil = true) (hMgr : g.pluginManagerNil = true) (i : Input) :
    Returned (i.oci == .skip || i.oci == .enforce) (vVerify g i) := by
  unfold vVerify
  by_cases ho : i.oci = .missing
  · simp only [ho, hDoc, if_true, beq_self_eq_true]
    exact .noOutcome
  · rw [if_neg (by simpa using ho)]
    exact (verifyWithStmt_returned g hMgr _ ho _ _).ite_failed _

theorem vVerifyBlob_returned (g : Guards) (hBlobDoc : g.vVerifyBlobDocNil = true) (hMgr : g.pluginManagerNil = true)
    (i : Input) : Returned (blobStmt i == .skip || blobStmt i == .enforce) (vVerifyBlob g i) := by
  unfold vVerifyBlob
  by_cases hb : i.blob = .missing
  · have : blobStmt i = .missing := by simp [blobStmt, hb]
    simp only [hb, hBlobDoc, this, if_true, beq_self_eq_true]
    exact .noOutcome
  · have : blobStmt i ≠ .missing := by
      unfold blobStmt
      split
      · exact Stmt.noConfusion
      · exact hb
    rw [if_neg (by simpa using hb)]
    exact (verifyWithStmt_returned g hMgr _ this _ _).ite_failed _

/-- `nVerifyOutcomeNil` is not needed: an enforcing statement always yields an outcome -/
theorem nVerify_returned (g : Guards) (hSkipDoc : g.skipVerifyDocNil = true) (hDoc : g.vVerifyDocNil = true)
    (hMgr : g.pluginManagerNil = true) (i : Input) : Returned false (nVerify g i) := by
  have hv := vVerify_returned g hDoc hMgr i
  unfold nVerify skipVerify
  cases ho : i.oci
  · simp only [hSkipDoc, if_true]
    exact .noOutcome
  · exact .noOutcome
  · exact .ok _ _
  · rw [ho] at hv
    generalize vVerify g i = o at hv
    cases hv
    · exact .ok _ _
    · exact .noOutcome

theorem nVerifyBlob_returned (g : Guards) (hContent : g.nVerifyBlobContentNil = true) (hBlobDoc : g.vVerifyBlobDocNil = true)
    (hMgr : g.pluginManagerNil = true) (i : Input) : Returned false (nVerifyBlob g i) := by
  have hv := (vVerifyBlob_returned g hBlobDoc hMgr i).weaken
  unfold nVerifyBlob
  generalize vVerifyBlob g i = o at hv
  cases hv with
  | noOutcome => exact .noOutcome
  | failed => exact .noOutcome
  | ok _ c =>
    cases c
    · simp only [okWith, hContent]
      exact .ok _ _
    · exact .ok _ _

theorem holds_of_returned (i : Input) {sel : Bool} {o : Obs} (h : Returned sel o)
    (hs : policySelected i = true → sel = true) : Holds i o = true := by
  cases h <;> simp_all [Holds, clauses, Clauses.holds, failNoOutcome, okWith, failWith]

/-- The verifier's entry points and the wrappers are `Returned`; the others answer with a plain record and are exempt from
the two clauses about outcomes. -/
theorem holds_of_guards (g : Guards) (hg : g.all = true) (i : Input) : Holds i (runWith g i) = true := by
  simp only [Guards.all, Bool.and_eq_true] at hg
  obtain ⟨⟨⟨⟨⟨⟨⟨⟨⟨⟨hBlobVerifier, hBlobReader⟩, hContent⟩, hVerifier⟩, hRepo⟩, hOutcome⟩, hMetadata⟩, hSkipDoc⟩,
    hDoc⟩, hBlobDoc⟩, hMgr⟩ := hg
  unfold runWith
  cases hf : i.fuzz
  · cases he : i.entry <;> simp only [Bool.false_eq_true, if_false]
    case vVerify => exact holds_of_returned i (vVerify_returned g hDoc hMgr i) (by simp [policySelected, he])
    case vVerifyBlob => exact holds_of_returned i (vVerifyBlob_returned g hBlobDoc hMgr i) (by simp [policySelected, he])
    case vVerifyBlobGenError =>
      exact holds_of_returned i ((vVerifyBlob_returned g hBlobDoc hMgr i).ite_failed _) (by simp [policySelected, he])
    case nVerify => exact holds_of_returned i (nVerify_returned g hSkipDoc hDoc hMgr i) (by simp [policySelected, he])
    case nVerifyBlob => exact holds_of_returned i (nVerifyBlob_returned g hContent hBlobDoc hMgr i) (by simp [policySelected, he])
    case nilArgs =>
      have : nilArgs g = failNoOutcome := by simp [nilArgs, hBlobVerifier, hBlobReader, hVerifier, hRepo]
      rw [this]
      exact holds_of_returned i .noOutcome (by simp [policySelected, he])
    case userMetadata =>
      have hv := (vVerify_returned g hDoc hMgr i).weaken
      unfold userMetadata
      generalize vVerify g i = o at hv
      rcases hv with _ | ⟨_, _ | _⟩ | ⟨_, _ | _⟩ <;>
        simp [Holds, clauses, Clauses.holds, he, policySelected, failNoOutcome, failWith, okWith, hMetadata]
    case skipVerify =>
      cases ho : i.oci <;>
        simp [Holds, clauses, Clauses.holds, he, policySelected, skipVerify, ho, hSkipDoc, failNoOutcome, okWith]
    case hostileStore =>
      cases hw : withinCap i <;> simp [Holds, clauses, Clauses.holds, he, policySelected, hostile, hw]
    all_goals simp [Holds, clauses, Clauses.holds, he, policySelected, signingKeys]
  · simp [Holds, clauses, Clauses.holds, hf]

/-- **C12 (modelled part)**: every clause of `Holds` is true of the model's behaviour -/
theorem model_holds (i : Input) : Holds i (run i) = true := holds_of_guards _ guards_present i

/-- **no_panic**: with all guards present no entry point panics, for every configuration
(OCI-only, blob-only, both, skip / no-match statements, nil plugin manager) and every signature kind -/
theorem no_panic_of_guards (g : Guards) (hg : g.all = true) (i : Input) : (runWith g i).panicked = false := by
  simpa using Clauses.holds_at (holds_of_guards g hg i) 0 "returns_normally_never_panics" rfl

theorem no_panic (i : Input) : (run i).panicked = false := no_panic_of_guards _ guards_present i

/-- guards are necessary: for seven of them a configuration panics without it (configurations the repository's own
suite never exercises); `nVerifyOutcomeNil` is never reached by the model (`nVerify_returned`) -/
theorem guards_necessary :
    let all : Guards := ⟨true, true, true, true, true, true, true, true, true, true, true⟩
    (runWith { all with skipVerifyDocNil := false }
      { entry := .nVerify, oci := .missing, blob := .enforce, manager := true, sig := .valid, fuzz := false, label := "", data := "" }).panicked = true ∧
    (runWith { all with nVerifyBlobContentNil := false }
      { entry := .nVerifyBlob, oci := .missing, blob := .skip, manager := true, sig := .valid, fuzz := false, label := "", data := "" }).panicked = true ∧
    (runWith { all with vVerifyDocNil := false }
      { entry := .vVerify, oci := .missing, blob := .enforce, manager := true, sig := .valid, fuzz := false, label := "", data := "" }).panicked = true ∧
    (runWith { all with vVerifyBlobDocNil := false }
      { entry := .vVerifyBlob, oci := .enforce, blob := .missing, manager := true, sig := .valid, fuzz := false, label := "", data := "" }).panicked = true ∧
    (runWith { all with pluginManagerNil := false }
      { entry := .vVerify, oci := .enforce, blob := .missing, manager := false, sig := .demandsPlugin, fuzz := false, label := "", data := "" }).panicked = true ∧
    (runWith { all with userMetadataContentNil := false }
      { entry := .userMetadata, oci := .skip, blob := .missing, manager := true, sig := .valid, fuzz := false, label := "", data := "" }).panicked = true ∧
    (runWith { all with nVerifyVerifierNil := false }
      { entry := .nilArgs, oci := .enforce, blob := .enforce, manager := true, sig := .valid, fuzz := false, label := "", data := "" }).panicked = true := by
  decide +kernel

/-- **err_consistency**, verifier level: no error means an outcome without error; a failure after
policy selection comes with an outcome whose error is set -/
theorem err_consistency (i : Input) (hf : i.fuzz = false)
    (he : i.entry = .vVerify ∨ i.entry = .vVerifyBlob ∨ i.entry = .vVerifyBlobGenError) :
    ((run i).err = false → ∃ oc, (run i).outcome = some oc ∧ oc.hasError = false) ∧
    (policySelected i = true → (run i).err = true → ∃ oc, (run i).outcome = some oc ∧ oc.hasError = true) := by
  have hNoError := Clauses.holds_at (model_holds i) 2 "no_error_means_outcome_without_error" rfl
  have hFailure := Clauses.holds_at (model_holds i) 4 "failure_after_policy_selection_has_outcome_with_error" rfl
  constructor
  · intro hok
    cases ho : (run i).outcome <;> rcases he with he | he | he <;> simp_all
  · intro hs herr
    cases ho : (run i).outcome <;> simp_all

/-- the wrappers never report success without an outcome that is free of error -/
theorem wrapper_success_has_clean_outcome (i : Input) (hf : i.fuzz = false)
    (he : i.entry = .nVerify ∨ i.entry = .nVerifyBlob) (hok : (run i).err = false) :
    ∃ oc, (run i).outcome = some oc ∧ oc.hasError = false := by
  have hNoError := Clauses.holds_at (model_holds i) 2 "no_error_means_outcome_without_error" rfl
  cases ho : (run i).outcome <;> rcases he with he | he <;> simp_all

/-- the statement lookup by name and the lookup of the global statement (empty `TrustPolicyName`)
are both behind the one nil guard: unless the named statement is of level skip (which a global
statement cannot be) the observation does not depend on which is asked for -/
theorem policy_name_irrelevant (g : Guards) (i : Input) (b : Bool) (hs : i.blob ≠ .skip) :
    runWith g { i with named := b } = runWith g i := by
  -- `named` is read by `blobStmt` alone
  have hb : blobStmt { i with named := b } = blobStmt i := by simp [blobStmt, hs]
  unfold runWith vVerifyBlobGenError nVerifyBlob vVerifyBlob
  rw [hb]
  rfl

/-- a verifier without blob document answers both lookups alike: an error, no panic, no outcome -/
theorem missing_document_same_for_both_lookups (i : Input) (hf : i.fuzz = false) (hb : i.blob = .missing)
    (he : i.entry = .vVerifyBlob ∨ i.entry = .nVerifyBlob ∨ i.entry = .vVerifyBlobGenError) :
    run i = failNoOutcome := by
  have hg := guards_present
  simp only [Guards.all, Bool.and_eq_true] at hg
  have hv : vVerifyBlob sourceGuards i = failNoOutcome := by simp [vVerifyBlob, hb, hg.1.2]
  rcases he with he | he | he <;> simp [run, runWith, hf, he, nVerifyBlob, vVerifyBlobGenError, hv, failNoOutcome]

/-- a verifier shared by any number of goroutines gives each of them the sequential observation
(the verifier has no state that a verification changes) -/
theorem workers_irrelevant (g : Guards) (i : Input) (n : Nat) : runWith g { i with workers := n } = runWith g i := rfl

/-- in particular: no configuration, asked for the global blob statement from several goroutines, panics -/
theorem no_panic_global_lookup_shared (i : Input) (n : Nat) : (run { i with named := false, workers := n }).panicked = false :=
  no_panic _

/-- what a sampled case is made of (the shape of a hostile referrer node, a history of calls, a file's bytes:
`label`, `data`) is not looked at by the model: such cases are judged by the clauses alone -/
theorem label_data_irrelevant (g : Guards) (i : Input) (l d : String) : runWith g { i with label := l, data := d } = runWith g i := rfl

/-- **size caps**: whatever a store announces, content is asked for only when the announcing
descriptor claims no more than the cap that applies to it (4 MiB manifests, 32 MiB envelopes) -/
theorem cap_respected (i : Input) (h : (run i).fetched = true) : i.claimed ≤ capOf i.site := by
  simpa [h, withinCap] using Clauses.holds_at (model_holds i) 3 "no_content_read_beyond_its_size_cap" rfl

/-- a descriptor claiming more than its cap is refused unread - for every claim, however large -/
theorem oversized_never_read (i : Input) (hf : i.fuzz = false) (he : i.entry = .hostileStore)
    (h : capOf i.site < i.claimed) : (run i).fetched = false := by
  have : ¬ i.claimed ≤ capOf i.site := by omega
  simp [run, runWith, hf, he, hostile, withinCap, this]

/-- ... and a claim within the cap (a negative one included: the reader refuses it without
allocating) is looked at: the cap is not enforced by refusing everything -/
theorem within_cap_is_read (i : Input) (hf : i.fuzz = false) (he : i.entry = .hostileStore)
    (hs : i.site = .referrer ∨ i.site = .sigManifest ∨ i.site = .sigBlob) (h : i.claimed ≤ capOf i.site) :
    (run i).fetched = true := by
  rcases hs with hs | hs | hs <;> simp [run, runWith, hf, he, hostile, withinCap, hs] <;> simpa [hs] using h

/-- non-vacuity: nil envelope content under a skip blob statement, and a blob-only verifier asked through
`notation.Verify`, are plain results -/
example : run { entry := .nVerifyBlob, oci := .missing, blob := .skip, manager := true, sig := .valid, fuzz := false, label := "", data := "" } =
    okWith false := by decide +kernel
example : run { entry := .nVerify, oci := .missing, blob := .enforce, manager := true, sig := .valid, fuzz := false, label := "", data := "" } =
    failNoOutcome := by decide +kernel
/-- an OCI-only verifier asked for the GLOBAL blob statement returns an error, with the guard; without it, it panics -/
example : run { entry := .vVerifyBlob, oci := .enforce, blob := .missing, manager := true, sig := .valid, named := false, workers := 8, fuzz := false, label := "", data := "" } =
    failNoOutcome := by decide +kernel
example : (runWith { sourceGuards with vVerifyBlobDocNil := false }
    { entry := .nVerifyBlob, oci := .enforce, blob := .missing, manager := true, sig := .valid, named := false, fuzz := false, label := "", data := "" }).panicked = true := by decide +kernel
/-- a crashed child process of a concurrent stage / a panicking loader is a violation -/
example : Holds { entry := .concurrent, oci := .enforce, blob := .enforce, manager := true, sig := .valid, workers := 16, fuzz := true, label := "", data := "" }
    { panicked := true, err := false, outcome := none, consistent := false } = false := by decide +kernel
example : Holds { entry := .loader, oci := .enforce, blob := .enforce, manager := true, sig := .valid, fuzz := true, label := "", data := "" }
    { panicked := true, err := false, outcome := none, consistent := false } = false := by decide +kernel
/-- a referrer that claims 768 MiB is not read; one that claims exactly the cap is; reading the first is a violation -/
example : (run { entry := .hostileStore, oci := .enforce, blob := .enforce, manager := true, sig := .valid, site := .referrer, claimed := 805306368, fuzz := false, label := "", data := "" }).fetched = false := by decide +kernel
example : (run { entry := .hostileStore, oci := .enforce, blob := .enforce, manager := true, sig := .valid, site := .referrer, claimed := 4194304, fuzz := false, label := "", data := "" }).fetched = true := by decide +kernel
example : (run { entry := .hostileStore, oci := .enforce, blob := .enforce, manager := true, sig := .valid, site := .sigBlob, claimed := 4194305, fuzz := false, label := "", data := "" }).fetched = true := by decide +kernel
example : Holds { entry := .hostileStore, oci := .enforce, blob := .enforce, manager := true, sig := .valid, site := .referrer, claimed := 805306368, fuzz := false, label := "", data := "" }
    { panicked := false, err := false, outcome := none, fetched := true, consistent := true } = false := by decide +kernel
/-- `Holds` refutes a panic and an inconsistent pair -/
example : Holds { entry := .vVerify, oci := .enforce, blob := .missing, manager := true, sig := .garbage, fuzz := false, label := "", data := "" }
    { panicked := false, err := true, outcome := none, consistent := true } = false := by decide +kernel
example : Holds { entry := .nVerify, oci := .missing, blob := .enforce, manager := true, sig := .valid, fuzz := false, label := "", data := "" }
    { panicked := true, err := false, outcome := none, consistent := false } = false := by decide +kernel

/-! ### revocation: the count of the validator's results -/

theorem run_enforce_valid (i : Input) (hf : i.fuzz = false) (he : i.entry = .vVerify ∨ i.entry = .vVerifyBlob)
    (ho : i.oci = .enforce) (hb : i.blob = .enforce) (hs : i.sig = .valid) :
    run i = if revFails i then failWith true else okWith true := by
  rcases he with he | he <;>
    simp [run, runWith, hf, he, vVerify, vVerifyBlob, blobStmt, ho, hb, hs, verifyWithStmt, revStep, okWith, failWith]

/-- **fail closed on the count**: a caller-supplied revocation validator (or deprecated client) that does not answer
with exactly one result per certificate - fewer OR MORE - fails an otherwise acceptable verification, with an outcome
whose error is set and that carries the envelope content; it is a result, not a panic -/
theorem revocation_count_fails_closed (i : Input) (hf : i.fuzz = false) (he : i.entry = .vVerify ∨ i.entry = .vVerifyBlob)
    (ho : i.oci = .enforce) (hb : i.blob = .enforce) (hs : i.sig = .valid) (hr : i.rev = true) (hn : i.revSurplus ≠ 0) :
    run i = failWith true := by
  rw [run_enforce_valid i hf he ho hb hs, if_pos (by simp [revFails, hr, hn])]

/-- ... and exactly one (OK) result per certificate accepts it: the count test does not refuse everything -/
theorem revocation_exact_count_accepts (i : Input) (hf : i.fuzz = false) (he : i.entry = .vVerify ∨ i.entry = .vVerifyBlob)
    (ho : i.oci = .enforce) (hb : i.blob = .enforce) (hs : i.sig = .valid) (hn : i.revSurplus = 0) (hnil : i.revNil = false) :
    run i = okWith true := by
  rw [run_enforce_valid i hf he ho hb hs, if_neg (by simp [revFails, hn, hnil])]

/-- **fail closed on nil entries**: a validator (or deprecated client) whose vector holds nil pointers - whatever its
count - fails an otherwise acceptable verification with an outcome whose error is set; it is a result, not a panic -/
theorem revocation_nil_entries_fail_closed (i : Input) (hf : i.fuzz = false) (he : i.entry = .vVerify ∨ i.entry = .vVerifyBlob)
    (ho : i.oci = .enforce) (hb : i.blob = .enforce) (hs : i.sig = .valid) (hr : i.rev = true) (hnil : i.revNil = true) :
    run i = failWith true := by
  rw [run_enforce_valid i hf he ho hb hs, if_pos (by simp [revFails, hr, hnil])]

/-- nil server results inside the results do not matter -/
theorem rev_nil_server_irrelevant (g : Guards) (i : Input) (b : Bool) : runWith g { i with revNilServer := b } = runWith g i := rfl

/-- whatever the validator's count, through whichever of the two interfaces: no entry point panics -/
theorem no_panic_any_result_count (i : Input) (n : Int) (b : Bool) :
    (run { i with rev := true, revSurplus := n, revClient := b }).panicked = false := no_panic _

/-- ... nil entries and nil server results included -/
theorem no_panic_any_result_shape (i : Input) (n : Int) (b nl ns : Bool) :
    (run { i with rev := true, revSurplus := n, revClient := b, revNil := nl, revNilServer := ns }).panicked = false := no_panic _

/-- the count matters only where revocation is enforced and a validator is asked -/
theorem rev_surplus_irrelevant_unless_checked (g : Guards) (i : Input) (n : Int) (h : i.rev = false) :
    runWith g { i with revSurplus := n } = runWith g i := by
  -- `revSurplus` is read by `revStep` alone
  have hr : revStep { i with revSurplus := n } = revStep i := by funext o; simp [revStep, revFails, h]
  unfold runWith vVerifyBlobGenError nVerifyBlob nVerify userMetadata vVerifyBlob vVerify
  rw [hr]
  rfl

/-- `RevocationCodeSigningValidator` and the deprecated `RevocationClient` feed the same `revocationFinalResult` -/
theorem rev_client_irrelevant (g : Guards) (i : Input) (b : Bool) : runWith g { i with revClient := b } = runWith g i := rfl

/-! ### `SigningKeys.Remove` -/

/-- a name that is not in the key list (any more) when its turn comes is an error -/
theorem removeErr_of_mem_not_mem (n : String) : ∀ (ns ks : List String), n ∈ ns → n ∉ ks → removeErr ks ns = true := by
  intro ns
  induction ns with
  | nil => intro ks h; simp at h
  | cons m ms ih =>
    intro ks hmem hnot
    by_cases hmn : m = n
    · subst hmn; simp [removeErr, hnot]
    · have h1 : n ∈ ms := by
        rcases List.mem_cons.mp hmem with h | h
        · exact absurd h.symm hmn
        · exact h
      have h2 : n ∉ ks.erase m := fun h => hnot (List.mem_of_mem_erase h)
      simp [removeErr, ih (ks.erase m) h1 h2]

/-- **a repeated name**: on a key list without repeated names, an argument list in which a name occurs twice is an
ERROR (not found at its second turn) - for every list, every position of the repetition -/
theorem remove_repeated_name_not_found : ∀ (ns ks : List String), ks.Nodup → ¬ ns.Nodup → removeErr ks ns = true := by
  intro ns
  induction ns with
  | nil => intro ks _ h; simp at h
  | cons m ms ih =>
    intro ks hk hd
    by_cases hm : m ∈ ms
    · have : m ∉ ks.erase m := fun h => (List.Nodup.mem_erase_iff hk).mp h |>.1 rfl
      simp [removeErr, removeErr_of_mem_not_mem m ms (ks.erase m) hm this]
    · have hms : ¬ ms.Nodup := fun h => hd (List.nodup_cons.mpr ⟨hm, h⟩)
      simp [removeErr, ih (ks.erase m) (hk.erase m) hms]

/-- pairwise different, non-empty names that are all in the list are removed without error -/
theorem remove_ok_of_distinct_known : ∀ (ns ks : List String), "" ∉ ns → ns.Nodup → (∀ n ∈ ns, n ∈ ks) → removeErr ks ns = false := by
  intro ns
  induction ns with
  | nil => intros; rfl
  | cons m ms ih =>
    intro ks hne hd hsub
    have hm : m ≠ "" := fun h => hne (by simp [h])
    have hmk : m ∈ ks := hsub m (by simp)
    have hd' := List.nodup_cons.mp hd
    have hrest : ∀ n ∈ ms, n ∈ ks.erase m := by
      intro n hn
      have hnm : n ≠ m := fun h => hd'.1 (h ▸ hn)
      exact (List.mem_erase_of_ne hnm).mpr (hsub n (by simp [hn]))
    have hne' : "" ∉ ms := fun h => hne (by simp [h])
    simp [removeErr, hm, hmk, ih (ks.erase m) hne' hd'.2 hrest]

/-- `Remove` returns normally on every key list and every argument list -/
theorem remove_returns_normally (i : Input) (hf : i.fuzz = false) (he : i.entry = .signingKeys) :
    (run i).panicked = false ∧ (run i).err = removeErr i.keys i.names := by
  simp [run, runWith, hf, he, signingKeys]

/-- ... and whether it reports an error does not depend on the default key -/
theorem remove_default_irrelevant (g : Guards) (i : Input) (d : Option String) : runWith g { i with deflt := d } = runWith g i := rfl

/-- surplus results: an error with an outcome; a panic there is refuted by `Holds` -/
example : run { entry := .vVerify, oci := .enforce, blob := .enforce, manager := true, sig := .valid, rev := true, revSurplus := 1, fuzz := false, label := "", data := "" } =
    failWith true := by decide +kernel
example : run { entry := .nVerify, oci := .enforce, blob := .enforce, manager := true, sig := .valid, rev := true, revSurplus := 2, revClient := true, fuzz := false, label := "", data := "" } =
    failNoOutcome := by decide +kernel
example : Holds { entry := .vVerify, oci := .enforce, blob := .enforce, manager := true, sig := .valid, rev := true, revSurplus := 1, fuzz := false, label := "", data := "" }
    { panicked := true, err := false, outcome := none, consistent := false } = false := by decide +kernel
/-- nil entries (right count): an error with an outcome, a panic is refuted; nil server results: accepted -/
example : run { entry := .vVerify, oci := .enforce, blob := .enforce, manager := true, sig := .valid, rev := true, revNil := true, fuzz := false, label := "", data := "" } =
    failWith true := by decide +kernel
example : Holds { entry := .vVerifyBlob, oci := .enforce, blob := .enforce, manager := true, sig := .valid, rev := true, revNil := true, revClient := true, fuzz := false, label := "", data := "" }
    { panicked := true, err := false, outcome := none, consistent := false } = false := by decide +kernel
example : run { entry := .vVerify, oci := .enforce, blob := .enforce, manager := true, sig := .valid, rev := true, revNilServer := true, fuzz := false, label := "", data := "" } =
    okWith true := by decide +kernel
/-- Remove("a", "a") on [a, b]: an error; on [a, a]: none; a panic is refuted by `Holds` -/
example : (run { entry := .signingKeys, oci := .enforce, blob := .enforce, manager := true, sig := .valid, keys := ["a", "b"], names := ["a", "a"], fuzz := false, label := "", data := "" }).err = true := by decide +kernel
example : (run { entry := .signingKeys, oci := .enforce, blob := .enforce, manager := true, sig := .valid, keys := ["a", "a"], names := ["a", "a"], fuzz := false, label := "", data := "" }).err = false := by decide +kernel
example : (run { entry := .signingKeys, oci := .enforce, blob := .enforce, manager := true, sig := .valid, keys := ["a", "b", "c"], deflt := some "b", names := ["c", "a"], fuzz := false, label := "", data := "" }).err = false := by decide +kernel
example : Holds { entry := .signingKeys, oci := .enforce, blob := .enforce, manager := true, sig := .valid, keys := ["a", "b"], names := ["a", "a"], fuzz := false, label := "", data := "" }
    { panicked := true, err := false, outcome := none, consistent := false } = false := by decide +kernel

end NotationModel.C12
