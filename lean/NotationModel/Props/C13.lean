/-
C13 - Trust stores load only valid certificates from real files of the named store.
The model is in `Model/C13.lean`; here the theorems about it, test vectors, and in `namespace Tie` the
proofs that the Go functions as translated (`Generated/SrcC13*.lean`) compute what the model computes.

Statement, sentence by sentence, and where it is covered:
* "succeeds only for a known store type and a plain file-name store name, only if the store is a
  real directory (not a symlink) whose every entry is a regular file (no sub-directories, no
  symlinks) holding one or more parseable certificates that are CA or self-signed - and, for tsa
  stores, self-signed roots": clauses 1 and 2 of `Holds` (`o.ok → loadable i`, `loadable i → o.ok`
  under a live context), theorems `load_ok_iff`, `isValidFileName_iff`,
  `valid_name_is_one_path_element`, `one_bad_entry_fails`.
* "the named store": the directory addressed is truststore/x509/<type>/<name> and nothing else -
  the `storePath` clause, theorem `store_path_exact`.
* "It then returns exactly the certificates of those files and nothing from anywhere else":
  clauses 3 and 4, theorems `load_exact`, `load_exact_perm`, `nothing_from_elsewhere`.
* "in every other situation, including an empty store, it fails as a whole rather than
  returning a partial set": clauses 1 and 5, theorems `no_partial`, `empty_store_fails`.
* Context dimension (`Input.ctx`): whatever the caller's context does during the call, a success
  is the complete set of a loadable store and a failure returns nothing (clauses 1, 3, 5 do not
  look at the context); only clause 2 ("a loadable store loads") is waived when the context can
  end - an error because the caller gave up is fine. Theorems `context_irrelevant`,
  `never_partial_whatever_context`; fact `context_unused_pinned`.
* Concurrent calls (`Input.par`) and creation order of the files do not matter:
  `concurrency_irrelevant` (fact `no_shared_state_pinned`), `creation_order_irrelevant`.
Out of scope (not in the property's quantifier): entries that are neither regular files,
directories nor symlinks (fifos, sockets, devices), unreadable files, I/O errors.
-/
import NotationModel.Model.C13
import NotationModel.Generated.SrcC13

namespace NotationModel.C13

/-! ### the extracted facts are the ones the model is written for -/

/-- the regular expression in `file.IsValidFileName` is the text `matchesFileNameRegex` implements -/
theorem regex_pinned : Facts.c13FileNameRegex = "^[a-zA-Z0-9_.-]+$" := by decide +kernel

/-- `file.IsValidFileName` rejects "." and ".." before the regular expression -/
theorem rejected_pinned : rejectedNames = [['.'], ['.', '.']] := by decide +kernel

/-- `truststore.Types` are the three store types the property knows -/
theorem types_pinned : Facts.c13StoreTypes = specTypes := by decide +kernel

/-- the root requirement is keyed on the tsa type, and only on it -/
theorem root_pinned : Facts.c13RootCheckedTypes = ["tsa"] := by decide +kernel

/-- both argument checks precede the first file-system call (in whatever order) -/
theorem checks_before_file_system :
    "isValidStoreType" ∈ Facts.c13ChecksBeforeFileSystem ∧
    "file.IsValidFileName" ∈ Facts.c13ChecksBeforeFileSystem := by decide +kernel

/-- `GetCertificates` never consults its context (no method call on it, not handed on), which is
why the model's `run` does not depend on `Input.ctx` (`context_irrelevant`) -/
theorem context_unused_pinned : Facts.c13ContextUses = [] := by decide +kernel

/-- the functions of the load path keep no state between calls: they write to no package-level
variable and hand none on (plain reads, `slices.Contains(v, ..)` and `v.MatchString(..)` are not
counted), which is why the model's `run` does not depend on what other calls go on at the same time
(`concurrency_irrelevant`) -/
theorem no_shared_state_pinned : Facts.c13SharedState = [] := by decide +kernel

/-- the store path is `truststore/x509/<type>/<name>` -/
theorem store_dir_prefix_pinned : Facts.c13StoreDirPrefix = ["truststore", "x509"] := by decide +kernel

/-! ### the file-name recogniser -/

theorem classChar_eq_plainChar (c : Char) : classChar c = plainChar c := by
  have lower : inRange 'a' 'z' c = c.isLower := by
    simp only [inRange, Char.isLower, Char.toNat, ge_iff_le, UInt32.le_iff_toNat_le]
  -- (`Char.isUpper` is a `decide` of a conjunction where the other two are `&&`: hence `Bool.decide_and`)
  have upper : inRange 'A' 'Z' c = c.isUpper := by
    simp only [inRange, Char.isUpper, Char.toNat, ge_iff_le, UInt32.le_iff_toNat_le, Bool.decide_and]
  have digit : inRange '0' '9' c = c.isDigit := by
    simp only [inRange, Char.isDigit, Char.toNat, ge_iff_le, UInt32.le_iff_toNat_le]
  simp only [classChar, plainChar, Char.isAlphanum, Char.isAlpha, lower, upper, digit,
    Bool.or_comm c.isUpper]

def FileNameChar (c : Char) : Prop :=
  ('a' ≤ c ∧ c ≤ 'z') ∨ ('A' ≤ c ∧ c ≤ 'Z') ∨ ('0' ≤ c ∧ c ≤ '9') ∨ c = '_' ∨ c = '.' ∨ c = '-'

theorem classChar_iff (c : Char) : classChar c = true ↔ FileNameChar c := by
  simp only [classChar, FileNameChar, inRange, Char.toNat, Char.le_def, UInt32.le_iff_toNat_le,
    Bool.or_eq_true, Bool.and_eq_true, decide_eq_true_eq, beq_iff_eq, or_assoc]

theorem mem_rejected (n : Text) : rejectedNames.contains n = (n == ['.'] || n == ['.', '.']) := by
  rw [rejected_pinned]
  simp only [List.contains_cons, List.contains_nil, Bool.or_false]

theorem isValidFileName_eq (n : Text) :
    isValidFileName n = (n != [] && n.all classChar && n != ['.'] && n != ['.', '.']) := by
  simp only [isValidFileName, mem_rejected, matchesFileNameRegex, bne, List.beq_nil_eq]
  cases (n == ['.']) <;> cases (n == ['.', '.']) <;> simp

/-- **C13, name recogniser**: `file.IsValidFileName` (as modelled) accepts exactly the non-empty
texts over `[a-zA-Z0-9_.-]` other than "." and ".." (for texts of any length: no bound is assumed). -/
theorem isValidFileName_iff (n : Text) :
    isValidFileName n = true ↔
      n ≠ [] ∧ (∀ c ∈ n, FileNameChar c) ∧ n ≠ ['.'] ∧ n ≠ ['.', '.'] := by
  simp only [isValidFileName_eq, Bool.and_eq_true, bne_iff_ne, ne_eq, List.all_eq_true, classChar_iff,
    and_assoc]

theorem isValidFileName_eq_plainName (n : Text) : isValidFileName n = plainName n := by
  rw [isValidFileName_eq, plainName, funext classChar_eq_plainChar]

/-- **C13, a valid store name is one path element**: it contains no path separator (of either
flavour) and no NUL, and is neither empty nor a dot-only directory reference; so joining it to
`<root>/truststore/x509/<type>` designates a direct child of exactly that directory. -/
theorem valid_name_is_one_path_element (n : Text) (h : isValidFileName n = true) :
    '/' ∉ n ∧ '\\' ∉ n ∧ (Char.ofNat 0) ∉ n ∧ n ≠ [] ∧ n ≠ ['.'] ∧ n ≠ ['.', '.'] := by
  simp only [isValidFileName_eq, Bool.and_eq_true, bne_iff_ne, ne_eq, List.all_eq_true] at h
  obtain ⟨⟨⟨h0, hall⟩, h1⟩, h2⟩ := h
  exact ⟨fun hm => absurd (hall _ hm) (by decide), fun hm => absurd (hall _ hm) (by decide),
    fun hm => absurd (hall _ hm) (by decide), h0, h1, h2⟩

/-! ### the store path -/

theorem splitSlash_no_slash : ∀ n : Text, '/' ∉ n → splitSlash n = [n] := by
  intro n
  induction n with
  | nil => intro _; rfl
  | cons c cs ih =>
    intro h
    have hc : (c == '/') = false := beq_eq_false_iff_ne.2 fun e => h (e ▸ List.mem_cons_self)
    rw [splitSlash, hc, ih fun e => h (List.mem_cons_of_mem _ e)]
    rfl

theorem foldl_cleanStep_valid : ∀ (vs : List Text) (out : List Text),
    (∀ n ∈ vs, isValidFileName n = true) →
    (vs.flatMap splitSlash).foldl cleanStep out = vs.reverse ++ out := by
  intro vs
  induction vs with
  | nil => intro out _; rfl
  | cons n vs ih =>
    intro out h
    obtain ⟨hs, _, _, h0, h1, h2⟩ := valid_name_is_one_path_element n (h n List.mem_cons_self)
    rw [List.flatMap_cons, List.foldl_append, splitSlash_no_slash n hs, List.foldl_cons, List.foldl_nil,
      ih _ (fun m hm => h m (List.mem_cons_of_mem _ hm)), List.reverse_cons, List.append_assoc]
    simp only [cleanStep, beq_eq_false_iff_ne.2 h0, beq_eq_false_iff_ne.2 h1, beq_eq_false_iff_ne.2 h2,
      Bool.or_self, Bool.false_eq_true, if_false, List.singleton_append]

/-- joining further valid file names appends exactly those: nothing before them is dropped or popped -/
theorem joinComponents_append_valid (items vs : List Text) (h : ∀ n ∈ vs, isValidFileName n = true) :
    joinComponents (items ++ vs) = joinComponents items ++ vs := by
  simp only [joinComponents, List.flatMap_append, List.foldl_append, foldl_cleanStep_valid vs _ h,
    List.reverse_append, List.reverse_reverse]

theorem knownType_eq (t : String) : knownType t = specTypes.contains t := by
  rw [knownType, types_pinned]

theorem storeType_valid : ∀ t ∈ specTypes, isValidFileName t.toList = true := by decide +kernel

/-- **C13, the directory addressed**: for a known type and a valid store name
`dir.X509TrustStoreDir(type, name)` (as modelled: `path.Join` with `path.Clean`) has exactly the
four components truststore / x509 / type / name, i.e. it is the text
"truststore/x509/<type>/<name>" - the named store of that type and nothing else. -/
theorem store_path_exact (t : String) (n : Text) (ht : knownType t = true) (hn : isValidFileName n = true) :
    joinComponents (storePrefix ++ [t.toList, n]) =
      ["truststore".toList, "x509".toList, t.toList, n] ∧
    storeDir t n = "truststore/x509/".toList ++ t.toList ++ ['/'] ++ n := by
  have hp : storePrefix = ["truststore".toList, "x509".toList] := by
    rw [storePrefix, store_dir_prefix_pinned]; rfl
  have hv : ∀ m ∈ storePrefix ++ [t.toList, n], isValidFileName m = true := by
    rw [knownType_eq, List.contains_iff_mem] at ht
    rw [hp]
    simp only [List.cons_append, List.nil_append, List.mem_cons, List.not_mem_nil, or_false, forall_eq_or_imp,
      forall_eq]
    exact ⟨by decide +kernel, by decide +kernel, storeType_valid t ht, hn⟩
  have hj : joinComponents (storePrefix ++ [t.toList, n]) =
      ["truststore".toList, "x509".toList, t.toList, n] := by
    have := joinComponents_append_valid [] _ hv
    rw [List.nil_append] at this
    rw [this, hp]
    rfl
  refine ⟨hj, ?_⟩
  rw [storeDir, hj]
  simp [renderPath, List.intercalate, List.intersperse, List.flatten]

/-! ### directory order -/

theorem insertEntry_perm (e : Entry) : ∀ l : List Entry, (insertEntry e l).Perm (e :: l) := by
  intro l
  induction l with
  | nil => exact List.Perm.refl _
  | cons x xs ih =>
    simp only [insertEntry]
    split
    · exact List.Perm.refl _
    · exact (List.Perm.cons x ih).trans (List.Perm.swap e x xs)

theorem sortEntries_perm : ∀ l : List Entry, (sortEntries l).Perm l := by
  intro l
  induction l with
  | nil => exact List.Perm.refl _
  | cons e es ih => exact (insertEntry_perm e _).trans (List.Perm.cons e ih)

theorem all_sortEntries (p : Entry → Bool) (l : List Entry) : (sortEntries l).all p = l.all p :=
  (sortEntries_perm l).all_eq

theorem nameLt_iff : ∀ a b : Text, nameLt a b = true ↔ a < b := by
  intro a
  induction a with
  | nil => intro b; cases b <;> simp [nameLt]
  | cons x xs ih =>
    intro b
    cases b with
    | nil => simp [nameLt]
    | cons y ys =>
      have hlt : ∀ c d : Char, c.toNat < d.toNat ↔ c < d := fun _ _ => Iff.rfl
      simp only [nameLt, List.cons_lt_cons_iff, hlt]
      by_cases h1 : x < y
      · simp [h1]
      · by_cases h2 : y < x
        · have : x ≠ y := fun e => h1 (e ▸ h2)
          simp [h1, h2, this]
        · have : x = y := Char.ltTrichotomous.trichotomous _ _ h1 h2
          simp [this, ih]

theorem nameLe_iff (a b : Text) : nameLe a b = true ↔ a ≤ b := by
  rw [nameLe, Bool.not_eq_true', ← Bool.not_eq_true, nameLt_iff]; exact List.not_lt

theorem nameLt_irrefl : ∀ a : Text, nameLt a a = false :=
  fun a => Bool.eq_false_iff.2 fun h => List.lt_irrefl a ((nameLt_iff a a).1 h)

theorem nameLe_total (a b : Text) : nameLe a b = true ∨ nameLe b a = true := by
  simp only [nameLe_iff]; exact List.le_total a b

theorem nameLe_trans (a b c : Text) (hab : nameLe a b = true) (hbc : nameLe b c = true) :
    nameLe a c = true := by
  rw [nameLe_iff] at *; exact List.le_trans hab hbc

theorem nameLe_antisymm (a b : Text) (hab : nameLe a b = true) (hba : nameLe b a = true) : a = b := by
  rw [nameLe_iff] at *; exact List.le_antisymm hab hba

theorem insertEntry_sorted (e : Entry) : ∀ l : List Entry,
    l.Pairwise (fun a b => nameLe a.name b.name = true) →
    (insertEntry e l).Pairwise (fun a b => nameLe a.name b.name = true) := by
  intro l
  induction l with
  | nil => intro _; exact List.pairwise_singleton _ _
  | cons x xs ih =>
    intro h
    obtain ⟨hx, hxs⟩ := List.pairwise_cons.1 h
    rw [insertEntry]
    split
    · next hle =>
      exact List.pairwise_cons.2 ⟨List.forall_mem_cons.2 ⟨hle, fun y hy => nameLe_trans _ _ _ hle (hx y hy)⟩, h⟩
    · next hle =>
      have hall : ∀ y ∈ e :: xs, nameLe x.name y.name = true :=
        List.forall_mem_cons.2 ⟨(nameLe_total _ _).resolve_right hle, hx⟩
      exact List.pairwise_cons.2 ⟨fun y hy => hall y ((insertEntry_perm e xs).mem_iff.1 hy), ih hxs⟩

/-- the directory listing is in ascending order of file name (what `os.ReadDir` guarantees) -/
theorem sortEntries_sorted : ∀ l : List Entry,
    (sortEntries l).Pairwise (fun a b => nameLe a.name b.name = true) := by
  intro l
  induction l with
  | nil => simp [sortEntries]
  | cons e es ih => exact insertEntry_sorted e _ ih

theorem insertEntry_of_le (e : Entry) (l : List Entry) (h : ∀ x ∈ l, nameLe e.name x.name = true) :
    insertEntry e l = e :: l := by
  cases l with
  | nil => rfl
  | cons x xs => rw [insertEntry, if_pos (h x List.mem_cons_self)]

theorem sortEntries_of_sorted : ∀ l : List Entry,
    l.Pairwise (fun a b => nameLe a.name b.name = true) → sortEntries l = l := by
  intro l
  induction l with
  | nil => intro _; rfl
  | cons e es ih =>
    intro h
    rw [List.pairwise_cons] at h
    rw [sortEntries, ih h.2, insertEntry_of_le e es h.1]

theorem sort_unique (l₁ l₂ : List Entry) (hp : l₁.Perm l₂)
    (hs1 : l₁.Pairwise (fun a b => nameLe a.name b.name = true))
    (hs2 : l₂.Pairwise (fun a b => nameLe a.name b.name = true))
    (hd : l₁.Pairwise (fun a b => a.name ≠ b.name)) : l₁ = l₂ :=
  -- "ascending and distinct" is an antisymmetric relation (vacuously), and sorted lists that are
  -- rearrangements of each other under such a relation are equal
  List.Perm.eq_of_pairwise (le := fun a b => nameLe a.name b.name = true ∧ a.name ≠ b.name)
    (fun _ _ _ _ hab hba => absurd (nameLe_antisymm _ _ hab.1 hba.1) hab.2)
    (hs1.and hd) (hs2.and (hp.pairwise hd Ne.symm)) hp

/-! ### the loading loop -/

def entryOk (t : String) (e : Entry) : Bool :=
  e.kind == .file && e.parseOk && validateCertificates e.certs && (!needsRoot t || e.certs.all isRootCA)

theorem loadEntries_cons (t : String) (e : Entry) (rest : List Entry) (acc : List CertFlags) :
    loadEntries t (e :: rest) acc =
      if entryOk t e then loadEntries t rest (acc ++ e.certs) else none := by
  rw [loadEntries, entryOk, bne]
  cases (e.kind == .file)
  · rfl
  cases e.parseOk
  · rfl
  cases validateCertificates e.certs
  · rfl
  cases needsRoot t
  · rfl
  cases e.certs.all isRootCA <;> rfl

theorem loadEntries_eq (t : String) : ∀ (es : List Entry) (acc : List CertFlags),
    loadEntries t es acc =
      if es.all (entryOk t) then some (acc ++ es.flatMap (·.certs)) else none := by
  intro es
  induction es with
  | nil => intro acc; simp [loadEntries]
  | cons e rest ih =>
    intro acc
    rw [loadEntries_cons, ih, List.all_cons, List.flatMap_cons, List.append_assoc]
    cases entryOk t e <;> rfl

theorem all_and_all {α : Type} (p q : α → Bool) (l : List α) :
    l.all (fun x => p x && q x) = (l.all p && l.all q) := by
  induction l with
  | nil => rfl
  | cons x xs ih => simp only [List.all_cons, ih, Bool.and_assoc, Bool.and_left_comm]

theorem needsRoot_eq (t : String) : needsRoot t = (t == "tsa") := by
  rw [needsRoot, root_pinned]
  simp only [List.contains_cons, List.contains_nil, Bool.or_false]

theorem acceptable_eq (t : String) (c : CertFlags) :
    acceptable t c = ((c.isCA || c.selfSig) && (!needsRoot t || isRootCA c)) := by
  rw [acceptable, isRootCA, needsRoot_eq, bne]
  -- the two sides differ only in the order of the four conjuncts of the root test
  cases c.selfSig <;> cases c.signOk <;> cases c.weakSig <;> rfl

/-- the loop's per-entry test is the specification's "regular file with one or more parseable,
acceptable certificates" -/
theorem entryOk_eq_entryLoadable (t : String) (e : Entry) : entryOk t e = entryLoadable t e := by
  simp only [entryOk, entryLoadable, validateCertificates, funext (acceptable_eq t), all_and_all, ← List.or_all_distrib_left,
    Bool.and_assoc]

theorem flatMap_certs_isEmpty (t : String) (l : List Entry) (h : l.all (entryOk t) = true) :
    (l.flatMap (·.certs)).isEmpty = l.isEmpty := by
  cases l with
  | nil => rfl
  | cons e r =>
    simp only [List.all_cons, entryOk, validateCertificates, Bool.and_eq_true, Bool.not_eq_true'] at h
    obtain ⟨⟨⟨_, hne, _⟩, _⟩, _⟩ := h
    cases hc : e.certs with
    | nil => rw [hc] at hne; exact absurd hne (by decide)
    | cons c cs => simp only [List.flatMap_cons, hc, List.cons_append, List.isEmpty_cons]

/-- **C13, the loader in closed form**: `GetCertificates` (as modelled) returns the certificates of
all files, concatenated in directory order, when the store is loadable, and an error otherwise. -/
theorem getCertificates_eq (i : Input) :
    getCertificates i =
      if loadable i then some ((sortEntries i.entries).flatMap (·.certs)) else none := by
  rw [getCertificates, loadable, knownType_eq, isValidFileName_eq_plainName]
  cases specTypes.contains i.storeType
  · rfl
  cases plainName i.name
  · rfl
  cases i.dirKind
  case dir =>
    have hemp : i.entries.all (entryLoadable i.storeType) = true →
        ((sortEntries i.entries).flatMap (·.certs)).isEmpty = i.entries.isEmpty := by
      have := flatMap_certs_isEmpty i.storeType (sortEntries i.entries)
      rwa [all_sortEntries, (sortEntries_perm i.entries).isEmpty_eq,
        funext (entryOk_eq_entryLoadable i.storeType)] at this
    simp only [loadEntries_eq, all_sortEntries, funext (entryOk_eq_entryLoadable i.storeType), List.nil_append]
    cases h : i.entries.all (entryLoadable i.storeType)
    · rfl
    · simp only [if_true, hemp h]
      cases i.entries.isEmpty <;> rfl
  all_goals rfl

/-! ### property theorems -/

theorem run_load (i : Input) (h : i.op = .load) :
    run i = if loadable i then { ok := true, certs := expectedIds i, path := [] } else { ok := false, certs := [], path := [] } := by
  simp only [run, h, getCertificates_eq]
  cases loadable i <;> rfl

theorem run_load_ok (i : Input) (h : i.op = .load) : (run i).ok = loadable i := by
  rw [run_load i h]; cases loadable i <;> rfl

theorem run_load_certs (i : Input) (h : i.op = .load) :
    (run i).certs = if loadable i then expectedIds i else [] := by
  rw [run_load i h]; cases loadable i <;> rfl

theorem run_nameCheck (i : Input) (h : i.op = .nameCheck) :
    run i = { ok := plainName i.name, certs := [], path := [] } := by
  simp only [run, h, isValidFileName_eq_plainName]

theorem mem_storeIds (i : Input) (c : Nat) :
    c ∈ storeIds i ↔ ∃ e ∈ i.entries, ∃ f ∈ e.certs, f.id = c := by
  simp only [storeIds, List.mem_map, List.mem_flatMap]
  exact ⟨fun ⟨f, ⟨e, he, hf⟩, hc⟩ => ⟨e, he, f, hf, hc⟩, fun ⟨e, he, f, hf, hc⟩ => ⟨f, ⟨e, he, hf⟩, hc⟩⟩

theorem expectedIds_perm (i : Input) : (expectedIds i).Perm (storeIds i) :=
  ((sortEntries_perm i.entries).flatMap_right _).map _

/-- **C13, the whole property**: every clause of `Holds` is true of the model's behaviour, for
every store type, name, directory kind and entry list (no bounds, no well-formedness needed). -/
theorem model_holds (i : Input) : Holds i (run i) = true := by
  unfold Holds clauses
  cases hop : i.op
  · rw [run_load i hop]
    cases hl : loadable i
    · rfl
    · have hsub : (expectedIds i).all (fun c => (storeIds i).contains c) = true :=
        List.all_eq_true.2 fun c hc => List.contains_iff_mem.2 ((expectedIds_perm i).subset hc)
      simp only [Clauses.holds_cons, Clauses.holds_nil, if_true, hsub, beq_self_eq_true]
      rfl
  · rw [run_nameCheck i hop]
    simp [Clauses.holds]
  · simp only [run, hop, Clauses.holds_cons, Clauses.holds_nil, Bool.and_true]
    cases hk : specTypes.contains i.storeType
    · rfl
    · cases hn : plainName i.name
      · rfl
      · rw [(store_path_exact i.storeType i.name ((knownType_eq _).trans hk)
          ((isValidFileName_eq_plainName _).trans hn)).2, beq_self_eq_true, Bool.or_true]

/-- **C13, the context does not matter**: whatever the context does - never ends, has ended
before the call, ends at any poll, expires at any moment - the load gives the same answer; in
particular (with `load_exact`, `no_partial`) the context can never turn a complete set into a
partial one or hide a bad entry. -/
theorem context_irrelevant (i : Input) (c : CtxSpec) : run { i with ctx := c } = run i := rfl

/-- **C13, concurrent calls do not matter**: whatever other stores are being loaded (or paths
computed) at the same time, the answer is the sequential one - in particular never the certificates
of another store (`nothing_from_elsewhere`). -/
theorem concurrency_irrelevant (i : Input) (p : ParSpec) : run { i with par := p } = run i := rfl

theorem acceptable_iff (t : String) (c : CertFlags) :
    acceptable t c = true ↔ (c.isCA = true ∨ c.selfSig = true) ∧
      (t = "tsa" → c.selfSig = true ∧ c.weakSig = false ∧ c.signOk = true ∧ c.subjEqIssuer = true) := by
  simp only [acceptable, Bool.and_eq_true, Bool.or_eq_true, bne_iff_ne, ne_eq, Bool.not_eq_true', and_assoc,
    ← Decidable.imp_iff_not_or]

theorem entryLoadable_iff (t : String) (e : Entry) :
    entryLoadable t e = true ↔
      e.kind = .file ∧ e.parseOk = true ∧ e.certs ≠ [] ∧ ∀ c ∈ e.certs, acceptable t c = true := by
  simp only [entryLoadable, Bool.and_eq_true, beq_iff_eq, Bool.not_eq_true', List.isEmpty_eq_false_iff, ne_eq,
    List.all_eq_true, and_assoc]

theorem loadable_iff (i : Input) :
    loadable i = true ↔ i.storeType ∈ specTypes ∧ plainName i.name = true ∧ i.dirKind = .dir ∧
      (∀ e ∈ i.entries, entryLoadable i.storeType e = true) ∧ i.entries ≠ [] := by
  simp only [loadable, Bool.and_eq_true, List.contains_iff_mem, beq_iff_eq, List.all_eq_true, Bool.not_eq_true',
    List.isEmpty_eq_false_iff, ne_eq, and_assoc]

/-- **C13, success**: loading succeeds exactly when the type is one of the three known types,
the name is a valid file name, the store path is a real directory, the store is not empty and
every entry is a regular file with at least one parseable certificate, each of them a CA or
self-signed certificate and, in a tsa store, a self-signed root (own key may sign certificates,
signature verifies under it with an algorithm crypto/x509 still accepts in chains - not SHA-1 / MD5 -,
issuer = subject). -/
theorem load_ok_iff (i : Input) (h : i.op = .load) :
    (run i).ok = true ↔
      i.storeType ∈ ["ca", "signingAuthority", "tsa"] ∧ isValidFileName i.name = true ∧
      i.dirKind = .dir ∧ i.entries ≠ [] ∧
      ∀ e ∈ i.entries, e.kind = .file ∧ e.parseOk = true ∧ e.certs ≠ [] ∧
        ∀ c ∈ e.certs, (c.isCA = true ∨ c.selfSig = true) ∧
          (i.storeType = "tsa" →
            c.selfSig = true ∧ c.weakSig = false ∧ c.signOk = true ∧ c.subjEqIssuer = true) := by
  rw [run_load_ok i h, isValidFileName_eq_plainName, loadable_iff]
  simp only [entryLoadable_iff, acceptable_iff, specTypes]
  exact ⟨fun ⟨h1, h2, h3, h4, h5⟩ => ⟨h1, h2, h3, h5, h4⟩, fun ⟨h1, h2, h3, h5, h4⟩ => ⟨h1, h2, h3, h4, h5⟩⟩

/-- **C13, the result**: on success the result is the concatenation, in ascending file-name order
(`sortEntries_sorted`, `sortEntries_perm`), of exactly the certificates of the store's files. -/
theorem load_exact (i : Input) (h : i.op = .load) (hok : (run i).ok = true) :
    (run i).certs = ((sortEntries i.entries).flatMap (·.certs)).map (·.id) := by
  rw [run_load_ok i h] at hok
  rw [run_load_certs i h, hok]
  rfl

/-- as a multiset the result is the certificates of all the store's files: none missing, none
extra, multiplicities kept -/
theorem load_exact_perm (i : Input) (h : i.op = .load) (hok : (run i).ok = true) :
    ((run i).certs).Perm ((i.entries.flatMap (·.certs)).map (·.id)) := by
  rw [load_exact i h hok]
  exact expectedIds_perm i

theorem nothing_from_elsewhere (i : Input) (h : i.op = .load) :
    ∀ c ∈ (run i).certs, ∃ e ∈ i.entries, ∃ f ∈ e.certs, f.id = c := by
  intro c hc
  rw [run_load_certs i h] at hc
  cases hl : loadable i
  · rw [hl] at hc; nomatch hc
  · rw [hl] at hc
    exact (mem_storeIds i c).1 ((expectedIds_perm i).subset hc)

/-- **C13, all or nothing**: a failing load returns no certificate at all -/
theorem no_partial (i : Input) (hok : (run i).ok = false) : (run i).certs = [] := by
  cases hop : i.op
  · rw [run_load_ok i hop] at hok
    rw [run_load_certs i hop, hok]
    rfl
  · rw [run_nameCheck i hop]
  · simp only [run, hop]

theorem never_partial_whatever_context (i : Input) (c : CtxSpec) (h : i.op = .load) :
    ((run { i with ctx := c }).ok = true →
        loadable i = true ∧ (run { i with ctx := c }).certs = expectedIds i) ∧
    ((run { i with ctx := c }).ok = false → (run { i with ctx := c }).certs = []) := by
  rw [context_irrelevant]
  exact ⟨fun hok => ⟨(run_load_ok i h).symm.trans hok, load_exact i h hok⟩, no_partial i⟩

theorem empty_store_fails (i : Input) (h : i.op = .load) (he : i.entries = []) : (run i).ok = false := by
  rw [run_load_ok i h, loadable, he]
  simp only [List.isEmpty_nil, Bool.not_true, Bool.and_false]

/-- one bad entry anywhere - a sub-directory, a symlink, an unparsable or empty file, a file with
one unacceptable certificate - fails the whole load, whatever else the store holds -/
theorem one_bad_entry_fails (i : Input) (h : i.op = .load) (e : Entry) (he : e ∈ i.entries)
    (hbad : entryLoadable i.storeType e = false) : (run i).ok = false ∧ (run i).certs = [] := by
  have hall : i.entries.all (entryLoadable i.storeType) = false :=
    List.all_eq_false.2 ⟨e, he, by rw [hbad]; decide⟩
  have hok : (run i).ok = false := by
    rw [run_load_ok i h, loadable, hall, Bool.and_false, Bool.false_and]
  exact ⟨hok, no_partial i hok⟩

/-- **C13, creation order is irrelevant**: two stores holding the same entries (in any order of
creation), with pairwise distinct file names, load identically. -/
theorem creation_order_irrelevant (i₁ i₂ : Input) (hop : i₁.op = i₂.op) (ht : i₁.storeType = i₂.storeType)
    (hn : i₁.name = i₂.name) (hk : i₁.dirKind = i₂.dirKind) (hp : i₁.entries.Perm i₂.entries)
    (hd : i₁.entries.Pairwise (fun a b => a.name ≠ b.name)) : run i₁ = run i₂ := by
  have hs : sortEntries i₁.entries = sortEntries i₂.entries :=
    sort_unique _ _ (((sortEntries_perm _).trans hp).trans (sortEntries_perm _).symm)
      (sortEntries_sorted _) (sortEntries_sorted _)
      ((sortEntries_perm i₁.entries).symm.pairwise hd Ne.symm)
  unfold run getCertificates
  rw [hop, ht, hn, hk, hs]

/-! ### non-vacuity -/

def rootCA (id : Nat) : CertFlags := { id := id, isCA := true, selfSig := true, signOk := true, subjEqIssuer := true, weakSig := false }
def interCA (id : Nat) : CertFlags := { id := id, isCA := true, selfSig := false, signOk := true, subjEqIssuer := false, weakSig := false }
def leaf (id : Nat) : CertFlags := { id := id, isCA := false, selfSig := false, signOk := false, subjEqIssuer := false, weakSig := false }
def pemFile (n : String) (cs : List CertFlags) : Entry :=
  { name := n.toList, kind := .file, parseOk := true, certs := cs, enc := "pem" }
def store (t : String) (n : String) (es : List Entry) : Input :=
  { op := .load, storeType := t, name := n.toList, dirKind := .dir, entries := es, decoys := false,
    par := { stores := [], workers := 0, rounds := 0 }, ctx := { kind := .background, n := 0, deadline := false } }

/-- a store with two files created in reverse name order loads in name order -/
example : run (store "ca" "acme.roots" [pemFile "b.pem" [interCA 2, rootCA 3], pemFile "a.pem" [rootCA 1]]) =
    { ok := true, certs := [1, 2, 3], path := [] } := by decide +kernel

/-- the same files do not load as a tsa store (certificate 2 is not a self-signed root) -/
example : run (store "tsa" "acme.roots" [pemFile "b.pem" [interCA 2, rootCA 3], pemFile "a.pem" [rootCA 1]]) =
    { ok := false, certs := [], path := [] } := by decide +kernel

/-- one leaf certificate among good ones fails the whole store -/
example : run (store "ca" "s" [pemFile "a.pem" [rootCA 1], pemFile "b.pem" [rootCA 2, leaf 3]]) =
    { ok := false, certs := [], path := [] } := by decide +kernel

/-- "." and ".." are not store names; "..." is -/
example : (run (store "ca" "." [pemFile "a.pem" [rootCA 1]])).ok = false := by decide +kernel
example : (run (store "ca" ".." [pemFile "a.pem" [rootCA 1]])).ok = false := by decide +kernel
example : (run (store "ca" "../x" [pemFile "a.pem" [rootCA 1]])).ok = false := by decide +kernel
example : (run (store "ca" "..." [pemFile "a.pem" [rootCA 1]])).ok = true := by decide +kernel

/-- `Holds` is false of wrong observations: a partial result with an error, a success that
drops a certificate, a success in the wrong order, a success on a symlinked store -/
example : Holds (store "ca" "s" [pemFile "a.pem" [rootCA 1], pemFile "b.pem" [leaf 3]])
    { ok := false, certs := [1], path := [] } = false := by decide +kernel
example : Holds (store "ca" "s" [pemFile "a.pem" [rootCA 1], pemFile "b.pem" [rootCA 2]])
    { ok := true, certs := [1], path := [] } = false := by decide +kernel
example : Holds (store "ca" "s" [pemFile "a.pem" [rootCA 1], pemFile "b.pem" [rootCA 2]])
    { ok := true, certs := [2, 1], path := [] } = false := by decide +kernel
example : Holds { store "ca" "s" [pemFile "a.pem" [rootCA 1]] with dirKind := .symlinkToDir }
    { ok := true, certs := [1], path := [] } = false := by decide +kernel
example : Holds (store "ca" "s" [pemFile "a.pem" [rootCA 1], pemFile "b.pem" [rootCA 2]])
    { ok := true, certs := [1, 2], path := [] } = true := by decide +kernel


/-- the context dimension: a context that ends at its second poll does not excuse a partial set
(first file only) nor a success over a later bad entry; failing the loadable store with an error
is tolerated under an ending context and only there -/
def endsAt (k : Nat) : CtxSpec := { kind := .endsAtPoll, n := k, deadline := false }
example : Holds { store "ca" "s" [pemFile "a.pem" [rootCA 1], pemFile "b.pem" [rootCA 2]] with ctx := endsAt 1 }
    { ok := true, certs := [1], path := [] } = false := by decide +kernel
example : Holds { store "ca" "s" [pemFile "a.pem" [rootCA 1], pemFile "b.pem" [leaf 2]] with ctx := endsAt 1 }
    { ok := true, certs := [1], path := [] } = false := by decide +kernel
example : Holds { store "ca" "s" [pemFile "a.pem" [rootCA 1], pemFile "b.pem" [rootCA 2]] with ctx := endsAt 1 }
    { ok := false, certs := [1], path := [] } = false := by decide +kernel
example : Holds { store "ca" "s" [pemFile "a.pem" [rootCA 1], pemFile "b.pem" [rootCA 2]] with ctx := endsAt 1 }
    { ok := false, certs := [], path := [] } = true := by decide +kernel
example : Holds (store "ca" "s" [pemFile "a.pem" [rootCA 1], pemFile "b.pem" [rootCA 2]])
    { ok := false, certs := [], path := [] } = false := by decide +kernel

/-- legacy signature algorithms: a SHA-1 signed true root loads in a ca store but not in a tsa store
(its self-signature is not verifiable under the chain policy); a SHA-1 signed CA that is merely
issued to its own name by another key must never load in a tsa store -/
def sha1Root (id : Nat) : CertFlags := { rootCA id with weakSig := true }
def sha1RollOver (id : Nat) : CertFlags := { rootCA id with weakSig := true, selfSig := false }
example : (run (store "ca" "s" [pemFile "a.pem" [sha1Root 1]])).ok = true := by decide +kernel
example : (run (store "tsa" "s" [pemFile "a.pem" [sha1Root 1]])).ok = false := by decide +kernel
example : Holds (store "tsa" "s" [pemFile "a.pem" [sha1RollOver 1]])
    { ok := true, certs := [1], path := [] } = false := by decide +kernel

/-- concurrency: while two other stores are being loaded, an answer that is another store's
certificate is rejected -/
example : Holds { store "ca" "alpha" [pemFile "r.pem" [rootCA 1]] with
      par := { stores := [{ storeType := "ca", name := "bravo".toList, entries := [pemFile "r.pem" [rootCA 2]] }],
               workers := 8, rounds := 1000 } }
    { ok := true, certs := [2], path := [] } = false := by decide +kernel

/-- the store path of a proper name, and what the rejected names would have addressed: the type
directory itself, its parent, a store of another type -/
example : storeDir "ca" "acme.roots".toList = "truststore/x509/ca/acme.roots".toList := by decide +kernel
example : storeDir "ca" ".".toList = "truststore/x509/ca".toList := by decide +kernel
example : storeDir "ca" "..".toList = "truststore/x509".toList := by decide +kernel
example : storeDir "ca" "../tsa/x".toList = "truststore/x509/tsa/x".toList := by decide +kernel
example : Holds { store "ca" "s" [] with op := .storePath }
    { ok := true, certs := [], path := "truststore/x509/s/ca".toList } = false := by decide +kernel


/-! ### tie to the translated source (docs/TIE_BRIEF.md)

`Generated/SrcC13.lean` (package truststore: `Types` and the type constants, `isValidStoreType`,
`ValidateCertificates`, `isRootCACertificate`, `x509TrustStore.GetCertificates`), `SrcC13b.lean`
(`file.IsValidFileName`) and `SrcC13c.lean` (`dir.X509TrustStoreDir`) are translated from the Go
source on every run. The theorems below prove that each translated function computes, for ALL
inputs and ALL oracles, what the hand-written model computes. Oracles (file system, crypto/x509,
regexp, path.Join): see `Src/TypesC13.lean`. The proofs unfold the generated functions and evaluate
them case by case; of the generated text they repeat only the shape of the loop states. -/
namespace Tie
open NotationModel.Src.truststore

-- the ties list each comparison in both orientations (`x == c` / `c == x`, `a&b` / `b&a`, `len(x) < 1` /
-- `len(x) == 0`): the regenerated text may have either, so one of each pair is unused at any time
set_option linter.unusedSimpArgs false

/-- a certificate of the translated world as the model sees it -/
def absCert (c : x509.Certificate) : CertFlags :=
  { id := c.id, isCA := c.IsCA, selfSig := c.selfSigErr.isNone, signOk := c.signOk,
    subjEqIssuer := bytes.Equal c.RawSubject c.RawIssuer, weakSig := c.weakSig }

theorem typeTSA_agree : TypeTSA = "tsa" := rfl

theorem source_isValidStoreType_refines_model (t : String) : isValidStoreType t = knownType t := by
  -- whatever the shape of the test (membership, a loop, a chain of `||`), both sides are Boolean
  -- functions of three comparisons: decide them, then evaluate
  have c1 : ("ca" == t) = (t == "ca") := BEq.comm
  have c2 : ("signingAuthority" == t) = (t == "signingAuthority") := BEq.comm
  have c3 : ("tsa" == t) = (t == "tsa") := BEq.comm
  rw [knownType_eq]
  simp only [isValidStoreType, Id.run, GoLite.contains, Types, TypeCA, TypeSigningAuthority, TypeTSA, specTypes,
    List.contains_cons, List.contains_nil, List.forIn_cons, List.forIn_nil, c1, c2, c3]
  cases (t == "ca") <;> cases (t == "signingAuthority") <;> cases (t == "tsa") <;> rfl

theorem source_IsValidFileName_refines_model (s : String) :
    file.IsValidFileName s = isValidFileName s.toList := by
  have c1 : ("." == s) = (s == ".") := BEq.comm
  have c2 : (".." == s) = (s == "..") := BEq.comm
  rw [isValidFileName, mem_rejected, ← beq_ofList, ← beq_ofList]
  simp only [file.IsValidFileName, bne, c1, c2]
  -- the evaluation also resolves the regexp oracle (the compiled text is the expected expression)
  cases (s == ".") <;> cases (s == "..") <;> rfl

theorem source_X509TrustStoreDir_refines_model (t n : String) :
    dir.X509TrustStoreDir [t, n] = String.ofList (storeDir t n.toList) := rfl

/-- what the loop of `ValidateCertificates` returns at a certificate it refuses -/
def validErr (c : x509.Certificate) : Option (Option GoLite.Err) :=
  if c.IsCA || c.selfSigErr.isNone then none else some (some (GoLite.errorf ""))

theorem validErr_isNone (c : x509.Certificate) :
    (validErr c).isNone = ((absCert c).isCA || (absCert c).selfSig) := by
  simp only [validErr, absCert]
  cases c.IsCA || c.selfSigErr.isNone <;> rfl

theorem source_ValidateCertificates_refines_model (cs : List x509.Certificate) :
    (ValidateCertificates cs).isNone = validateCertificates (cs.map absCert) := by
  unfold ValidateCertificates
  simp only [Id.run]
  rw [GoLite.forIn_findReturn validErr _ ?h]
  case h =>
    intro c s
    simp only [validErr, x509.Certificate.CheckSignature, and_self, if_true]
    cases c.IsCA
    · cases c.selfSigErr <;> rfl
    · rfl
  have hall : (cs.findSome? validErr).isNone = cs.all ((fun c => c.isCA || c.selfSig) ∘ absCert) :=
    (GoLite.findSome?_isNone validErr cs).trans (congrArg cs.all (funext validErr_isNone))
  simp only [GoLite.len_lt_one, GoLite.len_beq_zero, GoLite.zero_beq_len]
  rw [validateCertificates, List.isEmpty_map, List.all_map, ← hall]
  cases cs.isEmpty
  · cases h : cs.findSome? validErr with
    | none => rfl
    | some r =>
      obtain ⟨c, _, hc⟩ := List.exists_of_findSome?_eq_some h
      unfold validErr at hc
      split at hc
      · cases hc
      · cases hc; rfl
  · rfl

theorem source_isRootCACertificate_refines_model (c : x509.Certificate) :
    (isRootCACertificate c).isNone = isRootCA (absCert c) := by
  have hcomm : bytes.Equal c.RawIssuer c.RawSubject = bytes.Equal c.RawSubject c.RawIssuer := BEq.comm
  simp only [isRootCACertificate, isRootCA, absCert, x509.Certificate.CheckSignatureFrom, Id.run, if_true, hcomm]
  cases c.signOk
  · rfl
  cases c.weakSig
  case true => rfl
  cases c.selfSigErr
  case some => rfl
  cases bytes.Equal c.RawSubject c.RawIssuer <;> rfl

/-- an entry of the translated world as the model sees it -/
def absEntry (w : World) (path : String) (f : fs.DirEntry) : Entry :=
  { name := f.Name.toList,
    kind := if f.IsDir then .dir else if f.«Type».symlink then .symlink else .file,
    parseOk := (w.ReadCertificateFile (filepath.Join path f.Name)).2.isNone,
    certs := (w.ReadCertificateFile (filepath.Join path f.Name)).1.map absCert,
    enc := "" }

/-- the store path the translated code computes -/
def srcPath (ts : x509TrustStore) (t n : String) : String × Option GoLite.Err :=
  ts.trustStorefs.SysPath (dir.X509TrustStoreDir [t, n])

/-- the kind of the store directory the oracles stand for. I/O errors (SysPath, Lstat other than
"does not exist", ReadDir) have no kind of their own in the model: like a missing directory they
make the load fail, and are mapped to `.missing`. -/
def absDirKind (ts : x509TrustStore) (w : World) (t n : String) : DirKind :=
  if (srcPath ts t n).2.isSome || (w.Lstat (srcPath ts t n).1).2.isSome then .missing
  else if (w.Lstat (srcPath ts t n).1).1.Mode.symlink then .symlinkToDir
  else if !(w.Lstat (srcPath ts t n).1).1.Mode.IsDir then .file
  else if (w.ReadDir (srcPath ts t n).1).2.isSome then .missing
  else .dir

/-- the world the oracles stand for -/
def absInput (ts : x509TrustStore) (w : World) (t n : String) : Input :=
  { op := .load, storeType := t, name := n.toList, dirKind := absDirKind ts w t n,
    entries := (w.ReadDir (srcPath ts t n).1).1.map (absEntry w (srcPath ts t n).1),
    decoys := false, par := { stores := [], workers := 0, rounds := 0 },
    ctx := { kind := .background, n := 0, deadline := false } }

/-- result shape: the certificates as the model sees them, and "no error" -/
def shape (r : List x509.Certificate × Option GoLite.Err) : List CertFlags × Bool :=
  (r.1.map absCert, r.2.isNone)

def ofModel : Option (List CertFlags) → List CertFlags × Bool
  | some cs => (cs, true)
  | none => ([], false)

theorem hasBits_symlink_right (m : fs.FileMode) : GoLite.hasBits m fs.ModeSymlink = m.symlink := by
  simp [GoLite.hasBits, fs.ModeSymlink]

theorem hasBits_symlink_left (m : fs.FileMode) : GoLite.hasBits fs.ModeSymlink m = m.symlink := by
  simp [GoLite.hasBits, fs.ModeSymlink]
theorem tsa_right (t : String) : (t == TypeTSA) = (t == "tsa") := by rw [typeTSA_agree]

theorem tsa_left (t : String) : (TypeTSA == t) = (t == "tsa") := by
  rw [typeTSA_agree]; exact BEq.comm

/-- the tsa loop's check of one certificate: the value of `err` when the loop stops there -/
def rootChk (c : x509.Certificate) : Option (Option GoLite.Err) :=
  if (isRootCACertificate c).isSome then some (isRootCACertificate c) else none

theorem rootChk_all (cs : List x509.Certificate) :
    (cs.findSome? rootChk).isNone = (cs.map absCert).all isRootCA := by
  rw [GoLite.findSome?_isNone, List.all_map]
  congr 1; funext c
  simp only [rootChk, Function.comp, ← source_isRootCACertificate_refines_model]
  cases (isRootCACertificate c) <;> simp

/-- the value of the variable `err` when the file loop returns at entry `f` -/
def fileErr (w : World) (path : String) (f : fs.DirEntry) : Option GoLite.Err :=
  if f.IsDir || f.«Type».symlink then none
  else (w.ReadCertificateFile (filepath.Join path f.Name)).2 <|>
    ValidateCertificates (w.ReadCertificateFile (filepath.Join path f.Name)).1 <|>
    ((w.ReadCertificateFile (filepath.Join path f.Name)).1.findSome? rootChk).join

def fileStep (w : World) (path : String) (t : String) (acc : List x509.Certificate) (f : fs.DirEntry) :
    Except (Option GoLite.Err) (List x509.Certificate) :=
  if entryOk t (absEntry w path f) then .ok (acc ++ (w.ReadCertificateFile (filepath.Join path f.Name)).1)
  else .error (fileErr w path f)

theorem foldE_fileStep (w : World) (path t : String) : ∀ (files : List fs.DirEntry) (acc : List x509.Certificate),
    (match GoLite.foldE (fileStep w path t) files acc with
      | .ok cs => some (cs.map absCert)
      | .error _ => none) = loadEntries t (files.map (absEntry w path)) (acc.map absCert) := by
  intro files
  induction files with
  | nil => intro acc; rfl
  | cons f rest ih =>
    intro acc
    rw [List.map_cons, loadEntries_cons, GoLite.foldE, fileStep]
    cases entryOk t (absEntry w path f)
    · rfl
    · refine (ih _).trans ?_
      rw [List.map_append]
      rfl

/-- TIE (translated source): `x509TrustStore.GetCertificates`, translated from
verifier/truststore/truststore.go on every run (`Generated/SrcC13.lean`), returns for EVERY store
type, store name, trust store value and file-system oracle exactly the certificates the model's
`getCertificates` returns on the world the oracles stand for (`absInput`), and fails exactly when it
fails - returning no certificate then. Hypothesis: `os.ReadDir` lists entries sorted by file name
(its documented contract). -/
theorem source_GetCertificates_refines_model (ts : x509TrustStore) (w : World) (t n : String)
    (hsorted : ∀ p, (w.ReadDir p).1.Pairwise (fun a b => nameLe a.Name.toList b.Name.toList = true)) :
    shape (x509TrustStore.GetCertificates ts w () t n) = ofModel (getCertificates (absInput ts w t n)) := by
  rcases ts with ⟨⟨sysPath⟩⟩
  rcases w with ⟨lstat, readDir, readCert⟩
  unfold x509TrustStore.GetCertificates getCertificates absInput absDirKind srcPath
  -- `+instances`: the `Decidable` arguments of the `if`s are reduced too, else `generalize` below fails
  dsimp +instances only [id_eq] at hsorted ⊢
  rw [source_isValidStoreType_refines_model, source_IsValidFileName_refines_model]
  simp only [hasBits_symlink_left, hasBits_symlink_right, tsa_left, tsa_right]
  -- down the guards, still in `do` form: where one fires both sides evaluate
  cases knownType t <;> cases isValidFileName n.toList
  case false.false | false.true | true.false => rfl
  generalize sysPath (dir.X509TrustStoreDir [t, n]) = P
  rcases P with ⟨path, e0⟩
  cases e0
  case some => rfl
  have hsrt := hsorted path
  generalize lstat path = L
  rcases L with ⟨info, e1⟩
  cases e1
  case some e => cases os.IsNotExist (some e) <;> rfl
  cases info.Mode.IsDir
  case false => cases info.Mode.symlink <;> rfl
  cases info.Mode.symlink
  case true => rfl
  generalize readDir path = R at hsrt ⊢
  rcases R with ⟨files, e2⟩
  cases e2
  case some => rfl
  simp only [Id.run, Option.isSome_none, Bool.false_eq_true, if_false, Bool.not_true, Bool.or_self]
  -- the state of the translated file loop is (early-return value, `err`, `certificates`);
  -- `errT` / `errorf` forget their message, so "" stands for any text
  rw [GoLite.forIn_eq_foldE' _ (fileStep ⟨lstat, readDir, readCert⟩ path t) (fun acc => (none, none, acc))
    (fun acc e => (some (default, some (GoLite.errT "CertificateError" "")), e, acc)) ?h files _ [] ?hs]
  case hs => rfl
  case h =>
    -- at each exit of the body the translated text, `entryOk` of the entry and `fileErr` all evaluate
    intro f acc
    have hv := source_ValidateCertificates_refines_model (readCert (filepath.Join path f.Name)).1
    have hr := rootChk_all (readCert (filepath.Join path f.Name)).1
    simp only [fileStep, fileErr, entryOk, absEntry, needsRoot_eq, ← hv, ← hr]
    cases f.IsDir <;> cases f.«Type».symlink
    case false.true | true.false | true.true => rfl
    cases (readCert (filepath.Join path f.Name)).2
    case some => rfl
    cases ValidateCertificates (readCert (filepath.Join path f.Name)).1
    case some => rfl
    cases (t == "tsa")
    case false => rfl
    simp only [Bool.or_self, Bool.false_eq_true, if_false, if_true, Option.isSome_none]
    -- the tsa loop only searches: it leaves at the first certificate `rootChk` refuses, with that answer in `err`
    rw [GoLite.forIn_findSome
      (fun c => (rootChk c).map fun e => (some (default, some (GoLite.errT "CertificateError" "")), e)) (none, none) _
      (fun c => by unfold rootChk; cases isRootCACertificate c <;> rfl), ← Function.comp_def, ← List.map_findSome?]
    cases (readCert (filepath.Join path f.Name)).1.findSome? rootChk <;> rfl
  have hso : sortEntries (files.map (absEntry ⟨lstat, readDir, readCert⟩ path)) =
      files.map (absEntry ⟨lstat, readDir, readCert⟩ path) :=
    sortEntries_of_sorted _ (List.pairwise_map.2 hsrt)
  have hf := foldE_fileStep ⟨lstat, readDir, readCert⟩ path t files []
  rw [List.map_nil] at hf
  rw [hso, ← hf]
  cases GoLite.foldE (fileStep ⟨lstat, readDir, readCert⟩ path t) files [] with
  | error pe => rfl
  | ok cs => cases cs <;> rfl

theorem source_GetCertificates_run (ts : x509TrustStore) (w : World) (t n : String)
    (hsorted : ∀ p, (w.ReadDir p).1.Pairwise (fun a b => nameLe a.Name.toList b.Name.toList = true)) :
    run (absInput ts w t n) =
      { ok := (x509TrustStore.GetCertificates ts w () t n).2.isNone,
        certs := (x509TrustStore.GetCertificates ts w () t n).1.map (·.id), path := [] } := by
  have h := source_GetCertificates_refines_model ts w t n hsorted
  generalize x509TrustStore.GetCertificates ts w () t n = r at h ⊢
  have hop : (absInput ts w t n).op = .load := rfl
  simp only [run, hop]
  cases hg : getCertificates (absInput ts w t n) <;> rw [hg] at h <;> obtain ⟨h1, h2⟩ := Prod.mk.inj h
  · rw [h2, List.map_eq_nil_iff.1 h1]; rfl
  · rw [h2, ← h1]; simp only [List.map_map]; rfl

/-- the translated `GetCertificates` satisfies the property: for every oracle, what it returns is
an observation of which all clauses of `Holds` are true on the world the oracles stand for -/
theorem source_GetCertificates_satisfies_property (ts : x509TrustStore) (w : World) (t n : String)
    (hsorted : ∀ p, (w.ReadDir p).1.Pairwise (fun a b => nameLe a.Name.toList b.Name.toList = true)) :
    Holds (absInput ts w t n)
      { ok := (x509TrustStore.GetCertificates ts w () t n).2.isNone,
        certs := (x509TrustStore.GetCertificates ts w () t n).1.map (·.id), path := [] } = true := by
  rw [← source_GetCertificates_run ts w t n hsorted]
  exact model_holds _

/-! non-vacuity: the translated functions run on concrete oracles -/
def exRoot (k : Nat) : x509.Certificate :=
  { id := k, IsCA := true, RawSubject := [k], RawIssuer := [k], SignatureAlgorithm := 1, RawTBSCertificate := [k],
    Signature := [k], signOk := true, weakSig := false, selfSigErr := none }
def exInter (k : Nat) : x509.Certificate := { exRoot k with RawIssuer := [0], selfSigErr := some ⟨"x509"⟩ }
def exStore : x509TrustStore := ⟨⟨fun p => (p, none)⟩⟩
/-- a real directory listing `a.pem` and `second`; every file read yields `cs` -/
def exWorld (cs : List x509.Certificate) (second : fs.DirEntry) : World :=
  { Lstat := fun _ => (⟨fs.ModeDir⟩, none),
    ReadDir := fun _ => ([⟨"a.pem", false, default⟩, second], none),
    ReadCertificateFile := fun _ => (cs, none) }

example : ((x509TrustStore.GetCertificates exStore (exWorld [exRoot 1, exInter 2] ⟨"b.pem", false, default⟩) () "ca" "acme").1.map (·.id),
    (x509TrustStore.GetCertificates exStore (exWorld [exRoot 1, exInter 2] ⟨"b.pem", false, default⟩) () "ca" "acme").2) =
    ([1, 2, 1, 2], none) := by decide +kernel
/-- the same store as a tsa store: certificate 2 is not a self-signed root -/
example : x509TrustStore.GetCertificates exStore (exWorld [exRoot 1, exInter 2] ⟨"b.pem", false, default⟩) () "tsa" "acme" =
    ([], some ⟨"CertificateError"⟩) := by decide +kernel
/-- a symlink next to a good file, an unknown type, a dot name -/
example : x509TrustStore.GetCertificates exStore (exWorld [exRoot 1] ⟨"b.pem", false, fs.ModeSymlink⟩) () "ca" "acme" =
    ([], some ⟨"CertificateError"⟩) := by decide +kernel
example : x509TrustStore.GetCertificates exStore (exWorld [exRoot 1] ⟨"b.pem", false, default⟩) () "CA" "acme" =
    ([], some ⟨"TrustStoreError"⟩) := by decide +kernel
example : x509TrustStore.GetCertificates exStore (exWorld [exRoot 1] ⟨"b.pem", false, default⟩) () "ca" ".." =
    ([], some ⟨"TrustStoreError"⟩) := by decide +kernel
example : (ValidateCertificates [exRoot 1, { exInter 2 with IsCA := false }]).isSome = true := by decide +kernel
example : isRootCACertificate (exRoot 1) = none ∧ (isRootCACertificate (exInter 2)).isSome = true := by decide +kernel
example : dir.X509TrustStoreDir ["ca", "acme"] = "truststore/x509/ca/acme" := by decide +kernel
example : file.IsValidFileName "acme.roots" = true ∧ file.IsValidFileName ".." = false ∧ file.IsValidFileName "a/b" = false := by decide +kernel

end Tie

end NotationModel.C13
