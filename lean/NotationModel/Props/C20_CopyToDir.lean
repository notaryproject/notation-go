/-
C20 - `file.CopyToDir` (internal/file/file.go), the step by which one plugin file reaches the plugin
directory, translated on every run (Generated/SrcC20c.lean, protocol translator) and tied for EVERY
oracle - every pattern of failing calls, every mode `os.Stat` may report:

* `source_CopyToDir_refines_protocol`: stat the source; refuse anything that is not a regular file
  BEFORE touching anything; open it; make the destination directory; create `dst/base(src)` - no
  other name; set its mode to the source's permission bits masked with 0755; copy; and on every
  path close what was opened, the destination before the source (Go's defer order), exactly once;
* `source_CopyToDir_non_regular_touches_nothing`, `source_CopyToDir_closes_what_it_opened`,
  `copied_mode_never_group_or_world_writable`.
-/
import NotationModel.Generated.SrcC20c

namespace NotationModel.C20.TieCp
open NotationModel.Src NotationModel.Src.copyproto

/-- the protocol of one copy, written down independently of the source -/
def protocol (o : Oracle) (log0 : List Call) (src dst : String) : Option GoLite.Err × List Call :=
  let l1 := log0 ++ [Call.stat src]
  match o.fault l1 with
  | some e => (some e, l1)
  | none =>
    let m := o.statMode l1
    if m.regular = false then (some ErrNotRegularFile, l1)
    else
      let l2 := l1 ++ [Call.open_ src]
      match o.fault l2 with
      | some e => (some e, l2)
      | none =>
        let s : File := ⟨src⟩
        let l3 := l2 ++ [Call.mkdirAll dst 493]
        match o.fault l3 with
        | some e => (some e, l3 ++ [Call.close s])
        | none =>
          let d : File := ⟨filepath.Join dst (filepath.Base src)⟩
          let l4 := l3 ++ [Call.create d.name]
          match o.fault l4 with
          | some e => (some e, l4 ++ [Call.close s])
          | none =>
            let l5 := l4 ++ [Call.chmod d ⟨false, m.perm &&& 493⟩]
            match o.fault l5 with
            | some e => (some e, l5 ++ [Call.close d, Call.close s])
            | none =>
              let l6 := l5 ++ [Call.copy d s]
              (o.fault l6, l6 ++ [Call.close d, Call.close s])

theorem source_CopyToDir_refines_protocol (o : Oracle) (log0 : List Call) (src dst : String) :
    runCP (CopyToDir src dst) o log0 = protocol o log0 src dst := by
  unfold runCP CopyToDir protocol
  -- normalise the translated function to the protocol's decision tree (`↓reduceIte` decides an early return
  -- before its branches are visited; call logs flattened to `log0 ++ [c1, .., cn]` on both sides), then one
  -- `cases` per call on the oracle's answer to it, its scrutinee written in that flattened form
  simp only [CP.bind_assoc, CP.pure_bind, CP.ite_bind, CP.discard_bind,
    os.Stat_bind, os.Open_bind, os.Create_bind, io.Copy_bind, perform_bind, os.MkdirAll, File.Close, File.Chmod,
    CP.ite_apply, CP.pure_apply, Option.isSome_some, Option.isSome_none, ↓reduceIte, Bool.false_eq_true,
    FileInfo.Mode, FileMode.IsRegular, bitAnd, os.FileMode, Int.reduceToNat,
    List.append_assoc, List.cons_append, List.nil_append]
  cases o.fault (log0 ++ [Call.stat src]) with
  | some e => rfl
  | none =>
    cases (o.statMode (log0 ++ [Call.stat src])).regular with
    | false => rfl
    | true =>
      cases o.fault (log0 ++ [Call.stat src, Call.open_ src]) with
      | some e => rfl
      | none =>
        cases o.fault (log0 ++ [Call.stat src, Call.open_ src, Call.mkdirAll dst 493]) with
        | some e => rfl
        | none =>
          cases o.fault (log0 ++ [Call.stat src, Call.open_ src, Call.mkdirAll dst 493,
              Call.create (filepath.Join dst (filepath.Base src))]) with
          | some e => rfl
          | none =>
            cases o.fault (log0 ++ [Call.stat src, Call.open_ src, Call.mkdirAll dst 493,
                Call.create (filepath.Join dst (filepath.Base src)),
                Call.chmod ⟨filepath.Join dst (filepath.Base src)⟩
                  ⟨false, (o.statMode (log0 ++ [Call.stat src])).perm &&& 493⟩]) <;> rfl

/-- **A source that is not a regular file touches nothing**: one `stat`, an error, no other call. -/
theorem source_CopyToDir_non_regular_touches_nothing (o : Oracle) (log0 : List Call) (src dst : String)
    (h1 : o.fault (log0 ++ [Call.stat src]) = none)
    (hr : (o.statMode (log0 ++ [Call.stat src])).regular = false) :
    runCP (CopyToDir src dst) o log0 = (some ErrNotRegularFile, log0 ++ [Call.stat src]) := by
  rw [source_CopyToDir_refines_protocol]
  simp [protocol, h1, hr]

/-- the mode given to the copy never grants write permission to group or others (0755 mask; 18 = 0022) -/
theorem copied_mode_never_group_or_world_writable (p : Nat) : (p &&& 493) &&& 18 = 0 := by
  rw [Nat.and_assoc]
  simp

/-- **Every file that was opened is closed**, whatever fails afterwards: once the source is open the
calls END with its close, and once the destination is created its close is among them. -/
theorem source_CopyToDir_closes_what_it_opened (o : Oracle) (log0 : List Call) (src dst : String)
    (hs : o.fault (log0 ++ [Call.stat src]) = none)
    (hr : (o.statMode (log0 ++ [Call.stat src])).regular = true)
    (ho : o.fault (log0 ++ [Call.stat src, Call.open_ src]) = none) :
    ((runCP (CopyToDir src dst) o log0).2.drop log0.length).getLast? = some (Call.close ⟨src⟩) ∧
      (o.fault (log0 ++ [Call.stat src, Call.open_ src, Call.mkdirAll dst 493]) = none →
       o.fault (log0 ++ [Call.stat src, Call.open_ src, Call.mkdirAll dst 493,
          Call.create (filepath.Join dst (filepath.Base src))]) = none →
        Call.close ⟨filepath.Join dst (filepath.Base src)⟩ ∈ (runCP (CopyToDir src dst) o log0).2.drop log0.length) := by
  rw [source_CopyToDir_refines_protocol]
  simp only [protocol, List.append_assoc, List.cons_append, List.nil_append, hs, hr, ho, Bool.true_eq_false, if_false]
  cases h3 : o.fault (log0 ++ [Call.stat src, Call.open_ src, Call.mkdirAll dst 493]) with
  | some e => simp
  | none =>
    cases h4 : o.fault (log0 ++ [Call.stat src, Call.open_ src, Call.mkdirAll dst 493,
        Call.create (filepath.Join dst (filepath.Base src))]) with
    | some e => simp
    | none =>
      cases o.fault (log0 ++ [Call.stat src, Call.open_ src, Call.mkdirAll dst 493,
          Call.create (filepath.Join dst (filepath.Base src)),
          Call.chmod ⟨filepath.Join dst (filepath.Base src)⟩
            ⟨false, (o.statMode (log0 ++ [Call.stat src])).perm &&& 493⟩]) <;> simp

/-! non-vacuity -/

def okOracle : Oracle := { fault := fun _ => none, statMode := fun _ => ⟨true, 511⟩ }

example : runCP (CopyToDir "/s/notation-foo" "/p/foo") okOracle =
    (none, [.stat "/s/notation-foo", .open_ "/s/notation-foo", .mkdirAll "/p/foo" 493,
            .create "/p/foo/notation-foo", .chmod ⟨"/p/foo/notation-foo"⟩ ⟨false, 493⟩,
            .copy ⟨"/p/foo/notation-foo"⟩ ⟨"/s/notation-foo"⟩, .close ⟨"/p/foo/notation-foo"⟩,
            .close ⟨"/s/notation-foo"⟩]) := by decide +kernel

end NotationModel.C20.TieCp
