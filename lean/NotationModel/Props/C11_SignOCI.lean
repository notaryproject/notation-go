/-
C11 - `notation.SignOCI` translated AS A WHOLE (Generated/SrcSignOCI.lean, written from notation.go on
every run by extract/go2lean_fs.go) and tied, for EVERY oracle - every repository, signer, reference
parser - to the protocol the property describes:

  refuse bad arguments and a nil repository before touching anything;
  resolve the reference (the tag-or-digest part of a full reference, else the text as given);
  refuse a digest reference that resolved to another digest;
  add the caller's metadata to a COPY of the resolved descriptor (the translated
  `addUserMetadataToDescriptor`: reserved prefix and collisions refused);
  have the signer sign exactly THAT descriptor;
  push exactly the signer's envelope, of the requested media type, with the annotations
  `generateAnnotations` computes, onto exactly the RESOLVED descriptor;
  return the resolved descriptor and the pushed manifest's.

The tie proves the translated function equal to `protocol`, result and log of calls; the property's sentences are
then read off the protocol's outcomes.

Assumed (trusted base): the conventions of Src/TypesSignOCI.lean (calls on `repo` and `signer` are
the only effects; logging dropped; error messages not modelled; `errors.As` by error kind).
-/
import NotationModel.Generated.SrcSignOCI
-- `digest_ne'` (the comparison in the other orientation) is unused on the current translation
set_option linter.unusedSimpArgs false

namespace NotationModel.C11.TieS
open NotationModel.Src NotationModel.Src.signoci

abbrev Desc := ocispec.Descriptor
abbrev Result := Desc × Desc × Option GoLite.Err

def refusal (e : GoLite.Err) : Result := (default, default, some e)

/-- the reference handed to `repo.Resolve` -/
def refOf (o : Oracle) (opts : SignOptions) : String :=
  match o.parseRef opts.ArtifactReference with
  | some r => r
  | none => opts.ArtifactReference

/-- the end of the protocol: annotations, push, result. `pa` = what `PluginAnnotations()` answered (nil when the
signer has no such method), `l3` = the log so far -/
def pushPart (o : Oracle) (opts : SignOptions) (d : Desc) (sig : Sig) (si : Option signature.SignerInfo)
    (pa : Option AnnMap) (l3 : List Call) : Result × List Call :=
  match genAnn o.annEnv si pa with
  | (_, some e) => (refusal e, l3)
  | (ann, none) =>
    let l4 := l3 ++ [Call.push opts.SignatureMediaType sig d ann]
    match o.push l4 with
    | (_, sd, none) => ((d, sd, none), l4)
    | (_, sd, some e) =>
      if e = errReferrersIndexDelete then ((d, sd, some e), l4)
      else (refusal ErrorPushSignatureFailed, l4)

/-- the middle: metadata, signing. `d` = the resolved descriptor, `l1` = the log so far -/
def signPart (o : Oracle) (opts : SignOptions) (d : Desc) (l1 : List Call) : Result × List Call :=
  match signoci.addUserMetadataToDescriptor d opts.UserMetadata with
  | (_, some e) => (refusal e, l1)
  | (ds, none) =>
    let l2 := l1 ++ [Call.sign ds opts.SignerSignOptions]
    match o.sign l2 with
    | .error e => (refusal e, l2)
    | .ok (sig, si) =>
      if o.implementsAnnotations = true then
        pushPart o opts d sig si (o.pluginAnnotations (l2 ++ [Call.pluginAnnotations])) (l2 ++ [Call.pluginAnnotations])
      else pushPart o opts d sig si none l2

/-- **The protocol**, written down independently of the source. -/
def protocol (o : Oracle) (signer : Option Signer) (repo : Option Repository) (opts : SignOptions)
    (log0 : List Call) : Result × List Call :=
  match signoci.validateSignArguments signer opts.SignerSignOptions with
  | some e => (refusal e, log0)
  | none =>
    if repo.isNone then (refusal (GoLite.errorf "repo cannot be nil"), log0)
    else
      let ref := refOf o opts
      let l1 := log0 ++ [Call.resolve ref]
      match o.resolve l1 with
      | .error e => (refusal e, l1)
      | .ok d =>
        if d.Digest = ref then signPart o opts d l1
        else if o.isDigest ref = true then
          (refusal (GoLite.errorf "user input digest %s does not match the resolved digest %s"), l1)
        else signPart o opts d l1

/-- the comparison `artifactRef != artifactManifestDesc.Digest.String()` -/
theorem digest_ne (a b : String) : (a != Digest.String b) = !(decide (b = a)) := by
  unfold Digest.String
  by_cases h : b = a
  · subst h; simp
  · have : ¬ a = b := fun e => h e.symm
    simp [h, this]

/-- the same comparison written the other way round, for a regenerated text that has `b != a` -/
theorem digest_ne' (a b : String) : (Digest.String b != a) = !(decide (b = a)) := by
  rw [bne_comm, digest_ne]

theorem asReferrers_indexDelete (e : GoLite.Err) :
    ((asReferrersError (some e)).isSome && ReferrersError.IsReferrersIndexDelete (asReferrersError (some e))) =
      decide (e = errReferrersIndexDelete) := by
  have hne : errReferrersOther ≠ errReferrersIndexDelete := by decide
  unfold asReferrersError ReferrersError.IsReferrersIndexDelete
  by_cases h1 : e = errReferrersIndexDelete
  · simp [h1]
  · by_cases h2 : e = errReferrersOther
    · subst h2; simp [hne]
    · simp [h1, h2]

/-- the tests on an error value that an answer of the oracle settles -/
theorem err_tests {α : Type} :
    (((none : Option α).isSome = true) = False) ∧ (∀ a : α, ((some a).isSome = true) = True) ∧
    (((none : Option α).isNone = true) = True) ∧ (∀ a : α, ((some a).isNone = true) = False) := by simp

/-- **Tie.** For every oracle, signer, repository, options and starting log, the translated
`notation.SignOCI` returns what the protocol returns and has made exactly the protocol's calls.

The code after an `if` without `else` is a join point (`__do_jp`) of the translated term, used in both branches; the
join points are the stages of the protocol. Each is named when the execution reaches it (`fromResolve`: from
`repo.Resolve` on; `fromMetadata`: from `addUserMetadataToDescriptor` on; `fromAnnotations`: from
`generateAnnotations` on), proved equal to its part of the protocol for every log and argument, and used folded
afterwards. `simp -zeta` keeps the `have`s so that the next join point can still be named. -/
theorem source_SignOCI_refines_protocol (o : Oracle) (signer : Option Signer) (repo : Option Repository)
    (opts : SignOptions) (log0 : List Call) :
    runSO (SignOCI signer repo opts) o log0 = protocol o signer repo opts log0 := by
  unfold runSO SignOCI
  extract_lets _ _ nilAnn fromResolve
  unfold protocol
  cases hv : validateSignArguments signer opts.SignerSignOptions with
  | some e => rfl
  | none =>
    cases repo with
    | none => rfl
    | some rp =>
      simp only [SO.bind_apply, err_tests, ↓reduceIte]
      -- whether or not the reference parses, `Resolve` is asked for `refOf`
      refine Eq.trans (b := fromResolve () (refOf o opts) o log0) ?_ ?_
      · unfold refOf parseReference
        cases o.parseRef opts.ArtifactReference <;> rfl
      cases hr : o.resolve (log0 ++ [Call.resolve (refOf o opts)]) with
      | error e =>
        simp -zeta only [SO.bind_apply, err_tests, ↓reduceIte, fromResolve, Repository.Resolve_apply, hr]; rfl
      | ok d =>
        simp -zeta only [SO.bind_apply, err_tests, ↓reduceIte, fromResolve, Repository.Resolve_apply, hr]
        extract_lets mdErr fromMetadata
        have hsign : ∀ l, fromMetadata () o l = signPart o opts d l := by
          intro l
          unfold signPart
          rcases hm : addUserMetadataToDescriptor d opts.UserMetadata with ⟨ds, _ | e⟩
          · simp only []
            cases hs : o.sign (l ++ [Call.sign ds opts.SignerSignOptions]) with
            | error e =>
              simp -zeta only [SO.bind_apply, err_tests, ↓reduceIte, fromMetadata, mdErr, hm, Signer.Sign_apply, hs]; rfl
            | ok p =>
              obtain ⟨sig, si⟩ := p
              -- `rw`, not `simp`, for the bind of `Sign`: the continuation of the bind after it begins with the
              -- join point, which `simp` unfolds while it instantiates `SO.bind_apply`
              simp -zeta only [fromMetadata, mdErr, hm, err_tests, ↓reduceIte]
              rw [SO.bind_apply, Signer.Sign_apply, hs]
              simp -zeta only [err_tests, ↓reduceIte]
              extract_lets fromAnnotations
              have hpush : ∀ pa l, fromAnnotations () pa o l = pushPart o opts d sig si pa l := by
                intro pa l
                unfold pushPart
                rcases hg : genAnn o.annEnv si pa with ⟨ann, _ | e⟩
                · simp only []
                  rcases hp : o.push (l ++ [Call.push opts.SignatureMediaType sig d ann]) with ⟨_, sd, _ | e⟩
                  · simp -zeta only [SO.bind_apply, err_tests, ↓reduceIte, fromAnnotations, generateAnnotations, hg,
                      Repository.PushSignature, hp]
                    rfl
                  · simp -zeta only [SO.bind_apply, err_tests, ↓reduceIte, fromAnnotations, generateAnnotations, hg,
                      Repository.PushSignature, hp, asReferrers_indexDelete, decide_eq_true_eq]
                    split <;> rfl
                · simp -zeta only [SO.bind_apply, err_tests, ↓reduceIte, fromAnnotations, generateAnnotations, hg]; rfl
              cases himpl : o.implementsAnnotations
              · simp -zeta only [SO.bind_apply, ↓reduceIte, asSignerAnnotation, himpl, Bool.false_eq_true, hpush, nilAnn]
              · simp -zeta only [SO.bind_apply, ↓reduceIte, asSignerAnnotation, himpl, SignerAnnotation.PluginAnnotations,
                  hpush]
          · simp -zeta only [err_tests, ↓reduceIte, fromMetadata, mdErr, hm]; rfl
        by_cases hd : d.Digest = refOf o opts
        · simp -zeta only [↓reduceIte, digest_ne, digest_ne', hd, decide_true, Bool.not_true, Bool.false_eq_true, hsign]
        · cases hdig : o.isDigest (refOf o opts)
          · simp -zeta only [SO.bind_apply, err_tests, ↓reduceIte, digest_ne, digest_ne', hd, decide_false, Bool.not_false,
              digestParse, hdig, Bool.false_eq_true, hsign]
          · simp -zeta only [SO.bind_apply, err_tests, ↓reduceIte, digest_ne, digest_ne', hd, decide_false, Bool.not_false,
              digestParse, hdig]
            rfl

/-! ### what a run leaves behind, stage by stage

`r`: result and log after the stage; the log before it is `l0 ++ pre`, `l0` the log the run started from. -/

/-- the last stage: an error and no further call, or one push of `sig` onto `d` with the generated annotations;
only then can the result be a success, and it names `d` -/
def PushOutcome (o : Oracle) (opts : SignOptions) (d : Desc) (sig : Sig) (si : Option signature.SignerInfo)
    (pa : Option AnnMap) (l0 pre : List Call) (r : Result × List Call) : Prop :=
  (r.2 = l0 ++ pre ∧ r.1.2.2.isSome) ∨
  ∃ ann, genAnn o.annEnv si pa = (ann, none) ∧
    r.2 = l0 ++ (pre ++ [Call.push opts.SignatureMediaType sig d ann]) ∧ (r.1.2.2 = none → r.1.1 = d)

theorem pushPart_outcome (o : Oracle) (opts : SignOptions) (d : Desc) (sig : Sig) (si : Option signature.SignerInfo)
    (pa : Option AnnMap) (l0 pre : List Call) :
    PushOutcome o opts d sig si pa l0 pre (pushPart o opts d sig si pa (l0 ++ pre)) := by
  unfold pushPart
  rcases hg : genAnn o.annEnv si pa with ⟨ann, _ | e⟩
  · refine Or.inr ⟨ann, hg, ?_⟩
    simp only [List.append_assoc]
    rcases o.push (l0 ++ (pre ++ [Call.push opts.SignatureMediaType sig d ann])) with ⟨_, sd, _ | e⟩
    · exact ⟨rfl, fun _ => rfl⟩
    · simp only []
      split
      · exact ⟨rfl, fun _ => rfl⟩
      · exact ⟨rfl, fun h => nomatch h⟩
  · exact Or.inl ⟨rfl, rfl⟩

/-- the `PluginAnnotations()` step after the log `l0 ++ pre`: asked only of a signer that has the method -/
def paCalls (o : Oracle) : List Call := if o.implementsAnnotations = true then [Call.pluginAnnotations] else []
def paAnswer (o : Oracle) (l0 pre : List Call) : Option AnnMap :=
  if o.implementsAnnotations = true then o.pluginAnnotations (l0 ++ (pre ++ [Call.pluginAnnotations])) else none

/-- from the metadata on: refused before the signer is called; or one `Sign` call that fails; or the signer's
answer, the `PluginAnnotations()` step and the last stage -/
def SignOutcome (o : Oracle) (opts : SignOptions) (d : Desc) (l0 pre : List Call) (r : Result × List Call) : Prop :=
  (r.2 = l0 ++ pre ∧ r.1.2.2.isSome) ∨
  ∃ ds, signoci.addUserMetadataToDescriptor d opts.UserMetadata = (ds, none) ∧
    ((r.2 = l0 ++ (pre ++ [Call.sign ds opts.SignerSignOptions]) ∧ r.1.2.2.isSome) ∨
     ∃ sig si, o.sign (l0 ++ (pre ++ [Call.sign ds opts.SignerSignOptions])) = .ok (sig, si) ∧
       PushOutcome o opts d sig si (paAnswer o l0 (pre ++ [Call.sign ds opts.SignerSignOptions]))
         l0 (pre ++ Call.sign ds opts.SignerSignOptions :: paCalls o) r)

theorem signPart_outcome (o : Oracle) (opts : SignOptions) (d : Desc) (l0 pre : List Call) :
    SignOutcome o opts d l0 pre (signPart o opts d (l0 ++ pre)) := by
  unfold signPart
  rcases hm : signoci.addUserMetadataToDescriptor d opts.UserMetadata with ⟨ds, _ | e⟩
  · refine Or.inr ⟨ds, hm, ?_⟩
    simp only [List.append_assoc, List.cons_append, List.nil_append]
    rcases hs : o.sign (l0 ++ (pre ++ [Call.sign ds opts.SignerSignOptions])) with e | ⟨sig, si⟩
    · exact Or.inl ⟨rfl, rfl⟩
    · refine Or.inr ⟨sig, si, rfl, ?_⟩
      unfold paAnswer paCalls
      split
      · simpa using pushPart_outcome o opts d sig si _ l0 (pre ++ [Call.sign ds opts.SignerSignOptions, Call.pluginAnnotations])
      · simpa using pushPart_outcome o opts d sig si none l0 (pre ++ [Call.sign ds opts.SignerSignOptions])
  · exact Or.inl ⟨rfl, rfl⟩

/-! ### the property's sentences, read off the translated source through the tie -/

/-- the calls one `SignOCI` adds to the log -/
def newCalls (o : Oracle) (signer : Option Signer) (repo : Option Repository) (opts : SignOptions)
    (log0 : List Call) : List Call :=
  (runSO (SignOCI signer repo opts) o log0).2.drop log0.length

def resultOf (o : Oracle) (signer : Option Signer) (repo : Option Repository) (opts : SignOptions)
    (log0 : List Call) : Result :=
  (runSO (SignOCI signer repo opts) o log0).1

/-- **Bad arguments and a nil repository are refused before anything is touched.** -/
theorem source_SignOCI_refusal_touches_nothing (o : Oracle) (signer : Option Signer) (repo : Option Repository)
    (opts : SignOptions) (log0 : List Call)
    (h : (signoci.validateSignArguments signer opts.SignerSignOptions).isSome ∨ repo = none) :
    newCalls o signer repo opts log0 = [] ∧ (resultOf o signer repo opts log0).2.2.isSome := by
  unfold newCalls resultOf
  rw [source_SignOCI_refines_protocol]
  unfold protocol
  rcases h with h | h
  · cases hv : signoci.validateSignArguments signer opts.SignerSignOptions with
    | none => simp [hv] at h
    | some e => simp [refusal]
  · subst h
    cases hv : signoci.validateSignArguments signer opts.SignerSignOptions <;> simp [refusal]

theorem newCalls_eq {o : Oracle} {signer : Option Signer} {repo : Option Repository} {opts : SignOptions}
    {log0 cs : List Call} (h : (runSO (SignOCI signer repo opts) o log0).2 = log0 ++ cs) :
    newCalls o signer repo opts log0 = cs := by
  unfold newCalls
  rw [h, List.drop_left]

/-- **What one run does**: stopped before any call; or after `Resolve` for `refOf` (error, or a digest reference
answered with another digest); or the metadata stage for the resolved descriptor. -/
theorem source_SignOCI_outcome (o : Oracle) (signer : Option Signer) (repo : Option Repository) (opts : SignOptions)
    (log0 : List Call) :
    (newCalls o signer repo opts log0 = [] ∧ (resultOf o signer repo opts log0).2.2.isSome) ∨
    (newCalls o signer repo opts log0 = [Call.resolve (refOf o opts)] ∧ (resultOf o signer repo opts log0).2.2.isSome) ∨
    ∃ d, o.resolve (log0 ++ [Call.resolve (refOf o opts)]) = .ok d ∧
      SignOutcome o opts d log0 [Call.resolve (refOf o opts)] (runSO (SignOCI signer repo opts) o log0) := by
  unfold newCalls resultOf
  rw [source_SignOCI_refines_protocol]
  unfold protocol
  cases validateSignArguments signer opts.SignerSignOptions with
  | some e => exact Or.inl ⟨List.drop_length, rfl⟩
  | none =>
    cases repo with
    | none => exact Or.inl ⟨List.drop_length, rfl⟩
    | some rp =>
      simp only [Option.isNone_some, Bool.false_eq_true, if_false]
      cases hr : o.resolve (log0 ++ [Call.resolve (refOf o opts)]) with
      | error e => exact Or.inr (Or.inl ⟨List.drop_left, rfl⟩)
      | ok d =>
        simp only []
        have hS := signPart_outcome o opts d log0 [Call.resolve (refOf o opts)]
        by_cases hd : d.Digest = refOf o opts
        · rw [if_pos hd]; exact Or.inr (Or.inr ⟨d, rfl, hS⟩)
        · rw [if_neg hd]
          by_cases hdig : o.isDigest (refOf o opts) = true
          · rw [if_pos hdig]; exact Or.inr (Or.inl ⟨List.drop_left, rfl⟩)
          · rw [if_neg hdig]; exact Or.inr (Or.inr ⟨d, rfl, hS⟩)

/-- **What is signed is exactly what was resolved plus the caller's metadata**: every `Sign` call the
function makes carries the descriptor `addUserMetadataToDescriptor` (translated, Props/C11.lean) builds
from the descriptor the repository resolved for the reference, and the caller's signer options. -/
theorem source_SignOCI_signs_resolved_plus_metadata (o : Oracle) (signer : Option Signer)
    (repo : Option Repository) (opts : SignOptions) (log0 : List Call) (ds : Desc) (so : SignerSignOptions)
    (h : Call.sign ds so ∈ newCalls o signer repo opts log0) :
    ∃ d, o.resolve (log0 ++ [Call.resolve (refOf o opts)]) = .ok d ∧
      signoci.addUserMetadataToDescriptor d opts.UserMetadata = (ds, none) ∧ so = opts.SignerSignOptions := by
  rcases source_SignOCI_outcome o signer repo opts log0 with ⟨hl, _⟩ | ⟨hl, _⟩ | ⟨d, hd, hS⟩
  · simp [hl] at h
  · simp [hl] at h
  · refine ⟨d, hd, ?_⟩
    -- wherever the run stopped, the only `Sign` call in its log is the one for `ds'`
    rcases hS with ⟨hl, _⟩ | ⟨ds', hm, ⟨hl, _⟩ | ⟨sig, si, _, ⟨hl, _⟩ | ⟨ann, _, hl, _⟩⟩⟩ <;>
      simp [newCalls_eq hl, paCalls] at h
    all_goals rw [h.1, h.2]; exact ⟨hm, rfl⟩

/-- **The signature is attached to exactly the resolved artifact**: every `PushSignature` call carries
the RESOLVED descriptor as subject (not the copy with metadata), the requested media type, the envelope
the signer returned for the descriptor with metadata, and the annotations `generateAnnotations` computed. -/
theorem source_SignOCI_pushes_onto_resolved (o : Oracle) (signer : Option Signer)
    (repo : Option Repository) (opts : SignOptions) (log0 : List Call) (mt : String) (sig : Sig)
    (subject : Desc) (ann : AnnMap)
    (h : Call.push mt sig subject ann ∈ newCalls o signer repo opts log0) :
    o.resolve (log0 ++ [Call.resolve (refOf o opts)]) = .ok subject ∧ mt = opts.SignatureMediaType ∧
      ∃ ds si, signoci.addUserMetadataToDescriptor subject opts.UserMetadata = (ds, none) ∧
        o.sign (log0 ++ [Call.resolve (refOf o opts), Call.sign ds opts.SignerSignOptions]) = .ok (sig, si) ∧
        genAnn o.annEnv si
          (if o.implementsAnnotations = true then
            o.pluginAnnotations (log0 ++ [Call.resolve (refOf o opts), Call.sign ds opts.SignerSignOptions,
              Call.pluginAnnotations])
           else none) = (ann, none) := by
  rcases source_SignOCI_outcome o signer repo opts log0 with ⟨hl, _⟩ | ⟨hl, _⟩ | ⟨d, hd, hS⟩
  · simp [hl] at h
  · simp [hl] at h
  · -- only a run that went through all stages has a push in its log, and only that one
    rcases hS with ⟨hl, _⟩ | ⟨ds, hm, ⟨hl, _⟩ | ⟨sig', si, hs, ⟨hl, _⟩ | ⟨ann', hg, hl, _⟩⟩⟩ <;>
      simp [newCalls_eq hl, paCalls] at h
    obtain ⟨rfl, rfl, rfl, rfl⟩ := h
    exact ⟨hd, rfl, ds, si, hm, hs, hg⟩

/-- **A digest reference that resolves to another digest is refused**, after the one `Resolve` call and
before anything is signed or pushed. -/
theorem source_SignOCI_digest_mismatch_refused (o : Oracle) (signer : Option Signer) (rp : Repository)
    (opts : SignOptions) (log0 : List Call) (d : Desc)
    (hv : signoci.validateSignArguments signer opts.SignerSignOptions = none)
    (hr : o.resolve (log0 ++ [Call.resolve (refOf o opts)]) = .ok d)
    (hdig : o.isDigest (refOf o opts) = true) (hne : d.Digest ≠ refOf o opts) :
    newCalls o signer (some rp) opts log0 = [Call.resolve (refOf o opts)] ∧
      (resultOf o signer (some rp) opts log0).2.2.isSome := by
  unfold newCalls resultOf
  rw [source_SignOCI_refines_protocol]
  unfold protocol
  simp [hv, hr, hdig, hne, refusal]

/-- **At most one signature is pushed, and only after a successful `Resolve` and `Sign`**; the
repository sees no other call. -/
theorem source_SignOCI_call_shapes (o : Oracle) (signer : Option Signer) (repo : Option Repository)
    (opts : SignOptions) (log0 : List Call) :
    let cs := newCalls o signer repo opts log0
    cs = [] ∨ (∃ r, cs = [Call.resolve r]) ∨ (∃ r ds so, cs = [Call.resolve r, Call.sign ds so]) ∨
    (∃ r ds so, cs = [Call.resolve r, Call.sign ds so, Call.pluginAnnotations]) ∨
    (∃ r ds so mt sig d ann, cs = [Call.resolve r, Call.sign ds so, Call.push mt sig d ann]) ∨
    (∃ r ds so mt sig d ann, cs = [Call.resolve r, Call.sign ds so, Call.pluginAnnotations, Call.push mt sig d ann]) := by
  intro cs
  rcases source_SignOCI_outcome o signer repo opts log0 with ⟨hl, _⟩ | ⟨hl, _⟩ | ⟨d, hd, hS⟩
  · exact Or.inl hl
  · exact Or.inr (Or.inl ⟨_, hl⟩)
  · rcases hS with ⟨hl, _⟩ | ⟨ds, hm, ⟨hl, _⟩ | ⟨sig, si, hs, hP⟩⟩
    · exact Or.inr (Or.inl ⟨_, newCalls_eq hl⟩)
    · exact Or.inr (Or.inr (Or.inl ⟨_, _, _, newCalls_eq hl⟩))
    · unfold paCalls at hP
      split at hP
      · rcases hP with ⟨hl, _⟩ | ⟨ann, _, hl, _⟩
        · exact Or.inr (Or.inr (Or.inr (Or.inl ⟨_, _, _, newCalls_eq hl⟩)))
        · exact Or.inr (Or.inr (Or.inr (Or.inr (Or.inr ⟨_, _, _, _, _, _, _, newCalls_eq hl⟩))))
      · rcases hP with ⟨hl, _⟩ | ⟨ann, _, hl, _⟩
        · exact Or.inr (Or.inr (Or.inl ⟨_, _, _, newCalls_eq hl⟩))
        · exact Or.inr (Or.inr (Or.inr (Or.inr (Or.inl ⟨_, _, _, _, _, _, _, newCalls_eq hl⟩))))

/-- **Success hands back the resolved descriptor and the pushed manifest's**, and a push happened. -/
theorem source_SignOCI_success (o : Oracle) (signer : Option Signer) (repo : Option Repository)
    (opts : SignOptions) (log0 : List Call)
    (h : (resultOf o signer repo opts log0).2.2 = none) :
    o.resolve (log0 ++ [Call.resolve (refOf o opts)]) = .ok (resultOf o signer repo opts log0).1 ∧
      ∃ mt sig ann, Call.push mt sig (resultOf o signer repo opts log0).1 ann ∈ newCalls o signer repo opts log0 := by
  have no : (resultOf o signer repo opts log0).2.2.isSome = true → False := fun he => by
    rw [h] at he; exact nomatch he
  -- only a run that reached the push can succeed, and it returns the resolved descriptor
  rcases source_SignOCI_outcome o signer repo opts log0 with ⟨_, he⟩ | ⟨_, he⟩ | ⟨d, hd, hS⟩
  · exact (no he).elim
  · exact (no he).elim
  · unfold resultOf at h ⊢
    rcases hS with ⟨_, he⟩ | ⟨ds, _, ⟨_, he⟩ | ⟨sig, si, _, ⟨_, he⟩ | ⟨ann, _, hl, hr⟩⟩⟩
    · exact (no he).elim
    · exact (no he).elim
    · exact (no he).elim
    · rw [hr h, newCalls_eq hl]; exact ⟨hd, opts.SignatureMediaType, sig, ann, by simp⟩

/-! ### non-vacuity: the translated function run on a concrete oracle -/

def exDesc : Desc := { MediaType := "application/vnd.oci.image.manifest.v1+json", Digest := "sha256:aa", Size := 7, Annotations := [] }

def exOracle : Oracle :=
  { parseRef := fun s => if s = "reg.io/repo:v1" then some "v1" else none
    isDigest := fun s => s = "sha256:cc"
    resolve := fun _ => .ok exDesc
    sign := fun _ => .ok ([1, 2, 3], some ⟨[⟨[9]⟩]⟩)
    implementsAnnotations := false
    pluginAnnotations := fun _ => none
    push := fun _ => (default, { exDesc with Digest := "sha256:bb" }, none)
    annEnv := { sum256 := id, hex := fun _ => "09", marshal := fun l => .ok (String.intercalate "," l),
                signingTime := fun _ => .ok ⟨0, fun _ => "1970-01-01T00:00:00Z"⟩ } }

def exOpts : SignOptions :=
  { SignerSignOptions := { SignatureMediaType := "application/jose+json", ExpiryDuration := 0 },
    ArtifactReference := "reg.io/repo:v1", UserMetadata := [("k", "v")] }

example : (runSO (SignOCI (some {}) (some {}) exOpts) exOracle []).2.map (fun c => match c with
    | .resolve r => "resolve " ++ r | .sign d _ => "sign " ++ d.Digest | .pluginAnnotations => "pa"
    | .push _ _ d _ => "push onto " ++ d.Digest) = ["resolve v1", "sign sha256:aa", "push onto sha256:aa"] := by
  decide +kernel

/-- a digest reference resolving elsewhere: one call, an error -/
example : (runSO (SignOCI (some {}) (some {}) { exOpts with ArtifactReference := "sha256:cc" }) exOracle []).2.length = 1 ∧
    (runSO (SignOCI (some {}) (some {}) { exOpts with ArtifactReference := "sha256:cc" }) exOracle []).1.2.2.isSome = true := by
  decide +kernel

end NotationModel.C11.TieS
