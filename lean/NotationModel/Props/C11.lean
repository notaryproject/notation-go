/-
C11 - Signing an OCI artifact signs exactly what was resolved and changes nothing else.
The theorems about the model of `Model/C11.lean`: the pieces of a call over the heap model, the per-call theorem
`signOCI_spec` under the history invariant `Inv`, the closed form of a whole history `run_eq_spec` (signing calls
interleaved with tag moves, deletions and re-creations, any length), `model_holds`, the readable corollaries (each read
off `call_obs`), and in `namespace Tie` the ties to the translated source (`Generated/SrcC11*.lean`).
Well-formedness hypothesis (explicit, decidable, checked by the driver for every case): `wf i` - there is at least
one artifact; the tag and every step name existing artifacts and an existing PluginConfig map; the keys of every
UserMetadata map and of every PluginConfig map are pairwise different (true of any Go map).
-/
import NotationModel.Model.C11
import NotationModel.Generated.SrcC11
import NotationModel.Generated.SrcC11b
import NotationModel.Generated.SrcC11c
namespace NotationModel.C11

/- the closed-form definitions (these, below also `expectedTrace`, `obsOf`, `expectedObs`) are local simp lemmas:
a `simp` after `rw [call_obs ..]` sees the fields of the observation -/
attribute [local simp] pushes expectedOk sigsAfter

theorem facts_merge_allocates_fresh_map : mergeCopies = true := by decide +kernel

/-- the table the Go code tests against is exactly the prefix the property names -/
theorem facts_reserved_prefixes : Facts.c11ReservedPrefixes = [reservedPrefix] := by decide +kernel

/-- so what the code refuses as reserved is what the property calls reserved -/
theorem isReserved_eq_spec (k : Text) : isReserved k = isReservedSpec k := by
  simp [isReserved, isReservedSpec, facts_reserved_prefixes]

theorem look_put (k v k' : Text) : ∀ m : AnnMap, look k' (put k v m) = if k' = k then some v else look k' m := by
  intro m
  induction m with
  | nil => simp [put, look]
  | cons p r ih =>
    obtain ⟨k1, v1⟩ := p
    simp only [put]
    by_cases h1 : k = k1
    · subst h1
      by_cases h2 : k' = k <;> simp [look, h2]
    · simp only [h1, beq_iff_eq, if_false]
      by_cases h2 : tlt k k1
      · simp [h2, look]
      · rw [if_neg h2]
        simp only [look]
        rw [ih]
        by_cases h3 : k' = k1
        · subst h3
          have : ¬ k' = k := fun h => h1 h.symm
          simp [this]
        · simp [h3]

/-! ### heap lemmas -/

def validRef (h : Heap) : MapRef → Prop
  | none => True
  | some a => a < h.cells.length

theorem prefix_getD {α} {l l' : List α} (hp : l <+: l') {a : Nat} (ha : a < l.length) (d : α) :
    l'.getD a d = l.getD a d := by
  obtain ⟨t, rfl⟩ := hp
  simp [List.getD, List.getElem?_append_left ha]

theorem read_of_prefix {h h' : Heap} (hp : h.cells <+: h'.cells) {r : MapRef} (hv : validRef h r) :
    h'.read r = h.read r := by
  cases r with
  | none => rfl
  | some a => exact prefix_getD hp hv []

theorem validRef_of_prefix {h h' : Heap} (hp : h.cells <+: h'.cells) {r : MapRef} (hv : validRef h r) :
    validRef h' r := by
  cases r with
  | none => trivial
  | some a => exact Nat.lt_of_lt_of_le hv hp.length_le

theorem alloc_cells (h : Heap) (m : AnnMap) : (h.alloc m).1.cells = h.cells ++ [m] := rfl
theorem alloc_addr (h : Heap) (m : AnnMap) : (h.alloc m).2 = h.cells.length := rfl
theorem alloc_prefix (h : Heap) (m : AnnMap) : h.cells <+: (h.alloc m).1.cells := ⟨[m], rfl⟩
theorem alloc_read (h : Heap) (m : AnnMap) : (h.alloc m).1.read (some h.cells.length) = m := by
  simp [Heap.read, Heap.alloc, List.getD]

/-- a write into the cell just allocated: as if its contents had been allocated -/
theorem alloc_write (h : Heap) (m : AnnMap) (k v : Text) :
    (h.alloc m).1.write (some h.cells.length) k v = (h.alloc (put k v m)).1 := by
  simp [Heap.write, Heap.alloc, Heap.read, List.getD]

theorem write_length (h : Heap) (a : Nat) (k v : Text) :
    (h.write (some a) k v).cells.length = h.cells.length := by
  simp [Heap.write]

theorem write_read (h : Heap) (a : Nat) (k v : Text) (ha : a < h.cells.length) :
    (h.write (some a) k v).read (some a) = put k v (h.read (some a)) := by
  simp [Heap.write, Heap.read, List.getD, ha]

theorem write_prefix (h : Heap) (a : Nat) (k v : Text) {l : List AnnMap} (hp : l <+: h.cells) (hl : l.length ≤ a) :
    l <+: (h.write (some a) k v).cells := by
  obtain ⟨t, ht⟩ := hp
  simp only [Heap.write, ← ht]
  rw [List.set_append_right _ _ hl]
  exact ⟨_, rfl⟩


/-! ### the metadata merge -/

def collidesWith (m : AnnMap) (kv : Text × Text) : Bool := (look kv.1 m).isSome

theorem any_congr_mem {α : Type} {f g : α → Bool} : ∀ {l : List α}, (∀ x ∈ l, f x = g x) → l.any f = l.any g := by
  intro l
  induction l with
  | nil => intro _; rfl
  | cons a l ih =>
    intro h
    simp only [List.any_cons, h a (by simp), ih (fun x hx => h x (by simp [hx]))]

theorem any_collides_put (k v : Text) (m : AnnMap) (rest : AnnMap) (h : rest.any (fun kv => kv.1 == k) = false) :
    rest.any (collidesWith (put k v m)) = rest.any (collidesWith m) := by
  apply any_congr_mem
  intro p hp
  have : ¬ p.1 = k := by simpa using List.any_eq_false.1 h p hp
  simp [collidesWith, look_put, this]

theorem merged_cons (m : AnnMap) (k v : Text) (rest : AnnMap) :
    merged m ((k, v) :: rest) = merged (put k v m) rest := rfl

theorem look_none_of_not_any (k : Text) : ∀ m : AnnMap, m.any (fun kv => kv.1 == k) = false → look k m = none := by
  intro m
  induction m with
  | nil => intro _; rfl
  | cons p r ih =>
    intro h
    simp only [List.any_cons, Bool.or_eq_false_iff] at h
    have : ¬ k = p.1 := by
      have := h.1
      intro hk
      simp [hk] at this
    simp [look, this, ih h.2]

theorem look_merged (k : Text) : ∀ (md base : AnnMap), distinctKeys md = true →
    look k (merged base md) = (match look k md with | some v => some v | none => look k base) := by
  intro md
  induction md with
  | nil => intro base _; simp [merged, look]
  | cons p rest ih =>
    intro base hd
    obtain ⟨k1, v1⟩ := p
    simp only [distinctKeys, Bool.and_eq_true, Bool.not_eq_true'] at hd
    rw [merged_cons, ih _ hd.2, look_put]
    by_cases hk : k = k1
    · subst hk
      simp [look, look_none_of_not_any k rest hd.1]
    · simp [look, hk]

/-- the merge loop on the cell just allocated for it: as if the contents it leaves had been allocated; these
are the merged map when no key is refused -/
theorem mergeLoop_alloc (h : Heap) : ∀ (md m : AnnMap), distinctKeys md = true →
    ∃ m', mergeLoop (h.alloc m).1 (some h.cells.length) md =
        ((h.alloc m').1, !(md.any (fun kv => isReserved kv.1)) && !(md.any (collidesWith m))) ∧
      (md.any (fun kv => isReserved kv.1) = false → md.any (collidesWith m) = false → m' = merged m md) := by
  intro md
  induction md with
  | nil => intro m _; exact ⟨m, rfl, fun _ _ => rfl⟩
  | cons p rest ih =>
    intro m hd
    obtain ⟨k, v⟩ := p
    simp only [distinctKeys, Bool.and_eq_true, Bool.not_eq_true'] at hd
    simp only [mergeLoop, alloc_read, List.any_cons, collidesWith]
    by_cases hr : isReserved k = true
    · exact ⟨m, by simp [hr], by simp [hr]⟩
    · by_cases hc : (look k m).isSome = true
      · exact ⟨m, by simp [hr, hc], by simp [hc]⟩
      · obtain ⟨m', e, hm⟩ := ih (put k v m) hd.2
        rw [any_collides_put k v m rest hd.1] at e hm
        refine ⟨m', by simp [hr, hc, alloc_write, e], fun h1 h2 => ?_⟩
        simp only [Bool.or_eq_false_iff] at h1 h2
        exact hm h1.2 h2.2

theorem addUserMetadata_spec (h : Heap) (ann : MapRef) (md : AnnMap) (hv : validRef h ann)
    (hd : distinctKeys md = true) :
    h.cells <+: (addUserMetadata h ann md).1.cells ∧
    validRef (addUserMetadata h ann md).1 (addUserMetadata h ann md).2.1 ∧
    (addUserMetadata h ann md).2.2 =
      (!(md.any (fun kv => isReserved kv.1)) && !(md.any (collidesWith (h.read ann)))) ∧
    ((addUserMetadata h ann md).2.2 = true →
      (addUserMetadata h ann md).1.read (addUserMetadata h ann md).2.1 = merged (h.read ann) md) := by
  unfold addUserMetadata
  by_cases he : md.isEmpty = true
  · have : md = [] := by simpa using he
    subst this
    simp [merged, hv]
  · obtain ⟨m', e, hm⟩ := mergeLoop_alloc h md (h.read ann) hd
    simp only [he, facts_merge_allocates_fresh_map, if_true, if_false, Bool.false_eq_true, alloc_addr, e]
    refine ⟨alloc_prefix h _, by simp [validRef, alloc_cells], trivial, fun hok => ?_⟩
    simp only [Bool.and_eq_true, Bool.not_eq_true'] at hok
    rw [alloc_read, hm hok.1 hok.2]


/-! ### handing out a descriptor -/

theorem handOut_spec (r : Repo) (h : Heap) (k : Nat) (hk : k < h.cells.length) :
    h.cells <+: (handOut r h k).1.cells ∧ validRef (handOut r h k).1 (handOut r h k).2 ∧
    (handOut r h k).1.read (handOut r h k).2 = h.read (some k) := by
  unfold handOut
  by_cases ha : r.aliased = true
  · simp [ha, validRef, hk]
  · simp only [ha, if_false, Bool.false_eq_true]
    refine ⟨alloc_prefix h _, ?_, ?_⟩
    · show h.cells.length < _
      simp [alloc_cells]
    · exact alloc_read h _

/-! ### annotations and push -/

theorem produced_alloc (w : World) (m : AnnMap) : ∀ p ∈ w.handed ++ (w.produced ++ [(some w.heap.cells.length, m)]),
    p ∈ w.handed ++ w.produced ∨ (validRef (w.heap.alloc m).1 p.1 ∧ (w.heap.alloc m).1.read p.1 = p.2) := by
  intro p hp
  rw [← List.append_assoc] at hp
  rcases List.mem_append.1 hp with h | h
  · exact Or.inl h
  · rw [List.mem_singleton.1 h]
    exact Or.inr ⟨by simp [validRef, alloc_cells], alloc_read _ m⟩

theorem annotateAndPush_spec {i : Input} {sg : SignerCfg} {pay : AnnMap} {w : World} {ra : Option Arg}
    {sgn : Option (Nat × AnnMap)} {pc : Option AnnMap} {resolved : MapRef} {k : Nat} (hv : validRef w.heap resolved)
    {r : World × Trace}
    (hr : annotateAndPush i sg pay w { resolveArg := ra, signed := sgn, pluginCfg := pc } resolved k = r) :
    w.heap.cells <+: r.1.heap.cells ∧ r.1.tag = w.tag ∧
    (∀ p ∈ r.1.handed ++ r.1.produced,
      p ∈ w.handed ++ w.produced ∨ (validRef r.1.heap p.1 ∧ r.1.heap.read p.1 = p.2)) ∧
    r.1.sigs = (if effKind sg == .ok && i.repo.push != .fails then bump k w.sigs else w.sigs) ∧
    r.2 =
      { resolveArg := ra, signed := sgn, pluginCfg := pc,
        ok := effKind sg == .ok && i.repo.push == .ok,
        subject := if effKind sg == .ok then some (k, w.heap.read resolved) else none,
        pushAnn := if effKind sg == .ok then some (expectedPushAnn sg) else none,
        payload := if effKind sg == .ok then some (k, pay) else none,
        returnedResolved := effKind sg == .ok && i.repo.push != .fails } := by
  subst hr
  have hold : ∀ m, (w.heap.alloc m).1.read resolved = w.heap.read resolved :=
    fun m => read_of_prefix (alloc_prefix _ m) hv
  unfold annotateAndPush
  -- the two writes go into the cell allocated for the annotations: one allocation of `expectedPushAnn`
  cases hkind : effKind sg with
  | ok =>
    simp only [alloc_addr, alloc_write, hold, alloc_read]
    cases i.repo.push <;> exact ⟨alloc_prefix _ _, rfl, produced_alloc w _, rfl, rfl⟩
  | fails => exact ⟨List.prefix_refl _, rfl, fun p hp => Or.inl hp, rfl, rfl⟩
  | nilInfo => exact ⟨List.prefix_refl _, rfl, fun p hp => Or.inl hp, rfl, rfl⟩
  | noTime =>
    simp only [alloc_addr, alloc_write]
    exact ⟨alloc_prefix _ _, rfl, fun p hp => Or.inl hp, rfl, rfl⟩

/-! ### the invariant of a history -/

/-- the invariant of a history: the cells set up at the start are a prefix of the heap (so they still have
their contents), every annotation map handed out still reads as it did then, and the tag names an artifact -/
def Inv (i : Input) (w : World) : Prop :=
  initCells i <+: w.heap.cells ∧ (∀ p ∈ w.handed ++ w.produced, validRef w.heap p.1 ∧ w.heap.read p.1 = p.2) ∧
  (∀ k, w.tag = some k → k < i.arts.length)

theorem Inv_of {i : Input} {w : World} (hinv : Inv i w) (w' : World) (hp : w.heap.cells <+: w'.heap.cells)
    (ht : w'.tag = w.tag)
    (hnew : ∀ p ∈ w'.handed ++ w'.produced,
      p ∈ w.handed ++ w.produced ∨ (validRef w'.heap p.1 ∧ w'.heap.read p.1 = p.2)) : Inv i w' := by
  refine ⟨hinv.1.trans hp, fun p hpm => ?_, ht ▸ hinv.2.2⟩
  rcases hnew p hpm with hold | hnew
  · obtain ⟨hv, hr⟩ := hinv.2.1 p hold
    exact ⟨validRef_of_prefix hp hv, by rw [read_of_prefix hp hv, hr]⟩
  · exact hnew

theorem Inv_retag {i : Input} {w : World} (hinv : Inv i w) (t : Option Nat) (ht : ∀ k, t = some k → k < i.arts.length) :
    Inv i { w with tag := t } := ⟨hinv.1, hinv.2.1, ht⟩

theorem initCells_length (i : Input) : (initCells i).length = i.arts.length + i.pluginConfigs.length + i.steps.length := by
  simp [initCells]; omega

theorem Inv_len {i : Input} {w : World} (hinv : Inv i w) : i.arts.length ≤ w.heap.cells.length :=
  Nat.le_trans (by rw [initCells_length]; omega) hinv.1.length_le

theorem Inv_art {i : Input} {w : World} (hinv : Inv i w) {k : Nat} (hk : k < i.arts.length) :
    w.heap.read (some k) = (artAt i k).ann := by
  have := prefix_getD hinv.1 (a := k) (by rw [initCells_length]; omega) ([] : AnnMap)
  have hk' : k < (i.arts.map (·.ann)).length := by simpa using hk
  simp only [Heap.read, this, initCells, List.append_assoc, List.getD_eq_getElem?_getD,
    List.getElem?_append_left hk', artAt]
  simp [List.getElem?_eq_getElem hk]

theorem Inv_cfg {i : Input} {w : World} (hinv : Inv i w) {c : Nat} (hc : c < i.pluginConfigs.length) :
    w.heap.read (some (i.arts.length + c)) = i.pluginConfigs.getD c [] := by
  have := prefix_getD hinv.1 (a := i.arts.length + c) (by rw [initCells_length]; omega) ([] : AnnMap)
  have h1 : (i.arts.map (·.ann)).length ≤ i.arts.length + c := by simp
  have h2 : i.arts.length + c - (i.arts.map (·.ann)).length = c := by simp
  simp only [Heap.read, this, initCells, List.append_assoc, List.getD_eq_getElem?_getD,
    List.getElem?_append_right h1, h2, List.getElem?_append_left hc]

/-! ### what a signer hands back -/

theorem covers_self (req : AnnMap) : covers req req = true := by
  simp [covers]

theorem payloadOf_covers (sg : SignerCfg) (req pay : AnnMap) (h : payloadOf sg req = some pay) : covers req pay = true := by
  unfold payloadOf at h
  -- the signers that do not build the envelope themselves hand back what was asked; an envelope plugin is checked
  split at h
  · split at h
    · cases h
    · cases h; exact covers_self req
  · cases h; exact covers_self req
  · cases h; exact covers_self req
  · split at h
    · cases h
    · cases h
    · cases h
    · split at h
      · rename_i hc; cases h; exact hc
      · cases h

/-! ### Resolve, under the invariant -/

theorem byDigest_spec {i : Input} {w : World} (hinv : Inv i w) {k : Nat} (hk : k < i.arts.length) :
    some k = some (resolve.byDigest i.repo w.heap k).2.2 ∧
    w.heap.cells <+: (resolve.byDigest i.repo w.heap k).1.cells ∧
    validRef (resolve.byDigest i.repo w.heap k).1 (resolve.byDigest i.repo w.heap k).2.1 ∧
    (resolve.byDigest i.repo w.heap k).1.read (resolve.byDigest i.repo w.heap k).2.1 =
      (if i.repo.plainByDigest then [] else (artAt i (resolve.byDigest i.repo w.heap k).2.2).ann) := by
  have ho := handOut_spec i.repo w.heap k (Nat.lt_of_lt_of_le hk (Inv_len hinv))
  rw [Inv_art hinv hk] at ho
  unfold resolve.byDigest
  by_cases hp : i.repo.plainByDigest = true
  · simp [hp, validRef, Heap.read]
  · simp only [hp, if_false, Bool.false_eq_true]
    exact ⟨trivial, ho⟩

/-- `Resolve` answers from the current state of the repository - the tag's target is what the tag names now - and the
map it hands out reads as the artifact's annotations did at the start -/
theorem resolve_spec {i : Input} {w : World} (hinv : Inv i w) (c : Step) (hn : 0 < i.arts.length)
    (ht : c.target < i.arts.length) :
    match resolve i.repo w.heap w.tag c.target (refArg c.ref) with
    | none => resolvedArt i w.tag c = none
    | some (h1, res, k) => resolvedArt i w.tag c = some k ∧ w.heap.cells <+: h1.cells ∧ validRef h1 res ∧
        h1.read res = resolvedAnn i c k := by
  unfold resolvedArt resolvedAnn
  cases refArg c.ref
  · cases htg : w.tag with
    | none => simp [resolve]
    | some k =>
      have hk := hinv.2.2 k htg
      have ho := handOut_spec i.repo w.heap k (Nat.lt_of_lt_of_le hk (Inv_len hinv))
      rw [Inv_art hinv hk] at ho
      simp only [resolve]
      exact ⟨trivial, ho⟩
  · exact byDigest_spec hinv ht
  · -- another digest: artifact 0, if the repository answers any digest
    simp only [resolve]
    by_cases hany : i.repo.anyDigest = true
    · simp only [hany, if_true]; exact byDigest_spec hinv hn
    · simp [hany]
  · simp [resolve]
  · simp [resolve]

theorem collides_eq (i : Input) (c : Step) (k : Nat) : collides i c k = c.md.any (collidesWith (resolvedAnn i c k)) := rfl

/-! ### one call -/

/-- the closed form of what a call shows: a function of the input, the call and what the tag names at that moment -/
def expectedTrace (i : Input) (tag : Option Nat) (c : Step) : Trace :=
  { ok := expectedOk i tag c,
    resolveArg := if optsValid c.opts then some (refArg c.ref) else none,
    signed := (reachesSigner i tag c).map (fun k => (k, merged (resolvedAnn i c k) c.md)),
    subject := (reachesPush i tag c).map (fun k => (k, resolvedAnn i c k)),
    pushAnn := (reachesPush i tag c).map (fun _ => expectedPushAnn (signerOf i c)),
    payload := (reachesPush i tag c).bind (fun k => (payloadOf (signerOf i c) (requested i c k)).map (fun p => (k, p))),
    pluginCfg := (reachesSigner i tag c).bind (fun _ =>
      if isPlugin (signerOf i c).impl then some (merged (signerOf i c).config (cfgOf i c)) else none),
    returnedResolved := (pushes i tag c).isSome }

attribute [local simp] expectedTrace

/-- **One call**, from a world under the invariant. `signOCI` and the closed form make the same tests in the same
order; each exit of `signOCI` is the point where `reachesSigner`, then `reachesPush`, then `pushes` turns `none`
(`hsig`), and `hrefused : refused = !ok` ties the model's digest test and merge to `refused`. -/
theorem signOCI_spec (i : Input) (w : World) (c : Step) (hinv : Inv i w) (hn : 0 < i.arts.length)
    (hd : distinctKeys c.md = true) (ht : c.target < i.arts.length) (hcf : c.cfg < i.pluginConfigs.length) :
    Inv i (signOCI i w c).1 ∧
    w.heap.cells <+: (signOCI i w c).1.heap.cells ∧
    (signOCI i w c).1.tag = w.tag ∧
    (signOCI i w c).1.sigs = sigsAfter i w.tag c w.sigs ∧
    (signOCI i w c).2 = expectedTrace i w.tag c := by
  unfold signOCI
  by_cases hov : optsValid c.opts = true
  · simp only [hov, Bool.not_true, Bool.false_eq_true, if_false]
    have hres := resolve_spec hinv c hn ht
    cases hr : resolve i.repo w.heap w.tag c.target (refArg c.ref) with
    | none =>
      rw [hr] at hres
      simp only [] at hres
      refine ⟨hinv, List.prefix_refl _, rfl, ?_, ?_⟩ <;> simp [reachesPush, reachesSigner, hres, hov]
    | some pr =>
      obtain ⟨h1, resolved, k⟩ := pr
      rw [hr] at hres
      simp only [] at hres
      obtain ⟨hrs, hp1, hv1, hrd1⟩ := hres
      have hsig : reachesSigner i w.tag c = if refused i c k then none else some k := by
        simp [reachesSigner, hov, hrs]
      have hinv1 := Inv_of hinv { w with heap := h1, handed := w.handed ++ [(resolved, h1.read resolved)] } hp1 rfl (by
        intro p hp
        simp only [List.mem_append, List.mem_singleton] at hp ⊢
        rcases hp with (h | rfl) | h
        · exact Or.inl (Or.inl h)
        · exact Or.inr ⟨hv1, rfl⟩
        · exact Or.inl (Or.inr h))
      simp only []
      by_cases harg : refArg c.ref = .otherDigest
      · simp only [harg, beq_self_eq_true, if_true]
        refine ⟨hinv1, hp1, trivial, ?_, ?_⟩ <;>
          simp [reachesPush, hsig, refused, digestMismatch, harg, hov]
      · have hne : (refArg c.ref == Arg.otherDigest) = false := by simpa using harg
        simp only [hne, Bool.false_eq_true, if_false]
        obtain ⟨hp2, hv2, hok, hmerged⟩ := addUserMetadata_spec h1 resolved c.md hv1 hd
        rw [hrd1] at hok hmerged
        generalize haum : addUserMetadata h1 resolved c.md = res at hp2 hv2 hok hmerged
        obtain ⟨h2, toSign, ok⟩ := res
        simp only [] at hp2 hv2 hok hmerged ⊢
        have hinv2 := Inv_of hinv1 { w with heap := h2, handed := w.handed ++ [(resolved, h1.read resolved)] } hp2 rfl
          (fun p hp => Or.inl hp)
        have hrefused : refused i c k = !ok := by
          simp [refused, digestMismatch, hne, hasReserved, collides_eq, hok, isReserved_eq_spec]
        cases hokv : ok with
        | false =>
          simp only [Bool.not_false, if_true]
          refine ⟨hinv2, hp1.trans hp2, trivial, ?_, ?_⟩ <;> simp [reachesPush, hsig, hrefused, hokv, hov]
        | true =>
          simp only [Bool.not_true, Bool.false_eq_true, if_false]
          have hv2' : validRef h2 resolved := validRef_of_prefix hp2 hv1
          have hreq : h2.read toSign = requested i c k := by rw [hmerged (by rw [hokv])]; rfl
          have hcfg : h2.read (some (i.arts.length + c.cfg)) = cfgOf i c := Inv_cfg hinv2 hcf
          rw [hreq, hcfg]
          cases hpay : payloadOf (signerOf i c) (requested i c k) with
          | none =>
            simp only []
            refine ⟨hinv2, hp1.trans hp2, trivial, ?_, ?_⟩ <;>
              simp [reachesPush, delivers, hsig, hrefused, hokv, hov, hpay]
            rfl -- the trace's `signed`: `requested` unfolds to the merged map
          | some pay =>
            simp only []
            generalize hr3 : annotateAndPush i _ pay _ _ resolved k = r
            obtain ⟨hp3, htg3, hnew3, hs3, ht3⟩ := annotateAndPush_spec (w := { w with heap := h2, handed := _ }) hv2' hr3
            refine ⟨?_, ?_, htg3, ?_, ?_⟩
            · exact Inv_of hinv2 _ hp3 htg3 hnew3
            · exact hp1.trans (hp2.trans hp3)
            · rw [hs3]
              cases hkind : (effKind (signerOf i c) == SignerKind.ok) <;> cases hpk : i.repo.push <;>
                simp [reachesPush, delivers, hsig, hrefused, hokv, hkind, hpk, hpay]
            · rw [ht3, read_of_prefix hp2 hv1, hrd1]
              cases hkind : (effKind (signerOf i c) == SignerKind.ok) <;> cases hpk : i.repo.push <;>
                simp [reachesPush, delivers, hsig, hrefused, hokv, hov, hkind, hpk, hpay] <;>
                rfl
  · have hov' : optsValid c.opts = false := by simpa using hov
    simp only [hov', Bool.not_false, if_true]
    refine ⟨hinv, List.prefix_refl _, trivial, ?_, ?_⟩ <;> simp [reachesPush, reachesSigner, hov']

/-! ### histories -/

/-- what the harness sees of a call whose world still satisfies the invariant: the trace, descriptors spelled out,
every frame observable true -/
def obsOf (i : Input) (t : Trace) (sigs : List Nat) : CallObs :=
  { ok := t.ok, resolveArg := t.resolveArg, signed := t.signed.map (mkDesc i),
    subject := t.subject.map (mkDesc i), pushAnn := t.pushAnn,
    payload := t.payload.map (mkDesc i), pluginCfg := t.pluginCfg,
    returned := if t.returnedResolved then .resolved else .zero,
    repoViewSame := true, handedSame := true, optsSame := true, producedSame := true, sigCounts := sigs }

def expectedObs (i : Input) (tag : Option Nat) (c : Step) (before : List Nat) : CallObs :=
  obsOf i (expectedTrace i tag c) (sigsAfter i tag c before)

attribute [local simp] obsOf expectedObs

/-- the whole history in closed form: the tag follows the `tagTo` / `untag` steps and nothing else; the signature
counts follow the pushes -/
def specSteps (i : Input) : List Step → Option Nat → List Nat → List CallObs
  | [], _, _ => []
  | s :: ss, tag, sigs =>
    match s.op with
    | .sign => expectedObs i tag s sigs :: specSteps i ss tag (sigsAfter i tag s sigs)
    | .tagTo => specSteps i ss (some s.to) sigs
    | .untag => specSteps i ss none sigs

theorem getD_mid {α} (a c : List α) (x d : α) (n : Nat) (hn : a.length = n) : (a ++ x :: c).getD n d = x := by
  subst hn; simp

theorem observe_of_Inv (i : Input) (w : World) (t : Trace) (hinv : Inv i w) :
    observe i w.tag w t = obsOf i t w.sigs := by
  have h0 : (w.heap.cells.take i.arts.length == i.arts.map (·.ann)) = true := by
    obtain ⟨t, ht⟩ := hinv.1
    simp [← ht, initCells]
  -- every map handed out or produced still reads as recorded
  have hall : ∀ l : List (MapRef × AnnMap), (∀ p ∈ l, p ∈ w.handed ++ w.produced) →
      (l.all fun x => match x with | (r, snap) => w.heap.read r == snap) = true := by
    intro l hl
    rw [List.all_eq_true]
    intro p hp
    obtain ⟨r, snap⟩ := p
    simpa using (hinv.2.1 _ (hl _ hp)).2
  have h1 := hall w.handed fun p hp => List.mem_append_left _ hp
  have h1p := hall w.produced fun p hp => List.mem_append_right _ hp
  have h3 : ((w.heap.cells.drop i.arts.length).take (i.pluginConfigs.length + i.steps.length) ==
      i.pluginConfigs ++ i.steps.map (·.md)) = true := by
    obtain ⟨t, ht⟩ := hinv.1
    simp [← ht, initCells, List.take_append, List.take_of_length_le]
  simp only [observe, obsOf, h0, h1, h1p, h3, Bool.and_self, beq_self_eq_true]

/-- the condition `wf` puts on each step, word for word -/
def stepOk (i : Input) (s : Step) : Bool :=
  distinctKeys s.md && decide (s.to < i.arts.length) && decide (s.target < i.arts.length) &&
    decide (s.cfg < i.pluginConfigs.length)

theorem runSteps_spec (i : Input) (hn : 0 < i.arts.length) : ∀ (ss : List Step) (w : World), Inv i w →
    (ss.all (stepOk i)) = true → runSteps i w ss = specSteps i ss w.tag w.sigs := by
  intro ss
  induction ss with
  | nil => intro w _ _; rfl
  | cons s ss ih =>
    intro w hinv hwf
    simp only [List.all_cons, Bool.and_eq_true, stepOk, decide_eq_true_eq] at hwf
    obtain ⟨⟨⟨⟨hd, hto⟩, htarget⟩, hcf⟩, hrest⟩ := hwf
    cases hop : s.op with
    | sign =>
      obtain ⟨hinv', _, htag, hs, ht⟩ := signOCI_spec i w s hinv hn hd htarget hcf
      simp only [runSteps, specSteps, hop]
      rw [ih _ hinv' hrest, htag, hs]
      have hobs := observe_of_Inv i (signOCI i w s).1 (signOCI i w s).2 hinv'
      rw [htag] at hobs
      rw [hobs, hs, ht]
      rfl
    | tagTo =>
      simp only [runSteps, specSteps, hop]
      exact ih _ (Inv_retag hinv (some s.to) (by intro k hk; cases hk; exact hto)) hrest
    | untag =>
      simp only [runSteps, specSteps, hop]
      exact ih _ (Inv_retag hinv none (by intro k hk; cases hk)) hrest

theorem wf_cfg_distinct (i : Input) (hwf : wf i = true) (s : Step) : distinctKeys (cfgOf i s) = true := by
  simp only [wf, Bool.and_eq_true] at hwf
  have h4 := hwf.2
  unfold cfgOf
  rw [List.getD_eq_getElem?_getD]
  cases hg : i.pluginConfigs[s.cfg]? with
  | none => rfl
  | some m =>
    simp only [Option.getD_some]
    exact (List.all_eq_true.1 h4) m (List.mem_of_getElem? hg)

/-- **history independence**: what each signing call of a history shows is a function of the input, that call,
what the tag names at that moment and the signatures pushed before - nothing an earlier call did to maps, and
nothing an earlier call resolved, can be seen by a later one. -/
theorem run_eq_spec (i : Input) (hwf : wf i = true) :
    run i = { calls := specSteps i i.steps i.tag (i.arts.map (fun _ => 0)) } := by
  have hw := hwf
  simp only [wf, Bool.and_eq_true, decide_eq_true_eq] at hw
  obtain ⟨⟨⟨hn, htag⟩, hsteps⟩, _⟩ := hw
  -- the initial world: no map handed out or produced yet; `wf` says the tag names an artifact
  have hinv : Inv i (initWorld i) :=
    ⟨List.prefix_refl _, by intro p hp; simp [initWorld] at hp, fun k (hk : i.tag = some k) => by rw [hk] at htag; simpa using htag⟩
  unfold run
  rw [runSteps_spec i hn i.steps (initWorld i) hinv hsteps]
  rfl

/-! ### the property -/

def allTrue : CallVerdict := ⟨true, true, true, true, true, true, true, true, true, true⟩

theorem reachesPush_signer {i : Input} {tag : Option Nat} {c : Step} {k : Nat} (h : reachesPush i tag c = some k) :
    reachesSigner i tag c = some k ∧ delivers i c k = true := by
  unfold reachesPush at h
  cases hr : reachesSigner i tag c with
  | none => simp [hr] at h
  | some k' =>
    simp only [hr] at h
    split at h
    · rename_i hd; cases h; exact ⟨rfl, hd⟩
    · simp at h

theorem reachesSigner_some {i : Input} {tag : Option Nat} {c : Step} {k : Nat} (h : reachesSigner i tag c = some k) :
    optsValid c.opts = true ∧ resolvedArt i tag c = some k ∧ refused i c k = false := by
  unfold reachesSigner at h
  split at h
  · rename_i hov
    split at h
    · rename_i k' hk'
      split at h
      · cases h
      · rename_i hr
        cases h
        exact ⟨hov, hk', by simpa using hr⟩
    · cases h
  · cases h

/-- every clause of the verdict is true of the closed form: most compare a field with the expression it was defined
by; `refusals` needs `reachesSigner_some`, `oneSignature` / `subjectIsResolved` the split on `reachesPush` and the push
kind, `signedPayload` that the payload covers the request (`hpl`). -/
theorem callVerdict_expected (i : Input) (tag : Option Nat) (c : Step) (n : List Nat) :
    callVerdict i tag c n (expectedObs i tag c n) = allTrue := by
  have hpl : payloadCoversSigned (expectedObs i tag c n) = true := by
    simp only [payloadCoversSigned, expectedObs, obsOf, expectedTrace]
    cases hp : reachesPush i tag c with
    | none => simp
    | some k =>
      obtain ⟨hs, hdl⟩ := reachesPush_signer hp
      simp only [hs, Option.bind_some, Option.map_some]
      cases hpay : payloadOf (signerOf i c) (requested i c k) with
      | none => simp
      | some pay =>
        have := payloadOf_covers _ _ _ hpay
        simp [mkDesc, requested] at this ⊢
        exact this
  unfold callVerdict
  rw [hpl]
  cases hs : reachesSigner i tag c with
  | none => simp [allTrue, reachesPush, hs]
  | some k =>
    obtain ⟨hov, hra, hnr⟩ := reachesSigner_some hs
    cases hp : reachesPush i tag c <;> cases hpk : i.repo.push <;>
      simp [allTrue, hs, hp, hpk, hov, hra, hnr, Function.comp_def]

theorem specSteps_length (i : Input) : ∀ (ss : List Step) (tag : Option Nat) (n : List Nat),
    (specSteps i ss tag n).length = (ss.filter (fun s => s.op == .sign)).length := by
  intro ss
  induction ss with
  | nil => intro _ _; rfl
  | cons s ss ih =>
    intro tag n
    cases hop : s.op <;> simp [specSteps, hop, ih]

theorem allCalls_spec (i : Input) (f : CallVerdict → Bool) (hf : f allTrue = true) :
    ∀ (ss : List Step) (tag : Option Nat) (n : List Nat), allCalls i f ss tag n (specSteps i ss tag n) = true := by
  intro ss
  induction ss with
  | nil => intro _ _; rfl
  | cons s ss ih =>
    intro tag n
    cases hop : s.op with
    | sign =>
      simp only [specSteps, allCalls, hop, callVerdict_expected, hf, Bool.true_and]
      exact ih _ _
    | tagTo => simp only [specSteps, allCalls, hop]; exact ih _ _
    | untag => simp only [specSteps, allCalls, hop]; exact ih _ _

/-- **C11, the whole property**: every clause of `Holds` is true of the model's behaviour, for every repository
behaviour, set of artifacts, signer, option maps and every history of signing calls, tag moves, deletions and
re-creations of any length (hypothesis `wf`: there is an artifact, tag and steps name existing artifacts, the keys of
each UserMetadata map are pairwise different - the driver checks it for every case). -/
theorem model_holds (i : Input) (hwf : wf i = true) : Holds i (run i) = true := by
  rw [run_eq_spec i hwf]
  have all := fun f hf => allCalls_spec i f hf i.steps i.tag (i.arts.map (fun _ => 0))
  simp only [Holds, clauses, Clauses.holds, specSteps_length, signSteps, hwf, List.all_cons, List.all_nil, Bool.and_true,
    Bool.and_eq_true, beq_self_eq_true, true_and]
  exact ⟨all _ rfl, all _ rfl, all _ rfl, all _ rfl, all _ rfl, all _ rfl, all _ rfl, all _ rfl, all _ rfl, all _ rfl⟩

/-! ### readable corollaries -/

/-- what the tag names after a prefix of a history: it follows the `tagTo` / `untag` steps - signing never moves it -/
def tagAfter : Option Nat → List Step → Option Nat
  | tag, [] => tag
  | tag, s :: ss =>
    match s.op with
    | .sign => tagAfter tag ss
    | .tagTo => tagAfter (some s.to) ss
    | .untag => tagAfter none ss

/-- the signatures attached to each artifact after a prefix of a history -/
def sigsThrough (i : Input) : Option Nat → List Nat → List Step → List Nat
  | _, sigs, [] => sigs
  | tag, sigs, s :: ss =>
    match s.op with
    | .sign => sigsThrough i tag (sigsAfter i tag s sigs) ss
    | .tagTo => sigsThrough i (some s.to) sigs ss
    | .untag => sigsThrough i none sigs ss

def nSigns (ss : List Step) : Nat := (ss.filter (fun s => s.op == .sign)).length

def noSigs (i : Input) : List Nat := i.arts.map (fun _ => 0)

theorem specSteps_append (i : Input) : ∀ (pre post : List Step) (tag : Option Nat) (sigs : List Nat),
    specSteps i (pre ++ post) tag sigs =
      specSteps i pre tag sigs ++ specSteps i post (tagAfter tag pre) (sigsThrough i tag sigs pre) := by
  intro pre
  induction pre with
  | nil => intro post tag sigs; rfl
  | cons s ss ih =>
    intro post tag sigs
    cases hop : s.op <;> simp [specSteps, tagAfter, sigsThrough, hop, ih]

theorem tagAfter_append (tag : Option Nat) : ∀ (pre post : List Step),
    tagAfter tag (pre ++ post) = tagAfter (tagAfter tag pre) post := by
  intro pre
  induction pre generalizing tag with
  | nil => intro post; rfl
  | cons s ss ih =>
    intro post
    cases hop : s.op <;> simp [tagAfter, hop, ih]

theorem sigsThrough_append (i : Input) : ∀ (pre post : List Step) (tag : Option Nat) (sigs : List Nat),
    sigsThrough i tag sigs (pre ++ post) = sigsThrough i (tagAfter tag pre) (sigsThrough i tag sigs pre) post := by
  intro pre
  induction pre with
  | nil => intro post tag sigs; rfl
  | cons s ss ih =>
    intro post tag sigs
    cases hop : s.op <;> simp [tagAfter, sigsThrough, hop, ih]

/-- a signing step leaves the tag where it was; a `tagTo` step puts it on its artifact whatever was resolved,
signed or remembered before; `untag` removes it -/
theorem tagAfter_snoc (tag : Option Nat) (pre : List Step) (s : Step) :
    tagAfter tag (pre ++ [s]) =
      (match s.op with | .sign => tagAfter tag pre | .tagTo => some s.to | .untag => none) := by
  rw [tagAfter_append]
  cases hop : s.op <;> simp [tagAfter, hop]

theorem call_obs (i : Input) (hwf : wf i = true) {pre post : List Step} {s : Step} {o : CallObs}
    (hsplit : i.steps = pre ++ s :: post) (hs : s.op = .sign) (ho : (run i).calls[nSigns pre]? = some o) :
    o = expectedObs i (tagAfter i.tag pre) s (sigsThrough i i.tag (noSigs i) pre) := by
  rw [run_eq_spec i hwf] at ho
  simp only [hsplit, specSteps_append] at ho
  have hlen : nSigns pre = (specSteps i pre i.tag (i.arts.map fun _ => 0)).length := by
    rw [specSteps_length]; rfl
  rw [hlen, List.getElem?_append_right (Nat.le_refl _), Nat.sub_self] at ho
  simp only [specSteps, hs, List.getElem?_cons_zero] at ho
  exact (Option.some.inj ho).symm

theorem call_obs_after (i : Input) (hwf : wf i = true) {pre post : List Step} {mv s : Step} {o : CallObs}
    (hsplit : i.steps = pre ++ mv :: s :: post) (hmv : mv.op ≠ .sign) (hs : s.op = .sign)
    (ho : (run i).calls[nSigns pre]? = some o) :
    o = expectedObs i (tagAfter i.tag (pre ++ [mv])) s (sigsThrough i i.tag (noSigs i) pre) := by
  have hns : nSigns (pre ++ [mv]) = nSigns pre := by simp [nSigns, hmv]
  have hsigs : sigsThrough i i.tag (noSigs i) (pre ++ [mv]) = sigsThrough i i.tag (noSigs i) pre := by
    rw [sigsThrough_append]
    cases hop : mv.op
    · exact absurd hop hmv
    · simp [sigsThrough, hop]
    · simp [sigsThrough, hop]
  rw [← hns] at ho
  rw [← hsigs]
  exact call_obs i hwf (post := post) (by simp [hsplit]) hs ho

/-- **signs exactly what was resolved plus the metadata** - at any position of any history: the descriptor handed
to the signer is the descriptor of the artifact the reference resolves to *at that moment* (media type, digest,
size) whose annotations are the resolved annotations + user metadata; the subject pushed is that resolved
descriptor itself (without the metadata). -/
theorem signs_resolved_plus_metadata (i : Input) (hwf : wf i = true) {pre post : List Step} {s : Step} {o : CallObs}
    (hsplit : i.steps = pre ++ s :: post) (hs : s.op = .sign) (ho : (run i).calls[nSigns pre]? = some o) :
    (∀ d, o.signed = some d → ∃ k, resolvedArt i (tagAfter i.tag pre) s = some k ∧
        d = mkDesc i (k, merged (resolvedAnn i s k) s.md)) ∧
    (∀ d, o.subject = some d → ∃ k, resolvedArt i (tagAfter i.tag pre) s = some k ∧
        d = mkDesc i (k, resolvedAnn i s k)) ∧
    (o.ok = true → o.signed.isSome = true ∧ o.subject.isSome = true ∧ o.returned = .resolved) := by
  rw [call_obs i hwf hsplit hs ho]
  refine ⟨?_, ?_, ?_⟩
  · intro d hdd
    simp only [expectedObs, obsOf, expectedTrace] at hdd
    cases hr : reachesSigner i (tagAfter i.tag pre) s with
    | none => simp [hr] at hdd
    | some k => simp [hr] at hdd; exact ⟨k, (reachesSigner_some hr).2.1, hdd.symm⟩
  · intro d hdd
    simp only [expectedObs, obsOf, expectedTrace] at hdd
    cases hr : reachesPush i (tagAfter i.tag pre) s with
    | none => simp [hr] at hdd
    | some k => simp [hr] at hdd; exact ⟨k, (reachesSigner_some (reachesPush_signer hr).1).2.1, hdd.symm⟩
  · intro hok
    simp only [expectedObs, obsOf, expectedTrace, expectedOk, Bool.and_eq_true] at hok
    cases hr : reachesPush i (tagAfter i.tag pre) s with
    | none => simp [hr] at hok
    | some k =>
      have hp : i.repo.push = .ok := by simpa using hok.2
      simp [hr, (reachesPush_signer hr).1, hp]

/-- **refusals**: metadata under the reserved prefix, metadata that would overwrite an annotation of the artifact
resolved now, and a digest reference resolving to another digest each end in an error; the signer is not called,
nothing is pushed, the signature counts stay. -/
theorem refusals (i : Input) (hwf : wf i = true) {pre post : List Step} {s : Step} {o : CallObs}
    (hsplit : i.steps = pre ++ s :: post) (hs : s.op = .sign) (ho : (run i).calls[nSigns pre]? = some o)
    (h : hasReserved s = true ∨ digestMismatch s = true ∨
      ∃ k, resolvedArt i (tagAfter i.tag pre) s = some k ∧ collides i s k = true) :
    o.ok = false ∧ o.signed = none ∧ o.subject = none ∧ o.pushAnn = none ∧ o.returned = .zero ∧
    o.sigCounts = sigsThrough i i.tag (noSigs i) pre := by
  have hr : reachesSigner i (tagAfter i.tag pre) s = none := by
    simp only [reachesSigner]
    split
    · split
      · rename_i k hk
        have : refused i s k = true := by
          rcases h with h | h | ⟨k', hk', hc⟩
          · simp [refused, h]
          · simp [refused, h]
          · rw [hk] at hk'; cases hk'; simp [refused, hc]
        simp [this]
      · rfl
    · rfl
  rw [call_obs i hwf hsplit hs ho]
  simp [reachesPush, hr]

/-- **frame, as observed**: after every signing call of every history - successful or not - the repository resolves
the tag and every digest exactly as just before the call, every descriptor it handed out is unchanged, and so are the
caller's UserMetadata and PluginConfig maps, and so is everything EARLIER pushes produced (the annotation map objects the
repository keeps in its records of the earlier signatures and the callers got back); the signature counts change by the
one push, if any. -/
theorem frame (i : Input) (hwf : wf i = true) {pre post : List Step} {s : Step} {o : CallObs}
    (hsplit : i.steps = pre ++ s :: post) (hs : s.op = .sign) (ho : (run i).calls[nSigns pre]? = some o) :
    o.repoViewSame = true ∧ o.handedSame = true ∧ o.optsSame = true ∧ o.producedSame = true ∧
    o.sigCounts = sigsAfter i (tagAfter i.tag pre) s (sigsThrough i i.tag (noSigs i) pre) := by
  rw [call_obs i hwf hsplit hs ho]
  simp -- `obsOf`, a local simp lemma

/-- **frame, on the heap**: a call leaves every map object that existed before it with exactly the contents it
had - the repository's, the caller's, whatever else - because the metadata merge and the annotation generation
write only into cells they allocated (`facts_merge_allocates_fresh_map`, used in `addUserMetadata_spec`); it does not move
the tag; the one other effect is at most one more signature. Holds from any state reachable in a history. -/
theorem frame_heap (i : Input) (w : World) (c : Step) (hinv : Inv i w) (hn : 0 < i.arts.length)
    (hd : distinctKeys c.md = true) (ht : c.target < i.arts.length) (hcf : c.cfg < i.pluginConfigs.length) :
    w.heap.cells <+: (signOCI i w c).1.heap.cells ∧
    (∀ r, validRef w.heap r → (signOCI i w c).1.heap.read r = w.heap.read r) ∧
    (signOCI i w c).1.tag = w.tag ∧
    (signOCI i w c).1.sigs = sigsAfter i w.tag c w.sigs := by
  obtain ⟨_, hp, htag, hs, _⟩ := signOCI_spec i w c hinv hn hd ht hcf
  exact ⟨hp, fun r hv => read_of_prefix hp hv, htag, hs⟩

/-- whether a call succeeds depends on the input, the call and what the tag names now - not on its position, on
what was signed before, or on what the same reference resolved to earlier -/
theorem success_independent_of_history (i : Input) (hwf : wf i = true) {pre post : List Step} {s : Step} {o : CallObs}
    (hsplit : i.steps = pre ++ s :: post) (hs : s.op = .sign) (ho : (run i).calls[nSigns pre]? = some o) :
    o.ok = expectedOk i (tagAfter i.tag pre) s := by
  rw [call_obs i hwf hsplit hs ho]; rfl

/-- **a moved tag is followed**: right after the tag was moved (or recreated) to artifact `mv.to`, signing through a
tag reference hands the signer the descriptor of *that* artifact and attaches the signature to it - whatever the
same reference resolved to, and whatever was signed, earlier in the history. -/
theorem signs_what_the_tag_names_now (i : Input) (hwf : wf i = true) {pre post : List Step} {mv s : Step} {o : CallObs}
    (hsplit : i.steps = pre ++ mv :: s :: post) (hmv : mv.op = .tagTo) (hs : s.op = .sign)
    (href : refArg s.ref = .tag) (hov : optsValid s.opts = true) (hnr : refused i s mv.to = false)
    (ho : (run i).calls[nSigns pre]? = some o) :
    o.signed = some (mkDesc i (mv.to, merged (artAt i mv.to).ann s.md)) ∧
    (o.ok = true → o.subject = some (mkDesc i (mv.to, (artAt i mv.to).ann)) ∧
      o.sigCounts = bump mv.to (sigsThrough i i.tag (noSigs i) pre)) := by
  rw [call_obs_after i hwf hsplit (by simp [hmv]) hs ho, tagAfter_snoc]
  simp only [hmv]
  have hra : resolvedArt i (some mv.to) s = some mv.to := by simp [resolvedArt, href]
  have hann : resolvedAnn i s mv.to = (artAt i mv.to).ann := by simp [resolvedAnn, href]
  have hrs : reachesSigner i (some mv.to) s = some mv.to := by simp [reachesSigner, hov, hra, hnr]
  refine ⟨by simp [hrs, hann], ?_⟩
  intro hok
  simp only [expectedObs, obsOf, expectedTrace, expectedOk, Bool.and_eq_true] at hok
  cases hk : delivers i s mv.to with
  | false => simp [reachesPush, hrs, hk] at hok
  | true =>
    have hp : i.repo.push = .ok := by simpa using hok.2
    simp [reachesPush, hk, hrs, hann, hp]

/-- **a deleted tag is gone**: right after the tag was deleted, signing through a tag reference fails before the
signer is called, however often the reference resolved before. -/
theorem deleted_tag_is_not_signed (i : Input) (hwf : wf i = true) {pre post : List Step} {mv s : Step} {o : CallObs}
    (hsplit : i.steps = pre ++ mv :: s :: post) (hmv : mv.op = .untag) (hs : s.op = .sign)
    (href : refArg s.ref = .tag) (ho : (run i).calls[nSigns pre]? = some o) :
    o.ok = false ∧ o.signed = none ∧ o.subject = none ∧ o.returned = .zero := by
  rw [call_obs_after i hwf hsplit (by simp [hmv]) hs ho, tagAfter_snoc]
  simp only [hmv]
  have hrs : reachesSigner i none s = none := by
    simp only [reachesSigner, resolvedArt, href]; split <;> rfl
  simp [reachesPush, hrs]

/-- `n` more signatures on artifact `k` -/
def bumpN (k : Nat) : Nat → List Nat → List Nat
  | 0, l => l
  | n + 1, l => bumpN k n (bump k l)

theorem bumpN_succ (k : Nat) : ∀ (n : Nat) (l : List Nat), bumpN k (n + 1) l = bump k (bumpN k n l) := by
  intro n
  induction n with
  | zero => intro l; rfl
  | succ n ih => intro l; rw [bumpN, ih]; rfl

theorem bump_length (k : Nat) : ∀ l : List Nat, (bump k l).length = l.length := by
  intro l
  induction l generalizing k with
  | nil => cases k <;> rfl
  | cons x r ih => cases k <;> simp [bump, ih]

theorem bump_getD (k : Nat) : ∀ l : List Nat, k < l.length → (bump k l).getD k 0 = l.getD k 0 + 1 := by
  intro l
  induction l generalizing k with
  | nil => intro h; simp at h
  | cons x r ih =>
    intro h
    cases k with
    | zero => simp [bump]
    | succ k =>
      have := ih k (by simpa using h)
      simpa [bump] using this

theorem bumpN_getD (k : Nat) : ∀ (n : Nat) (l : List Nat), k < l.length → (bumpN k n l).getD k 0 = l.getD k 0 + n := by
  intro n
  induction n with
  | zero => intro l _; rfl
  | succ n ih =>
    intro l h
    rw [bumpN, ih _ (by rw [bump_length]; exact h), bump_getD k l h]
    omega

theorem sigsThrough_replicate (i : Input) (tag : Option Nat) (s : Step) (hs : s.op = .sign) (k : Nat)
    (hp : pushes i tag s = some k) : ∀ (n : Nat) (sg : List Nat),
    sigsThrough i tag sg (List.replicate n s) = bumpN k n sg := by
  intro n
  induction n with
  | zero => intro sg; rfl
  | succ n ih =>
    intro sg
    simp only [List.replicate_succ, sigsThrough, hs, sigsAfter, hp, ih, bumpN]

theorem tagAfter_replicate (tag : Option Nat) (s : Step) (hs : s.op = .sign) : ∀ n, tagAfter tag (List.replicate n s) = tag := by
  intro n
  induction n with
  | zero => rfl
  | succ n ih => simp [List.replicate_succ, tagAfter, hs, ih]

/-- **idempotent history**: any number of signing calls with the same reference and options, where the call
succeeds in the first place, succeeds every time, and the `j`-th of them has attached `j+1` signatures to the artifact
the reference resolves to. -/
theorem idempotent_history (i : Input) (hwf : wf i = true) (s : Step) (n : Nat) (hs : s.op = .sign)
    (hsteps : i.steps = List.replicate n s) (hok : expectedOk i i.tag s = true) :
    (run i).calls.length = n ∧
    ∃ k, resolvedArt i i.tag s = some k ∧
      ∀ j o, (run i).calls[j]? = some o → o.ok = true ∧ o.sigCounts = bumpN k (j + 1) (noSigs i) := by
  simp only [expectedOk, Bool.and_eq_true] at hok
  have hpk : i.repo.push = .ok := by simpa using hok.2
  cases hrp : reachesPush i i.tag s with
  | none => simp [hrp] at hok
  | some k =>
    have hp : pushes i i.tag s = some k := by simp [hpk, hrp]
    have hra : resolvedArt i i.tag s = some k := (reachesSigner_some (reachesPush_signer hrp).1).2.1
    have hlen : (run i).calls.length = n := by
      rw [run_eq_spec i hwf, hsteps]
      simp [specSteps_length, hs]
    refine ⟨hlen, k, hra, ?_⟩
    intro j o ho
    have hj : j < n := by
      have := (List.getElem?_eq_some_iff.1 ho).1
      omega
    have hsplit : i.steps = List.replicate j s ++ s :: List.replicate (n - j - 1) s := by
      rw [hsteps, ← List.replicate_succ, List.replicate_append_replicate]
      congr 1; omega
    have hns : nSigns (List.replicate j s) = j := by simp [nSigns, hs]
    rw [← hns] at ho
    rw [call_obs i hwf hsplit hs ho, tagAfter_replicate _ _ hs, sigsThrough_replicate i i.tag s hs k hp]
    refine ⟨by simp [hrp, hpk], ?_⟩
    simp only [expectedObs, obsOf, sigsAfter, hp, bumpN_succ]

theorem facts_annotation_keys :
    Facts.c11ThumbprintKey ≠ Facts.c11CreatedKey ∧ isReserved Facts.c11ThumbprintKey = true ∧
    isReserved Facts.c11CreatedKey = false := by decide +kernel

/-- **the pushed annotations, exactly**: the plugin's annotations with the thumbprint list (JSON array of the
SHA-256 hex of each chain certificate, in chain order) and `created` (signing time, RFC 3339, UTC) written over
them - nothing else. -/
theorem pushed_annotations_exact (i : Input) (hwf : wf i = true) {pre post : List Step} {s : Step} {o : CallObs}
    (hsplit : i.steps = pre ++ s :: post) (hs : s.op = .sign) (ho : (run i).calls[nSigns pre]? = some o)
    (a : AnnMap) (ha : o.pushAnn = some a) :
    a = expectedPushAnn (signerOf i s) ∧
    look Facts.c11ThumbprintKey a = some (jsonArray (signerOf i s).thumbs) ∧
    look Facts.c11CreatedKey a = some (rfc3339 (signerOf i s).time) ∧
    ∀ k, k ≠ Facts.c11ThumbprintKey → k ≠ Facts.c11CreatedKey → look k a = look k (signerOf i s).pluginAnn := by
  rw [call_obs i hwf hsplit hs ho] at ha
  have hae : a = expectedPushAnn (signerOf i s) := by
    simp only [expectedObs, obsOf, expectedTrace] at ha
    cases hr : reachesPush i (tagAfter i.tag pre) s with
    | none => simp [hr] at ha
    | some k => simp [hr] at ha; exact ha.symm
  subst hae
  refine ⟨rfl, ?_, ?_, ?_⟩
  · simp [expectedPushAnn, look_put, facts_annotation_keys.1]
  · simp [expectedPushAnn, look_put]
  · intro k h1 h2
    simp [expectedPushAnn, look_put, h1, h2]

/-- **what is inside the pushed envelope**: whatever signer signs - the library's own, a plugin that builds the envelope
itself - a signature is attached only when the target artifact inside the envelope is the descriptor the signer was
asked to sign (same media type, digest, size) with every one of its annotations - resolved annotations AND user
metadata, blank values included - under its value. -/
theorem signed_payload_covers (i : Input) (hwf : wf i = true) {pre post : List Step} {s : Step} {o : CallObs}
    (hsplit : i.steps = pre ++ s :: post) (hs : s.op = .sign) (ho : (run i).calls[nSigns pre]? = some o)
    (p : DescObs) (hp : o.payload = some p) :
    ∃ k pay, resolvedArt i (tagAfter i.tag pre) s = some k ∧ p = mkDesc i (k, pay) ∧
      o.signed = some (mkDesc i (k, requested i s k)) ∧ covers (requested i s k) pay = true ∧ o.subject.isSome = true := by
  rw [call_obs i hwf hsplit hs ho] at hp ⊢
  simp only [expectedObs, obsOf, expectedTrace] at hp ⊢
  cases hr : reachesPush i (tagAfter i.tag pre) s with
  | none => simp [hr] at hp
  | some k =>
    obtain ⟨hsg, _⟩ := reachesPush_signer hr
    simp only [hr, Option.bind_some] at hp
    cases hpay : payloadOf (signerOf i s) (requested i s k) with
    | none => simp [hpay] at hp
    | some pay =>
      simp only [hpay, Option.map_some, Option.some.injEq] at hp
      exact ⟨k, pay, (reachesSigner_some hsg).2.1, hp.symm, by simp [hsg, requested], payloadOf_covers _ _ _ hpay, by simp⟩

/-- **an envelope plugin that loses or changes an annotation is refused**: when there is an annotation to lose, nothing
is pushed and the call fails. -/
theorem unfaithful_plugin_is_refused (i : Input) (hwf : wf i = true) {pre post : List Step} {s : Step} {o : CallObs}
    (hsplit : i.steps = pre ++ s :: post) (hs : s.op = .sign) (ho : (run i).calls[nSigns pre]? = some o)
    (himpl : (signerOf i s).impl = .pluginEnv)
    (hbad : ∀ k, covers (requested i s k) (applyFaith (signerOf i s).faith (requested i s k)) = false) :
    o.ok = false ∧ o.subject = none ∧ o.payload = none ∧ o.pushAnn = none ∧
    o.sigCounts = sigsThrough i i.tag (noSigs i) pre := by
  have hnone : ∀ k, payloadOf (signerOf i s) (requested i s k) = none := by
    intro k
    unfold payloadOf
    simp only [himpl]
    cases hf : (signerOf i s).faith <;> simp <;> (have := hbad k; rw [hf] at this; simp [this])
  have hrp : reachesPush i (tagAfter i.tag pre) s = none := by
    unfold reachesPush
    cases reachesSigner i (tagAfter i.tag pre) s with
    | none => rfl
    | some k => simp [delivers, hnone k]
  rw [call_obs i hwf hsplit hs ho]
  simp [hrp]

/-- **what a plugin is told**: during a call that reaches a plugin signer, every request carries the signer's own
config overridden by the entries of the caller's PluginConfig map as it is NOW - a function of this signer and this
map alone: nothing an earlier call passed, and no other signer's defaults, can be in it. -/
theorem plugin_sees_defaults_overridden_by_call (i : Input) (hwf : wf i = true) {pre post : List Step} {s : Step} {o : CallObs}
    (hsplit : i.steps = pre ++ s :: post) (hs : s.op = .sign) (ho : (run i).calls[nSigns pre]? = some o)
    (c : AnnMap) (hc : o.pluginCfg = some c) :
    c = merged (signerOf i s).config (cfgOf i s) ∧ isPlugin (signerOf i s).impl = true ∧
    ∀ k, look k c = (match look k (cfgOf i s) with | some v => some v | none => look k (signerOf i s).config) := by
  rw [call_obs i hwf hsplit hs ho] at hc
  simp only [expectedObs, obsOf, expectedTrace] at hc
  cases hr : reachesSigner i (tagAfter i.tag pre) s with
  | none => simp [hr] at hc
  | some k =>
    simp only [hr, Option.bind_some] at hc
    by_cases hpl : isPlugin (signerOf i s).impl = true
    · simp only [hpl, if_true, Option.some.injEq] at hc
      subst hc
      -- read key by key; the caller's map has pairwise different keys, as every Go map has
      exact ⟨rfl, hpl, fun k' => look_merged k' _ _ (wf_cfg_distinct i hwf s)⟩
    · simp [hpl] at hc

/-! ### Go's random map iteration order does not matter -/

theorem mem_of_look {k v : Text} : ∀ {m : AnnMap}, look k m = some v → (k, v) ∈ m := by
  intro m
  induction m with
  | nil => intro h; simp [look] at h
  | cons p r ih =>
    obtain ⟨k1, v1⟩ := p
    intro h
    by_cases hk : k = k1
    · subst hk
      simp [look] at h
      simp [h]
    · simp [look, hk] at h
      exact List.mem_cons_of_mem _ (ih h)

theorem look_of_mem {k v : Text} : ∀ {m : AnnMap}, distinctKeys m = true → (k, v) ∈ m → look k m = some v := by
  intro m
  induction m with
  | nil => intro _ h; simp at h
  | cons p r ih =>
    obtain ⟨k1, v1⟩ := p
    intro hd h
    simp only [distinctKeys, Bool.and_eq_true, Bool.not_eq_true'] at hd
    rcases List.mem_cons.1 h with hm | hm
    · injection hm with h1 h2
      subst h1; subst h2
      simp [look]
    · have hk : ¬ k = k1 := by
        intro hk
        subst hk
        have hn := look_none_of_not_any k r hd.1
        rw [ih hd.2 hm] at hn
        simp at hn
      simp [look, hk, ih hd.2 hm]

theorem look_perm {m m' : AnnMap} (hp : m.Perm m') (hd : distinctKeys m = true) (hd' : distinctKeys m' = true)
    (k : Text) : look k m = look k m' := by
  cases h : look k m with
  | some v => exact (look_of_mem hd' (hp.mem_iff.1 (mem_of_look h))).symm
  | none =>
    cases h' : look k m' with
    | none => rfl
    | some v =>
      have hs := look_of_mem hd (hp.mem_iff.2 (mem_of_look h'))
      rw [h] at hs
      simp at hs

/-- `addUserMetadataToDescriptor` ranges over a Go map, i.e. in arbitrary order. For any two orders of the same
metadata the merge succeeds or fails alike and, when it succeeds, yields the same map (read key by key). -/
theorem merge_order_irrelevant (h : Heap) (ann : MapRef) (md md' : AnnMap) (hv : validRef h ann)
    (hp : md.Perm md') (hd : distinctKeys md = true) (hd' : distinctKeys md' = true) :
    (addUserMetadata h ann md).2.2 = (addUserMetadata h ann md').2.2 ∧
    ((addUserMetadata h ann md).2.2 = true → ∀ k,
      look k ((addUserMetadata h ann md).1.read (addUserMetadata h ann md).2.1) =
      look k ((addUserMetadata h ann md').1.read (addUserMetadata h ann md').2.1)) := by
  obtain ⟨_, _, hok, hm⟩ := addUserMetadata_spec h ann md hv hd
  obtain ⟨_, _, hok', hm'⟩ := addUserMetadata_spec h ann md' hv hd'
  have hsame : (addUserMetadata h ann md).2.2 = (addUserMetadata h ann md').2.2 := by
    rw [hok, hok', hp.any_eq, hp.any_eq]
  refine ⟨hsame, ?_⟩
  intro hokt k
  rw [hm hokt, hm' (hsame ▸ hokt), look_merged k md _ hd, look_merged k md' _ hd', look_perm hp hd hd' k]

/-! ### extracted facts of the Go source (regenerated on every run) -/

/-- the signer gets the merged descriptor, the push gets the one `Resolve` returned, and they are different variables -/
theorem facts_dataflow :
    Facts.c11MergeInput = Facts.c11ResolveVar ∧ Facts.c11SignerDescArg = Facts.c11MergeOutput ∧
    Facts.c11PushSubjectArg = Facts.c11ResolveVar ∧ Facts.c11MergeOutput ≠ Facts.c11ResolveVar := by decide +kernel

theorem facts_generated_annotations :
    Facts.c11GeneratedKeys = ["envelope.AnnotationX509ChainThumbprint", "ocispec.AnnotationCreated"] ∧
    Facts.c11ThumbprintHash = "sha256.Sum256(cert.Raw)" ∧ Facts.c11CreatedLayout = "time.RFC3339" ∧
    Facts.c11SigningTimeIsUTC = true := by decide +kernel

theorem facts_merge_loop : Facts.c11MergeLoopWrites = 1 ∧ Facts.c11MergeDescByValue = true := by decide +kernel

/-- the merge loop never writes through a nil map: a non-empty metadata gives the descriptor a map of its own -/
theorem write_target_is_a_map (h : Heap) (ann : MapRef) (md : AnnMap) (hne : md ≠ []) :
    (addUserMetadata h ann md).2.1 = some h.cells.length := by
  unfold addUserMetadata
  have : md.isEmpty = false := by cases md <;> simp_all
  simp [this, facts_merge_allocates_fresh_map, alloc_addr]

/-! ### non-vacuity -/

def exArtA : Art := { mediaType := ['m'], digest := ['A'], size := 3, ann := [(['a'], ['1'])] }
def exArtB : Art := { mediaType := ['m'], digest := ['B'], size := 4, ann := [(['c'], ['3'])] }
def exSign (r : Ref) (md : AnnMap) : Step := { op := .sign, to := 0, ref := r, target := 0, md := md, opts := .jws, signer := 0, cfg := 0 }
def exTagTo (k : Nat) : Step := { op := .tagTo, to := k, ref := .tag, target := 0, md := [], opts := .jws, signer := 0, cfg := 0 }
def exUntag : Step := { op := .untag, to := 0, ref := .tag, target := 0, md := [], opts := .jws, signer := 0, cfg := 0 }
def exSigner : SignerCfg :=
  { impl := .mock, kind := .ok, faith := .faithful, config := [], thumbs := [['a', 'b']], time := 951782400, pluginAnn := [] }
def exInputWith (signers : List SignerCfg) (cfgs : List AnnMap) (steps : List Step) : Input :=
  { backend := "mock", arts := [exArtA, exArtB], tag := some 0,
    repo := { aliased := true, plainByDigest := false, anyDigest := true, push := .ok },
    signers := signers, pluginConfigs := cfgs, steps := steps }
def exInput (steps : List Step) : Input := exInputWith [exSigner] [[]] steps
/-- the same step, signed by signer 1 -/
def bySigner1 (s : Step) : Step := { s with signer := 1 }
def exPlugin (impl : Impl) (faith : Faith) (config : AnnMap) : SignerCfg := { exSigner with impl := impl, faith := faith, config := config }

/-- signing the same tag three times with the same metadata succeeds three times -/
example : ((run (exInput (List.replicate 3 (exSign .fullTag [(['b'], ['2'])])))).calls.map (fun o => (o.ok, o.sigCounts))) =
    [(true, [1, 0]), (true, [2, 0]), (true, [3, 0])] := by decide +kernel

example : ((run (exInput [exSign .fullTag [(['b'], ['2'])]])).calls.map (·.signed)) =
    [some { mediaType := ['m'], digest := ['A'], size := 3, ann := [(['a'], ['1']), (['b'], ['2'])] }] := by decide +kernel

/-- the tag is moved between two uses of the same reference with the same options: the second call signs what the
tag names now; after the tag is deleted the call fails; after it is recreated the call signs again -/
example : ((run (exInput [exSign .fullTag [], exTagTo 1, exSign .fullTag [], exUntag, exSign .fullTag [],
      exTagTo 0, exSign .fullTag []])).calls.map (fun o => (o.ok, o.signed.map (·.digest), o.sigCounts))) =
    [(true, some ['A'], [1, 0]), (true, some ['B'], [1, 1]), (false, none, [1, 1]), (true, some ['A'], [2, 1])] := by decide +kernel

example : ((run (exInput [exSign .digest []])).calls.map (·.pushAnn)) =
    [some [(Facts.c11ThumbprintKey, "[\"ab\"]".toList), (Facts.c11CreatedKey, "2000-02-29T00:00:00Z".toList)]] := by decide +kernel

/-- a collision, a reserved key and a digest mismatch are refused, and a later good call is unaffected -/
example : ((run (exInput [exSign .tag [(['a'], ['2'])], exSign .tag [("io.cncf.notary.x".toList, [])],
      exSign .fullOtherDigest [], exSign .tag [(['b'], ['2'])]])).calls.map (fun o => (o.ok, o.sigCounts))) =
    [(false, [0, 0]), (false, [0, 0]), (false, [0, 0]), (true, [1, 0])] := by decide +kernel

/-- user metadata with a BLANK value, signed by the library's own signer: the blank entry is in the payload -/
example : ((run (exInputWith [exPlugin .generic .faithful []] [[]] [exSign .tag [(['r'], [])]])).calls.map (·.payload)) =
    [some { mediaType := ['m'], digest := ['A'], size := 3, ann := [(['a'], ['1']), (['r'], [])] }] := by decide +kernel

/-- an envelope plugin that drops the annotations is refused; one that adds one is accepted; one that has nothing to
drop (plain digest view, no metadata) is accepted as well -/
example : ((run (exInputWith [exPlugin .pluginEnv .dropAll [], exPlugin .pluginEnv .addOne []] [[]]
      [exSign .tag [(['b'], ['2'])], bySigner1 (exSign .tag [(['b'], ['2'])])])).calls.map
        (fun o => (o.ok, o.signed.isSome, o.payload.isSome))) = [(false, true, false), (true, true, true)] := by decide +kernel

example : ((run (exInputWith [exPlugin .pluginEnv .addOne []] [[]] [exSign .tag [(['b'], ['2'])]])).calls.map (·.payload)) =
    [some { mediaType := ['m'], digest := ['A'], size := 3, ann := [(['a'], ['1']), (['b'], ['2']), (addedKey, ['1'])] }] := by decide +kernel

example : ((run (exInputWith [exPlugin .pluginEnv .dropAll []] [[]] [{ exSign .digest [] with target := 1 }])).calls.map (·.ok)) =
    [false] := by decide +kernel

/-- two plugin signers with defaults of their own, the SAME caller map passed to both: each plugin sees its own
defaults overridden by the caller's entries - the first signer's defaults do not travel -/
example : ((run (exInputWith
      [exPlugin .pluginSig .faithful [(['v'], ['a'])], exPlugin .pluginSig .faithful [(['v'], ['b'])]]
      [[(['t'], ['1'])]]
      [exSign .tag [], bySigner1 (exSign .tag [])])).calls.map (fun o => (o.pluginCfg, o.optsSame))) =
    [(some [(['t'], ['1']), (['v'], ['a'])], true), (some [(['t'], ['1']), (['v'], ['b'])], true)] := by decide +kernel

example : Holds (exInput [exSign .tag [(['b'], ['2'])], exTagTo 1, exSign .tag [(['b'], ['2'])]])
    (run (exInput [exSign .tag [(['b'], ['2'])], exTagTo 1, exSign .tag [(['b'], ['2'])]])) = true := by decide +kernel

def exObsGood : CallObs :=
  { ok := true, resolveArg := some .tag,
    signed := some { mediaType := ['m'], digest := ['A'], size := 3, ann := [(['a'], ['1'])] },
    subject := some { mediaType := ['m'], digest := ['A'], size := 3, ann := [(['a'], ['1'])] },
    pushAnn := some (expectedPushAnn exSigner),
    payload := some { mediaType := ['m'], digest := ['A'], size := 3, ann := [(['a'], ['1'])] }, pluginCfg := none,
    returned := .resolved, repoViewSame := true, handedSame := true, optsSame := true, producedSame := true, sigCounts := [1, 0] }

/-- `Holds` rejects the behaviour of the code before 303ff26: metadata written into the repository's map
(subject carries it, repository view changed), second call refused -/
example : Holds (exInput [exSign .tag [(['b'], ['2'])], exSign .tag [(['b'], ['2'])]])
    { calls := [
      { exObsGood with
        signed := some { mediaType := ['m'], digest := ['A'], size := 3, ann := [(['a'], ['1']), (['b'], ['2'])] },
        subject := some { mediaType := ['m'], digest := ['A'], size := 3, ann := [(['a'], ['1']), (['b'], ['2'])] },
        payload := some { mediaType := ['m'], digest := ['A'], size := 3, ann := [(['a'], ['1']), (['b'], ['2'])] },
        repoViewSame := false, handedSame := false },
      { ok := false, resolveArg := some .tag, signed := none, subject := none, pushAnn := none, payload := none,
        pluginCfg := none, returned := .zero,
        repoViewSame := false, handedSame := false, optsSame := true, producedSame := true, sigCounts := [1, 0] }] } = false := by decide +kernel

/-- `Holds` rejects a repository client that remembers what a reference resolved to: after the tag moved to B the
second call still signs A and attaches the signature to A - and names the clauses -/
example : (clauses (exInput [exSign .tag [], exTagTo 1, exSign .tag []])
    { calls := [exObsGood, { exObsGood with sigCounts := [2, 0] }] }).failed =
    ["signs_resolved_plus_metadata", "subject_is_resolved_descriptor", "one_signature_per_push",
     "signed_payload_covers_resolved_plus_metadata"] := by decide +kernel

/-- `Holds` rejects a pushed envelope whose payload lost the (blank) user metadata, although the signer was handed
the full descriptor -/
example : (clauses (exInputWith [exPlugin .generic .faithful []] [[]] [exSign .tag [(['r'], [])]])
    { calls := [{ exObsGood with
        signed := some { mediaType := ['m'], digest := ['A'], size := 3, ann := [(['a'], ['1']), (['r'], [])] } }] }).failed =
    ["signed_payload_covers_resolved_plus_metadata"] := by decide +kernel

/-- `Holds` rejects a later call that empties what an earlier push produced (the annotation map the repository keeps
in its record of signature #1 and the caller got back in the manifest descriptor) -/
example : (clauses (exInput [exSign .tag [], exSign .tag []])
    { calls := [exObsGood, { exObsGood with sigCounts := [2, 0], producedSame := false }] }).failed = ["frame"] := by decide +kernel

/-- `Holds` rejects signer defaults left behind in the caller's PluginConfig map -/
example : (clauses (exInputWith [exPlugin .pluginSig .faithful [(['v'], ['a'])]] [[(['t'], ['1'])]] [exSign .tag []])
    { calls := [{ exObsGood with pluginCfg := some [(['t'], ['1']), (['v'], ['a'])], optsSame := false }] }).failed =
    ["frame"] := by decide +kernel

/-! ### tie to the translated source (`Generated/SrcC11.lean`, re-translated from notation.go on every run) -/

/- the ties hand `simp` a comparison in both orientations, or a guard in two spellings, so that the regenerated text may
write it either way; on the current text one of each pair is unused -/
set_option linter.unusedSimpArgs false

namespace Tie
open NotationModel.Src NotationModel.Src.«notation»

/-! #### `validateSigMediaType`, `validateSignArguments` -/

/-- `validateSigMediaType` accepts exactly the two envelope media types. -/
theorem source_validateSigMediaType_refines_model (mt : String) :
    (validateSigMediaType mt).isNone = (mt == jws.MediaTypeEnvelope || mt == cose.MediaTypeEnvelope) := by
  unfold validateSigMediaType
  have hjc : jws.MediaTypeEnvelope ≠ cose.MediaTypeEnvelope := by decide
  by_cases h1 : mt = jws.MediaTypeEnvelope
  · subst h1; simp [Id.run, hjc, hjc.symm] <;> rfl
  · by_cases h2 : mt = cose.MediaTypeEnvelope
    · subst h2; simp [Id.run, hjc, hjc.symm] <;> rfl
    · have a : (mt == jws.MediaTypeEnvelope) = false := by simpa using h1
      have b : (mt == cose.MediaTypeEnvelope) = false := by simpa using h2
      simp [Id.run, h1, h2, Ne.symm h1, Ne.symm h2, a, b] <;> rfl

/-- what `validateSignArguments` demands, written out -/
def argsValid (signer : Option Signer) (o : SignerSignOptions) : Bool :=
  signer.isSome && decide (0 ≤ o.ExpiryDuration) && decide (Int.tmod o.ExpiryDuration time.Second = 0) &&
  (o.SignatureMediaType == jws.MediaTypeEnvelope || o.SignatureMediaType == cose.MediaTypeEnvelope)

/-- For EVERY signer value and options, `validateSignArguments` returns no error exactly
when the signer is not nil, the expiry is a non-negative whole number of seconds and the media type is one of the two
envelope types (the separate test for the empty media type is subsumed). -/
theorem source_validateSignArguments_refines_model (signer : Option Signer) (o : SignerSignOptions) :
    (validateSignArguments signer o).isNone = argsValid signer o := by
  have hempty : (validateSigMediaType "").isNone = false := by decide +kernel
  unfold validateSignArguments argsValid
  rw [← source_validateSigMediaType_refines_model]
  simp only [Id.run]
  -- one case per `return` of the source, whatever the order and the spelling of its tests
  repeat' split
  -- `hempty` (from the context) settles the empty media type
  all_goals simp_all [GoLite.idPure, Option.isSome_iff_ne_none, ← Int.not_lt, eq_comm (a := (0 : Int)), eq_comm (a := "")]

/-- the option scenarios of the model, made concrete -/
def optsOf : Opts → Option Signer × SignerSignOptions
  | .jws => (some {}, { SignatureMediaType := jws.MediaTypeEnvelope, ExpiryDuration := 0 })
  | .cose => (some {}, { SignatureMediaType := cose.MediaTypeEnvelope, ExpiryDuration := 24 * 3600 * time.Second })
  | .nilSigner => (none, { SignatureMediaType := jws.MediaTypeEnvelope, ExpiryDuration := 0 })
  | .nilRepo => (some {}, { SignatureMediaType := jws.MediaTypeEnvelope, ExpiryDuration := 0 })
  | .negativeExpiry => (some {}, { SignatureMediaType := jws.MediaTypeEnvelope, ExpiryDuration := -time.Second })
  | .subSecondExpiry => (some {}, { SignatureMediaType := jws.MediaTypeEnvelope, ExpiryDuration := 1500000000 })
  | .emptyMediaType => (some {}, { SignatureMediaType := "", ExpiryDuration := 0 })
  | .unsupportedMediaType => (some {}, { SignatureMediaType := "application/pkcs7-signature", ExpiryDuration := 0 })

/-- the model's `optsValid` is the translated `validateSignArguments` on each scenario (`nilRepo` is the one check
`SignOCI` makes itself, after `validateSignArguments` has passed) -/
theorem source_validateSignArguments_on_scenarios (o : Opts) (h : o ≠ .nilRepo) :
    (validateSignArguments (optsOf o).1 (optsOf o).2).isNone = optsValid o := by
  rw [source_validateSignArguments_refines_model]
  cases o
  case nilRepo => exact absurd rfl h
  all_goals decide +kernel

example : validateSignArguments (some {}) { SignatureMediaType := "application/cose", ExpiryDuration := 1500000000 } =
    some (GoLite.errorf "") := by decide +kernel

/-! #### `addUserMetadataToDescriptor` -/

abbrev SMap := GoLite.Map String String

/-- the keys of an association list are pairwise different (true of every Go map, in every iteration order) -/
def keysNodup (m : SMap) : Prop := (m.map (·.1)).Nodup

def hasKey (m : SMap) (k : String) : Bool := m.any (fun p => p.1 == k)

theorem keysNodup_cons {p : String × String} {m : SMap} (h : keysNodup (p :: m)) :
    (∀ q ∈ m, ¬ p.1 = q.1) ∧ keysNodup m := by
  unfold keysNodup at h ⊢
  simp only [List.map_cons, List.nodup_cons, List.mem_map, not_exists, not_and] at h
  exact ⟨fun q hq e => h.1 q hq e.symm, h.2⟩

theorem lookup_snd (m : SMap) (k : String) : (GoLite.Map.lookup m k).2 = hasKey m k := by
  unfold GoLite.Map.lookup GoLite.Map.get? hasKey
  induction m with
  | nil => simp
  | cons p m ih =>
    by_cases h : (p.1 == k) = true
    · simp [List.find?, h]
    · have h' : (p.1 == k) = false := by simpa using h
      simp only [List.find?, h', List.any_cons, Bool.false_or]
      exact ih

theorem set_new (m : SMap) (k v : String) (h : hasKey m k = false) : GoLite.Map.set m k v = m ++ [(k, v)] := by
  unfold GoLite.Map.set
  unfold hasKey at h
  simp [h]

theorem hasKey_append (m n : SMap) (k : String) : hasKey (m ++ n) k = (hasKey m k || hasKey n k) := by
  simp [hasKey]

/-- `for k, v := range m { fresh[k] = v }` into an empty map copies `m` (same order, even) -/
theorem copy_eq : ∀ (m acc : SMap), keysNodup m → (∀ p ∈ m, hasKey acc p.1 = false) →
    m.foldl (fun b a => GoLite.Map.set b a.1 a.2) acc = acc ++ m := by
  intro m
  induction m with
  | nil => intro acc _ _; simp
  | cons p m ih =>
    intro acc hn hd
    have hp : hasKey acc p.1 = false := hd p (by simp)
    simp only [List.foldl, set_new acc p.1 p.2 hp]
    rw [ih (acc ++ [(p.1, p.2)]) (keysNodup_cons hn).2]
    · simp
    · intro q hq
      rw [hasKey_append, hd q (by simp [hq])]
      simp [hasKey, (keysNodup_cons hn).1 q hq]

/-- is `k` refused as reserved by the translated table? -/
def srcReserved (k : String) : Bool := reservedAnnotationPrefixes.any (fun p => strings.HasPrefix k p)

/-- one round of the merge loop on the function's own copy of the annotations -/
def srcStep (anns : SMap) (kv : String × String) : Except Unit SMap :=
  if srcReserved kv.1 then .error ()
  else if hasKey anns kv.1 then .error ()
  else .ok (GoLite.Map.set anns kv.1 kv.2)

theorem foldE_own : ∀ (md anns : SMap), keysNodup md →
    match GoLite.foldE srcStep md anns with
    | .ok anns' => anns' = anns ++ md ∧ md.any (fun kv => srcReserved kv.1) = false ∧
        md.any (fun kv => hasKey anns kv.1) = false
    | .error _ => (md.any (fun kv => srcReserved kv.1) || md.any (fun kv => hasKey anns kv.1)) = true := by
  intro md
  induction md with
  | nil => intro anns _; simp [GoLite.foldE]
  | cons kv md ih =>
    intro anns hn
    obtain ⟨hfresh, hn'⟩ := keysNodup_cons hn
    simp only [GoLite.foldE, srcStep]
    by_cases hr : srcReserved kv.1 = true
    · simp [hr]
    · have hr' : srcReserved kv.1 = false := by simpa using hr
      by_cases hk : hasKey anns kv.1 = true
      · simp [hr', hk]
      · have hk' : hasKey anns kv.1 = false := by simpa using hk
        simp only [hr', hk', Bool.false_eq_true, if_false]
        have := ih (GoLite.Map.set anns kv.1 kv.2) hn'
        rw [set_new _ _ _ hk'] at this ⊢
        -- the keys still to come are not the one just added
        have hsame : md.any (fun q => hasKey (anns ++ [(kv.1, kv.2)]) q.1) = md.any (fun q => hasKey anns q.1) := by
          apply any_congr_mem
          intro q hq
          simp [hasKey, hfresh q hq]
        rw [hsame] at this
        cases hres : GoLite.foldE srcStep md (anns ++ [(kv.1, kv.2)]) with
        | ok anns' =>
          rw [hres] at this
          simp only [] at this ⊢
          exact ⟨by rw [this.1]; simp, by simp [hr', this.2.1], by simp [hk', this.2.2]⟩
        | error e =>
          rw [hres] at this
          simpa [hr', hk'] using this

theorem srcReserved_find (k : String) :
    srcReserved k = (reservedAnnotationPrefixes.find? (fun p => strings.HasPrefix k p)).isSome := by
  unfold srcReserved
  rw [Bool.eq_iff_iff]
  simp [List.find?_isSome, List.any_eq_true]

/-- the loop state of the merge loop seen from `srcStep`: no early result yet, the descriptor with the annotations
built so far, the caller's map (never written) -/
abbrev absSt (desc : ocispec.Descriptor) (anns : SMap) :
    Option (ocispec.Descriptor × Option GoLite.Err × SMap) × ocispec.Descriptor × SMap :=
  (none, { desc with Annotations := anns }, desc.Annotations)
abbrev stopSt (desc : ocispec.Descriptor) (anns : SMap) (_e : Unit) :
    Option (ocispec.Descriptor × Option GoLite.Err × SMap) × ocispec.Descriptor × SMap :=
  (some ({ desc with Annotations := anns }, some (GoLite.errorf ""), desc.Annotations),
    { desc with Annotations := anns }, desc.Annotations)

/-- what the translated `addUserMetadataToDescriptor` computes, for every descriptor and every metadata map in
every iteration order: (1) the CALLER's annotation map comes back exactly as it went in - also when the call is
refused half-way; (2) the call is refused exactly when a key is reserved or already an annotation;
(3) otherwise the result is the same descriptor with annotations = old annotations ++ metadata. -/
theorem source_addUserMetadataToDescriptor_spec (desc : ocispec.Descriptor) (md : SMap)
    (hd : keysNodup md) (ha : keysNodup desc.Annotations) :
    (addUserMetadataToDescriptor desc md).2.2 = desc.Annotations ∧
    (addUserMetadataToDescriptor desc md).2.1.isSome =
      (md.any (fun kv => srcReserved kv.1) || md.any (fun kv => hasKey desc.Annotations kv.1)) ∧
    ((addUserMetadataToDescriptor desc md).2.1 = none →
      (addUserMetadataToDescriptor desc md).1 = { desc with Annotations := desc.Annotations ++ md }) := by
  unfold addUserMetadataToDescriptor
  simp only [Id.run]
  have hcopy := copy_eq desc.Annotations [] ha (by intro p _; rfl)
  simp only [List.forIn_pure_yield_eq_foldl, hcopy, pure_bind, List.nil_append]
  cases md with
  | nil =>
    -- no metadata: the loop does not run
    simp [GoLite.idPure, GoLite.idBind, GoLite.len]
  | cons a l =>
    -- the guard of the allocation: `len(md) > 0`, `len(md) != 0`, or absent
    have g1 : GoLite.len (a :: l) > 0 := by simp [GoLite.len] <;> omega
    have g3 : (GoLite.len (a :: l) != 0) = true := by simp [bne, GoLite.len]; omega
    try simp only [g1, g3, decide_true, if_true]
    clear g1 g3
    generalize a :: l = md at hd ⊢
    rw [GoLite.forIn_eq_foldE' _ srcStep (absSt desc) (stopSt desc) ?h md _ desc.Annotations rfl]
    case h =>
      -- the body of the source's loop against `srcStep`
      intro a t
      simp only [GoLite.forIn_returnIf, pure_bind, srcStep, srcReserved_find, lookup_snd]
      cases hf : reservedAnnotationPrefixes.find? (fun p => strings.HasPrefix a.1 p) <;>
        cases hk : hasKey t a.1 <;> first | rfl | simp [hf, hk, GoLite.errorf, GoLite.idPure, GoLite.idBind]
    have hfold := foldE_own md desc.Annotations hd
    cases hres : GoLite.foldE srcStep md desc.Annotations with
    | ok t' =>
      rw [hres] at hfold
      simp only [] at hfold
      simp [GoLite.idPure, GoLite.idBind, hfold.1, hfold.2.1, hfold.2.2]
    | error e =>
      rw [hres] at hfold
      simp only [] at hfold
      simp [GoLite.idPure, GoLite.idBind, hfold]

/-- Go strings as the model's texts -/
def toAnn (m : SMap) : AnnMap := m.map (fun p => (p.1.toList, p.2.toList))

/-- the translated table is the extracted table (and hence the prefix the property names: `facts_reserved_prefixes`) -/
theorem reserved_agree : Facts.c11ReservedPrefixes = reservedAnnotationPrefixes.map String.toList := by decide +kernel

theorem isReserved_src (k : String) : isReserved k.toList = srcReserved k := by
  unfold isReserved srcReserved
  rw [reserved_agree, List.any_map]
  rfl

theorem look_toAnn_get? (s : String) : ∀ (m : SMap), look s.toList (toAnn m) = (GoLite.Map.get? m s).map String.toList := by
  intro m
  induction m with
  | nil => rfl
  | cons p m ih =>
    have e : toAnn (p :: m) = (p.1.toList, p.2.toList) :: toAnn m := rfl
    rw [e]
    unfold GoLite.Map.get? at ih ⊢
    simp only [look, beq_toList, List.find?]
    by_cases h : s = p.1
    · simp [h]
    · have hb : (p.1 == s) = false := by simpa using (fun e => h e.symm : ¬ p.1 = s)
      simp only [beq_iff_eq, h, if_false, hb]
      exact ih

theorem look_toAnn (anns : SMap) (k : String) : (look k.toList (toAnn anns)).isSome = hasKey anns k := by
  rw [look_toAnn_get?, ← lookup_snd]
  unfold GoLite.Map.lookup
  cases GoLite.Map.get? anns k <;> rfl

theorem any_reserved_src (md : SMap) :
    (toAnn md).any (fun kv => isReserved kv.1) = md.any (fun kv => srcReserved kv.1) := by
  simp [toAnn, List.any_map, Function.comp_def, isReserved_src]

theorem any_collides_src (anns md : SMap) :
    (toAnn md).any (collidesWith (toAnn anns)) = md.any (fun kv => hasKey anns kv.1) := by
  show (md.map _).any _ = _
  simp [List.any_map, Function.comp_def, collidesWith, look_toAnn]

theorem distinctKeys_toAnn : ∀ (md : SMap), keysNodup md → distinctKeys (toAnn md) = true := by
  intro md
  induction md with
  | nil => intro _; rfl
  | cons p md ih =>
    intro hn
    simp only [toAnn, List.map_cons, distinctKeys, Bool.and_eq_true, Bool.not_eq_true', List.any_map, List.any_eq_false]
    refine ⟨?_, ih (keysNodup_cons hn).2⟩
    intro q hq
    have : ¬ q.1 = p.1 := fun e => (keysNodup_cons hn).1 q hq e.symm
    simp only [Function.comp, beq_toList]
    simpa using this

theorem look_append (k : Text) : ∀ (a b : AnnMap),
    look k (a ++ b) = (match look k a with | some v => some v | none => look k b) := by
  intro a
  induction a with
  | nil => intro b; rfl
  | cons p a ih =>
    intro b
    by_cases h : k = p.1 <;> simp [look, h, ih]

theorem look_none_of_no_collision (base : AnnMap) (k v : Text) : ∀ (md : AnnMap),
    md.any (collidesWith base) = false → look k md = some v → look k base = none := by
  intro md
  induction md with
  | nil => intro _ h; simp [look] at h
  | cons p md ih =>
    intro hc hl
    simp only [List.any_cons, Bool.or_eq_false_iff] at hc
    by_cases h : k = p.1
    · have := hc.1
      simp only [collidesWith, ← h] at this
      cases hb : look k base with
      | none => rfl
      | some w => simp [hb] at this
    · simp only [look, beq_iff_eq, h, if_false] at hl
      exact ih hc.2 hl

/-- `addUserMetadataToDescriptor`, against the
heap model `addUserMetadata` - for EVERY descriptor and metadata map (keys pairwise different, as in any Go map; every
iteration order), and every heap in which the descriptor's annotation map has these contents:
(1) the CALLER's annotation map is returned by the translated function exactly as it went in - finding F-C11 cannot
    come back without breaking this theorem;
(2) the translated function returns an error exactly when the model refuses;
(3) when they succeed, the annotations of the returned descriptor and the map the model hands to the signer agree
    key by key, and media type, digest and size are those of the descriptor passed in. -/
theorem source_addUserMetadataToDescriptor_refines_model (desc : ocispec.Descriptor) (md : SMap)
    (hd : keysNodup md) (ha : keysNodup desc.Annotations)
    (h : Heap) (ann : MapRef) (hv : validRef h ann) (hr : h.read ann = toAnn desc.Annotations) :
    (addUserMetadataToDescriptor desc md).2.2 = desc.Annotations ∧
    (addUserMetadataToDescriptor desc md).2.1.isNone = (addUserMetadata h ann (toAnn md)).2.2 ∧
    ((addUserMetadata h ann (toAnn md)).2.2 = true →
      (∀ k, look k ((addUserMetadata h ann (toAnn md)).1.read (addUserMetadata h ann (toAnn md)).2.1) =
        look k (toAnn (addUserMetadataToDescriptor desc md).1.Annotations)) ∧
      (addUserMetadataToDescriptor desc md).1.MediaType = desc.MediaType ∧
      (addUserMetadataToDescriptor desc md).1.Digest = desc.Digest ∧
      (addUserMetadataToDescriptor desc md).1.Size = desc.Size) := by
  obtain ⟨s1, s2, s3⟩ := source_addUserMetadataToDescriptor_spec desc md hd ha
  obtain ⟨_, _, m3, m4⟩ := addUserMetadata_spec h ann (toAnn md) hv (distinctKeys_toAnn md hd)
  rw [hr, any_reserved_src, any_collides_src] at m3
  have hsame : (addUserMetadataToDescriptor desc md).2.1.isNone = (addUserMetadata h ann (toAnn md)).2.2 := by
    rw [m3, ← Bool.not_or, ← s2]
    cases (addUserMetadataToDescriptor desc md).2.1 <;> rfl
  refine ⟨s1, hsame, ?_⟩
  intro hok
  have hnone : (addUserMetadataToDescriptor desc md).2.1 = none := by
    rw [hok] at hsame
    simpa using hsame
  rw [s3 hnone, m4 hok, hr]
  refine ⟨?_, rfl, rfl, rfl⟩
  intro k
  have hnc : (toAnn md).any (collidesWith (toAnn desc.Annotations)) = false := by
    rw [any_collides_src]
    rw [hok] at m3
    simp only [Bool.true_eq, Bool.and_eq_true, Bool.not_eq_true'] at m3
    exact m3.2
  have : toAnn (desc.Annotations ++ md) = toAnn desc.Annotations ++ toAnn md := by simp [toAnn]
  rw [this, look_merged k _ _ (distinctKeys_toAnn md hd), look_append]
  cases hm : look k (toAnn md) with
  | none => cases look k (toAnn desc.Annotations) <;> rfl
  | some v => rw [look_none_of_no_collision _ k v _ hnc hm]

/-- the translated function, run: metadata merged behind the existing annotations, the caller's map returned as it was -/
example : addUserMetadataToDescriptor { MediaType := "m", Digest := "d", Size := 3, Annotations := [("a", "1")] } [("b", "2")] =
    ({ MediaType := "m", Digest := "d", Size := 3, Annotations := [("a", "1"), ("b", "2")] }, none, [("a", "1")]) := by decide +kernel

example : (addUserMetadataToDescriptor { MediaType := "m", Digest := "d", Size := 3, Annotations := [("a", "1")] }
    [("b", "2"), ("io.cncf.notary#S256", "x")]).2 = (some (GoLite.errorf ""), [("a", "1")]) := by decide +kernel

example : (addUserMetadataToDescriptor { MediaType := "m", Digest := "d", Size := 3, Annotations := [("a", "1")] }
    [("b", "2"), ("a", "1")]).2 = (some (GoLite.errorf ""), [("a", "1")]) := by decide +kernel

/-! #### `generateAnnotations` -/

/-- the hand-copied key constants of `Src/TypesC11.lean` are the values the fact extractor reads from the source -/
theorem keys_agree : envelope.AnnotationX509ChainThumbprint.toList = Facts.c11ThumbprintKey ∧
    ocispec.AnnotationCreated.toList = Facts.c11CreatedKey := by
  simp only [envelope.AnnotationX509ChainThumbprint, ocispec.AnnotationCreated, toList_lit]
  decide +kernel

/-- SHA-256 (oracle) of each certificate of the chain, hex encoded (oracle), in chain order -/
def thumbsOf (env : AnnEnv) (si : signature.SignerInfo) : List String :=
  si.CertificateChain.map (fun c => env.hex (env.sum256 c.Raw))

theorem foldl_snoc {α β : Type} (f : α → β) : ∀ (l : List α) (acc : List β),
    l.foldl (fun b a => b ++ [f a]) acc = acc ++ l.map f := by
  intro l
  induction l with
  | nil => intro acc; simp
  | cons a l ih => intro acc; simp [List.foldl, ih]

/-- what `generateAnnotations` returns and what it does to the caller's map, spelled out -/
def genSpec (env : AnnEnv) (si? : Option signature.SignerInfo) (ann : SMap) (annNil : Bool) : SMap × Option GoLite.Err × SMap :=
  match si? with
  | none => ([], some (GoLite.errorf ""), ann)
  | some si =>
    match env.marshal (thumbsOf env si) with
    | .error e => ([], some e, ann)
    | .ok val =>
      let a1 := GoLite.Map.set (if annNil then [] else ann) envelope.AnnotationX509ChainThumbprint val
      match env.signingTime (some si) with
      | .error e => ([], some e, if annNil then ann else a1)
      | .ok t =>
        let a2 := GoLite.Map.set a1 ocispec.AnnotationCreated (t.Format time.RFC3339)
        (a2, none, if annNil then ann else a2)

/-- `generateAnnotations`, for EVERY signer
info, plugin annotation map and oracle behaviour: the thumbprint list is built from every certificate of the chain in
chain order; the thumbprint key and then the created key are written OVER whatever the given annotations hold under
these keys (a nil map is replaced by an empty one first); nothing else is written; an error returns no map. The third
component says what happens to the CALLER's map (signer.PluginAnnotations()): it is written in place when it is not
nil - also when the signing time turns out to be missing after the first write. -/
theorem source_generateAnnotations_refines_model (env : AnnEnv) (si? : Option signature.SignerInfo) (ann : SMap) (annNil : Bool) :
    generateAnnotations env si? ann annNil = genSpec env si? ann annNil := by
  unfold generateAnnotations genSpec
  simp only [Id.run]
  cases si? with
  | none => rfl
  | some si =>
    simp only [Option.isNone_some, Bool.false_eq_true, if_false, GoLite.deref, Option.getD_some]
    have hth : List.foldl (fun b (a : signature.Cert) => b ++ [env.hex (env.sum256 a.Raw)]) default si.CertificateChain =
        thumbsOf env si := by
      rw [foldl_snoc (fun (c : signature.Cert) => env.hex (env.sum256 c.Raw))]
      rfl
    simp only [List.forIn_pure_yield_eq_foldl, pure_bind, hth]
    unfold AnnEnv.Marshal AnnEnv.SigningTime
    -- every combination of: nil map or not, marshal fails or not, signing time missing or not
    cases annNil <;> cases hm : env.marshal (thumbsOf env si) <;> cases ht : env.signingTime (some si) <;>
      simp [GoLite.idPure] <;> rfl -- where an error leaves `default` for the empty map

theorem get?_set (m : SMap) (k v s : String) :
    GoLite.Map.get? (GoLite.Map.set m k v) s = if s = k then some v else GoLite.Map.get? m s := by
  by_cases hs : s = k
  · rw [if_pos hs, hs, GoLite.Map.get?_set_self]
  · rw [if_neg hs, GoLite.Map.get?_set_ne _ _ _ _ (beq_false_of_ne (Ne.symm hs))]

theorem look_toAnn_set (k v : String) (k' : Text) (m : SMap) :
    look k' (toAnn (GoLite.Map.set m k v)) = if k' = k.toList then some v.toList else look k' (toAnn m) := by
  have hk' : k' = (String.ofList k').toList := by simp
  generalize String.ofList k' = s at hk'
  subst hk'
  rw [look_toAnn_get?, look_toAnn_get?, get?_set]
  by_cases h : s = k
  · simp [h]
  · have : ¬ s.toList = k.toList := fun e => h (String.toList_inj.1 e)
    simp [h, this]

/-- `generateAnnotations` against the model's `expectedPushAnn`: when the oracles deliver the texts the model computes (the JSON
array of the chain's thumbprints, the RFC 3339 signing time) and the given annotations are the signer's plugin
annotations, the translated function returns, key by key, exactly the annotations the model pushes. -/
theorem source_generateAnnotations_matches_model (sg : SignerCfg) (env : AnnEnv) (si : signature.SignerInfo) (ann : SMap)
    (annNil : Bool) (val : String) (t : time.Time)
    (hbase : toAnn (if annNil then [] else ann) = sg.pluginAnn)
    (hm : env.marshal (thumbsOf env si) = .ok val) (hval : val.toList = jsonArray sg.thumbs)
    (ht : env.signingTime (some si) = .ok t) (hf : (t.Format time.RFC3339).toList = rfc3339 sg.time) :
    (generateAnnotations env (some si) ann annNil).2.1 = none ∧
    ∀ k, look k (toAnn (generateAnnotations env (some si) ann annNil).1) = look k (expectedPushAnn sg) := by
  rw [source_generateAnnotations_refines_model]
  simp only [genSpec, hm, ht]
  refine ⟨trivial, ?_⟩
  intro k
  simp only [look_toAnn_set, hbase, expectedPushAnn, look_put, keys_agree.1, keys_agree.2, hval, hf]

def exEnv : AnnEnv :=
  { sum256 := fun b => b, hex := fun b => String.ofList (b.map (fun n => Char.ofNat (97 + n))), marshal := fun l => .ok (String.intercalate "," l),
    signingTime := fun _ => .ok ⟨0, fun _ => "T"⟩ }

example : generateAnnotations exEnv (some { CertificateChain := [⟨[0, 1]⟩, ⟨[2]⟩] })
    [("org.opencontainers.image.created", "forged"), ("p", "q")] false =
    ([("org.opencontainers.image.created", "T"), ("p", "q"), ("io.cncf.notary.x509chain.thumbprint#S256", "ab,c")], none,
     [("org.opencontainers.image.created", "T"), ("p", "q"), ("io.cncf.notary.x509chain.thumbprint#S256", "ab,c")]) := by decide +kernel

end Tie

/-! #### `PluginSigner.mergeConfig`, `isDescriptorSubset` / `isPayloadDescriptorValid`, `SanitizeTargetArtifact`
(`Generated/SrcC11b.lean`, `SrcC11c.lean`) -/

namespace Tie
open NotationModel.Src

theorem all_congr_mem {α : Type} {f g : α → Bool} : ∀ {l : List α}, (∀ x ∈ l, f x = g x) → l.all f = l.all g := by
  intro l
  induction l with
  | nil => intro _; rfl
  | cons a l ih =>
    intro h
    simp only [List.all_cons, h a (by simp), ih (fun x hx => h x (by simp [hx]))]

theorem look_foldl_set (k' : Text) : ∀ (l acc : SMap), keysNodup l →
    look k' (toAnn (l.foldl (fun b a => GoLite.Map.set b a.1 a.2) acc)) =
      (match look k' (toAnn l) with | some v => some v | none => look k' (toAnn acc)) := by
  intro l
  induction l with
  | nil => intro acc _; rfl
  | cons p l ih =>
    intro acc hn
    have hn' := (keysNodup_cons hn).2
    have e : toAnn (p :: l) = (p.1.toList, p.2.toList) :: toAnn l := rfl
    simp only [List.foldl]
    rw [ih _ hn', look_toAnn_set, e]
    simp only [look]
    by_cases hk : k' = p.1.toList
    · -- the key of the head does not occur in the tail
      have hnone : look k' (toAnn l) = none := by
        have hdk := distinctKeys_toAnn (p :: l) hn
        rw [e] at hdk
        simp only [distinctKeys, Bool.and_eq_true, Bool.not_eq_true'] at hdk
        rw [hk]
        exact look_none_of_not_any _ _ hdk.1
      rw [hk] at hnone
      simp [hk, hnone]
    · simp only [beq_iff_eq, hk, if_false]

/-- `PluginSigner.mergeConfig`, for EVERY
signer config and per-call config (keys pairwise different, every iteration order): (1) the CALLER's per-call map comes
back exactly as it went in - the signer's defaults are never written into it; (2) the merged config is, key by key,
the model's `merged defaults call`: the per-call entry where there is one, the signer's default otherwise. -/
theorem source_mergeConfig_refines_model (s : c11.signer.PluginSigner) (config : SMap)
    (hd : keysNodup s.pluginConfig) (hc : keysNodup config) :
    (c11.signer.PluginSigner.mergeConfig s config).2 = config ∧
    ∀ k, look k (toAnn (c11.signer.PluginSigner.mergeConfig s config).1) =
      look k (merged (toAnn s.pluginConfig) (toAnn config)) := by
  unfold c11.signer.PluginSigner.mergeConfig
  simp only [Id.run, List.forIn_pure_yield_eq_foldl, pure_bind]
  simp only [GoLite.idPure]
  refine ⟨trivial, ?_⟩
  intro k
  have h := look_foldl_set k config (s.pluginConfig.foldl (fun b a => GoLite.Map.set b a.1 a.2) []) hc
  have h2 := look_foldl_set k s.pluginConfig [] hd
  rw [look_merged k _ _ (distinctKeys_toAnn config hc)]
  rw [h, h2]
  cases look k (toAnn config) <;> cases look k (toAnn s.pluginConfig) <;> rfl

/-- every requested annotation is in the signed payload under its value (the loop of `isDescriptorSubset`) -/
def srcCovers (o n : SMap) : Bool := o.all (fun kv => hasKey n kv.1 && kv.2 == (GoLite.Map.lookup n kv.1).1)

/-- `isPayloadDescriptorValid` / `isDescriptorSubset`: the payload an envelope plugin signed is accepted exactly when it is over the same size, digest and media
type and has EVERY annotation of the requested descriptor under the requested value - a missing annotation is as
fatal as a changed one; additional annotations are tolerated. -/
theorem source_isPayloadDescriptorValid_refines_model (o n : ocispec.Descriptor) :
    c11.signer.isPayloadDescriptorValid o n = (c11.content.Equal o n && srcCovers o.Annotations n.Annotations) := by
  unfold c11.signer.isPayloadDescriptorValid c11.signer.isDescriptorSubset
  simp only [Id.run]
  cases he : c11.content.Equal o n
  · simp [GoLite.idPure]
  · simp only [Bool.not_true, Bool.false_eq_true, if_false, Bool.true_and, lookup_snd]
    -- the loop returns `false` at the first annotation the payload does not carry under its value
    rw [GoLite.forIn_findReturn (fun a => if hasKey n.Annotations a.1 && a.2 == (GoLite.Map.lookup n.Annotations a.1).1
        then none else some false) _ ?h, GoLite.findSome?_if_none]
    case h =>
      intro a t
      have hsym : ((GoLite.Map.lookup n.Annotations a.1).1 == a.2) = (a.2 == (GoLite.Map.lookup n.Annotations a.1).1) :=
        BEq.comm
      cases h1 : hasKey n.Annotations a.1 <;> cases h2 : (a.2 == (GoLite.Map.lookup n.Annotations a.1).1) <;>
        simp [h1, h2, hsym, GoLite.idPure, bne]
    unfold srcCovers
    cases o.Annotations.all _ <;> rfl

/-- the test of the translated `isDescriptorSubset` is the model's `covers` (for requested annotations with pairwise
different keys) -/
theorem srcCovers_eq_covers (o n : SMap) (hn : keysNodup o) : srcCovers o n = covers (toAnn o) (toAnn n) := by
  unfold srcCovers covers
  show _ = ((o.map _).all _)
  rw [List.all_map]
  apply all_congr_mem
  intro kv hkv
  obtain ⟨k, v⟩ := kv
  simp only [Function.comp]
  -- the first (and only) entry of `o` under `k` is `v`
  have ho : look k.toList (toAnn o) = some v.toList := by
    have hmem : (k.toList, v.toList) ∈ toAnn o := List.mem_map.2 ⟨(k, v), hkv, rfl⟩
    exact look_of_mem (distinctKeys_toAnn o hn) hmem
  rw [ho, look_toAnn_get?]
  unfold GoLite.Map.lookup
  rw [← lookup_snd]
  unfold GoLite.Map.lookup
  cases hg : GoLite.Map.get? n k with
  | none => simp
  | some w =>
    simp only [Option.map_some, Bool.true_and]
    by_cases hvw : v = w
    · subst hvw; simp
    · have : ¬ w.toList = v.toList := fun e => hvw (String.toList_inj.1 e).symm
      have b1 : (v == w) = false := by simpa using hvw
      have b2 : (w.toList == v.toList) = false := by simpa using this
      simp [b1, b2]

/-- `envelope.SanitizeTargetArtifact` (internal/envelope/envelope.go) hands on media type, digest, size and the annotation map AS IT IS - no entry is left out or changed, blank keys
and blank values included. -/
theorem source_SanitizeTargetArtifact_refines_model (d : ocispec.Descriptor) :
    c11.envelope.SanitizeTargetArtifact d = d := by
  unfold c11.envelope.SanitizeTargetArtifact
  simp [Id.run, GoLite.idPure]

example : c11.signer.PluginSigner.mergeConfig ⟨[("vault", "a"), ("region", "eu")]⟩ [("vault", "b")] =
    ([("vault", "b"), ("region", "eu")], [("vault", "b")]) := by decide +kernel

example : c11.signer.isPayloadDescriptorValid
    { MediaType := "m", Digest := "d", Size := 3, Annotations := [("a", "1"), ("r", "")] }
    { MediaType := "m", Digest := "d", Size := 3, Annotations := [("a", "1")] } = false := by decide +kernel

example : (c11.envelope.SanitizeTargetArtifact { MediaType := "m", Digest := "d", Size := 3, Annotations := [("r", ""), ("", "x")] }).Annotations =
    [("r", ""), ("", "x")] := by decide +kernel

end Tie

end NotationModel.C11
