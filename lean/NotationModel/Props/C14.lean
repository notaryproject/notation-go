/-
C14 - A CRL cache entry is only ever absent or complete.
The model is in `Model/C14.lean`, the inductive invariant and its preservation by every event in
`Lemmas/C14Inv.lean` (space) and `Lemmas/C14Time.lean` (time). All theorems quantify over arbitrary
event lists = every interleaving of any number of writers and readers over any keys, with crashes
anywhere (ill-timed events are no-ops of `step`).
-/
import NotationModel.Lemmas.C14Time
import NotationModel.Generated.Skeletons

namespace NotationModel.C14

/-! ### the code is the protocol the state machine models

That `file.WriteFile` creates a temp file, writes, closes and renames over the destination - in this
order, with the cleanup on every failure path - is proved from the TRANSLATED source for every oracle
in `Props/C14_WriteFile.lean` (`Tie.source_WriteFile_refines_protocol` and what follows from it). -/

/-- `FileCache.Set` makes exactly ONE file-system call, `file.WriteFile`, and `FileCache.Get` exactly one,
`os.ReadFile` (callees only: WHICH arguments they get - the cache root as temp directory, so that the
rename never crosses a file system, and `root/hex(sha256(url))` as destination / path read - is proved
from the translated source: `Tie.source_Set_runs_protocol` in `Props/C14_WriteFile.lean`,
`C15.Tie.source_Get_refines_model`) -/
theorem fact_set_and_get_make_one_call_each :
    Facts.crlSetCalls.map (fun s => s.toList.takeWhile (· != '(')) = ["file.WriteFile".toList] ∧
    Facts.crlGetCalls.map (fun s => s.toList.takeWhile (· != '(')) = ["os.ReadFile".toList] := by
  simp only [Facts.crlSetCalls, Facts.crlGetCalls, List.map, toList_lit]
  decide +kernel

theorem fact_temp_prefix : Facts.tempFileNamePrefix.toList = tempPrefix ++ ['*'] := by
  simp only [Facts.tempFileNamePrefix, toList_lit]
  decide +kernel

theorem fact_key_name_is_hex_sha256 : Facts.crlFileNameCalls = ["sha256.Sum256", "hex.EncodeToString"] := by decide +kernel

/-! ### the invariant holds in every reachable state -/

theorem inv_runFrom (p : Prog) (evs : List Event) : ∀ s, Inv p s → InvT p s →
    Inv p (runFrom p s evs) ∧ InvT p (runFrom p s evs) := by
  induction evs with
  | nil => intro s h1 h2; exact ⟨h1, h2⟩
  | cons e es ih =>
    intro s h1 h2
    simp only [runFrom, List.foldl_cons]
    exact ih _ (inv_step p s e h1) (invT_step p s e h1 h2)

/-- **every schedule**: the invariant holds after any event list -/
theorem inv_reachable (p : Prog) (evs : List Event) : Inv p (exec p evs) ∧ InvT p (exec p evs) :=
  inv_runFrom p evs init (inv_init p) (invT_init p)

/-! ### readable property theorems -/

/-- **C14, absent or complete.** Under any schedule, a finished read returned a miss (`none`) or
exactly the complete data of some writer of the key it read - never a truncated or mixed entry. -/
theorem read_absent_or_complete (p : Prog) (evs : List Event) (r : Nat) (res : Option Bytes) (snap : Option Nat)
    (h : (exec p evs).rst r = .finished res snap) :
    res = none ∨ ∃ w, p.wkey w = p.rkey r ∧ res = some (p.wdata w) := by
  cases res with
  | none => exact Or.inl rfl
  | some b =>
    have hr := (inv_reachable p evs).1.reader r
    rw [h] at hr
    obtain ⟨w, _, h2, h3⟩ := hr
    exact Or.inr ⟨w, h2, by rw [h3]⟩

/-- a read in progress has so far seen a prefix of one single complete entry of its key -/
theorem read_in_progress_is_prefix (p : Prog) (evs : List Event) (r i : Nat) (buf : Bytes) (snap : Option Nat)
    (h : (exec p evs).rst r = .reading i buf snap) :
    ∃ w, p.wkey w = p.rkey r ∧ buf = (p.wdata w).take buf.length := by
  have hr := (inv_reachable p evs).1.reader r
  rw [h] at hr
  obtain ⟨_, _, w, _, h2, _, h4⟩ := hr
  exact ⟨w, h2, List.prefix_iff_eq_take.1 h4⟩

/-- **C14, key names are sealed.** Whatever inode a key name points to holds the complete bytes of a
writer of that key whose rename has happened, and no writer in progress can write to it. -/
theorem inv_key_sealed (p : Prog) (evs : List Event) (k i : Nat)
    (h : (exec p evs).dir (.key k) = some i) :
    ∃ w, p.wkey w = k ∧ (exec p evs).ino i = p.wdata w ∧ (exec p evs).wst w = .done ∧
      ∀ w', ¬ Owns (exec p evs) w' i := by
  obtain ⟨w, _, h2, h3, h4, h5, _⟩ := (inv_reachable p evs).1.key_sealed k i h
  exact ⟨w, h2, h3, h4, h5⟩

/-- an inode nobody owns stays unowned and keeps its bytes, whatever happens next -/
theorem sealed_step (p : Prog) (s : Sys) (e : Event) (i : Nat)
    (hlt : i < s.next) (hno : ∀ w, ¬ Owns s w i) :
    (step p s e).ino i = s.ino i ∧ i < (step p s e).next ∧ ∀ w, ¬ Owns (step p s e) w i := by
  rcases step_shape p s e with ⟨w, t, j, -, -, hs⟩ | ⟨r, x, t, -, hs⟩ | hs | ⟨w, -, m⟩
  · -- a rename only ends an ownership
    rw [hs]
    exact ⟨rfl, hlt, fun w' ho => hno w' (owns_upd_done rfl ho).1⟩
  · rw [hs]; exact ⟨rfl, hlt, hno⟩
  · rw [hs]; exact ⟨rfl, hlt, hno⟩
  · exact m.sealed hlt hno

theorem sealed_runFrom (p : Prog) (evs : List Event) (i : Nat) : ∀ s, i < s.next →
    (∀ w, ¬ Owns s w i) → (runFrom p s evs).ino i = s.ino i := by
  induction evs with
  | nil => intro s _ _; rfl
  | cons e es ih =>
    intro s hlt hno
    obtain ⟨a, b, c⟩ := sealed_step p s e i hlt hno
    exact (ih (step p s e) b c).trans a

/-- **C14, sealed for ever.** Once a key name points to inode `i`, the bytes of `i` never change
again under any continuation of the schedule (a reader that opened it keeps reading the same
complete entry, even after later renames replaced the name). -/
theorem key_inode_never_written_again (p : Prog) (evs more : List Event) (k i : Nat)
    (h : (exec p evs).dir (.key k) = some i) :
    (exec p (evs ++ more)).ino i = (exec p evs).ino i := by
  obtain ⟨w, _, _, _, _, h5, h6⟩ := (inv_reachable p evs).1.key_sealed k i h
  rw [exec, runFrom_append]
  exact sealed_runFrom p more i _ h6 h5

/-- **C14, freshness (atomic-register order).** `stamp w < openAt r` says writer `w`'s rename
happened before reader `r` opened the entry. A finished read then returned the complete data of a
writer `w'` of the same key whose rename is not before `w`'s - and in particular not a miss. -/
theorem read_not_older (p : Prog) (evs : List Event) (r : Nat) (res : Option Bytes) (snap : Option Nat)
    (h : (exec p evs).rst r = .finished res snap)
    (w : Nat) (hw : (exec p evs).wst w = .done) (hk : p.wkey w = p.rkey r)
    (hbefore : (exec p evs).stamp w < (exec p evs).openAt r) :
    ∃ w', res = some (p.wdata w') ∧ p.wkey w' = p.rkey r ∧ (exec p evs).wst w' = .done ∧
      (exec p evs).stamp w ≤ (exec p evs).stamp w' := by
  obtain ⟨hi, ht⟩ := inv_reachable p evs
  have hr := ht.reader r
  rw [h] at hr
  cases res with
  | none => exact absurd (hr.2 w hw hk) (Nat.not_le_of_lt hbefore)
  | some b =>
    have hf := hi.reader r
    rw [h] at hf
    obtain ⟨w', h1, h2, h3⟩ := hf
    obtain ⟨f1, f2⟩ := hr.2 w' h1
    exact ⟨w', by rw [h3], h2, f1, f2 w hw hk hbefore⟩

/-- **C14, crashes.** After any schedule, followed by killing any writers at whatever point they
are, every key name is absent or holds the complete data of a writer of that key. -/
theorem crash_leaves_absent_or_complete (p : Prog) (evs : List Event) (killed : List Nat) (k : Nat) :
    let s := exec p (evs ++ killed.map Event.crash)
    s.dir (.key k) = none ∨ ∃ i w, s.dir (.key k) = some i ∧ p.wkey w = k ∧ s.ino i = p.wdata w := by
  intro s
  cases hd : s.dir (.key k) with
  | none => exact Or.inl rfl
  | some i =>
    obtain ⟨w, h2, h3, _⟩ := inv_key_sealed p _ k i hd
    exact Or.inr ⟨i, w, rfl, h2, h3⟩

/-- a crash never changes the directory or any file content: what was complete stays complete,
the half-written temp file simply stays behind under its temp name -/
theorem crash_touches_no_file (p : Prog) (s : Sys) (w : Nat) :
    (step p s (.crash w)).dir = s.dir ∧ (step p s (.crash w)).ino = s.ino := by
  simp only [step]
  split <;> exact ⟨rfl, rfl⟩

/-! ### temp names are never key names (concrete encoding) -/

theorem hexDigit_ne_n : ∀ m, m < 16 → hexDigit m ≠ 'n' := by decide +kernel

theorem hexName_length (d : List Nat) : (hexName d).length = 2 * d.length := by
  induction d with
  | nil => rfl
  | cons b r ih =>
    rw [hexName, List.flatMap_cons, List.length_append, ← hexName, ih, List.length_cons]
    simp only [hexByte, List.length_cons, List.length_nil]
    omega

/-- **C14, temp files are never mistaken for entries.** For every suffix `s` (whatever
`os.CreateTemp` substitutes for `*`) and every digest `d` (any length, in particular 32 bytes),
the temp name "notation-"++s differs from the key name `hex(d)`: `n` is not a hex digit. -/
theorem temp_never_key (s : List Char) (d : List Nat) : tempPrefix ++ s ≠ hexName d := by
  cases d with
  | nil => simp [hexName, tempPrefix]
  | cons b r =>
    intro h
    have h0 : (tempPrefix ++ s).head? = (hexName (b :: r)).head? := by rw [h]
    simp [tempPrefix, hexName, hexByte, List.flatMap_cons] at h0
    exact hexDigit_ne_n (b / 16 % 16) (Nat.mod_lt _ (by decide)) h0.symm

/-- key names are 64 characters for 32-byte digests -/
theorem key_name_length (d : List Nat) (h : d.length = 32) : (hexName d).length = 64 := by
  rw [hexName_length, h]


/-! ### the executable replay and `Holds` -/

theorem decode_mkData (b d l : Nat) : decode (mkData b d l) = ⟨.complete, b, d⟩ := by
  simp [decode, mkData]

/-- what an uninterrupted `Get` observes in a state satisfying the invariant: a miss when the key
name is absent, otherwise the complete content of the key's current writer -/
theorem getObs_spec (i : Input) (s : Sys) (k : Nat) (h : Inv (prog i) s) :
    (s.dir (.key k) = none ∧ getObs s k = ⟨.miss, 0, 0⟩) ∨
    (∃ j w0, s.dir (.key k) = some j ∧ s.cur k = some w0 ∧ (specOf i w0).key = k ∧ s.wst w0 = .done ∧
      getObs s k = ⟨.complete, (specOf i w0).base, (specOf i w0).delta⟩) := by
  cases hd : s.dir (.key k) with
  | none => left; simp [getObs, hd]
  | some j =>
    right
    obtain ⟨w0, h1, h2, h3, h4, _, _⟩ := h.key_sealed k j hd
    refine ⟨j, w0, rfl, h1, h2, h4, ?_⟩
    simp only [getObs, hd, h3]
    exact decode_mkData _ _ _

theorem toEvent_writer (e : Ev) (ev : Event) (h : e.toEvent = some ev) : ev.writer = some e.a := by
  obtain ⟨k, a, b⟩ := e
  cases k <;> cases h <;> rfl

theorem stepEv_wst_other (p : Prog) (s : Sys) (e : Ev) (w : Nat) (h : w ≠ e.a) :
    (stepEv p s e).wst w = s.wst w := by
  simp only [stepEv]
  split
  · rename_i ev hev
    exact step_wst_other p s ev w fun e' => h (Option.some.inj ((toEvent_writer e ev hev).symm.trans e')).symm
  · rfl

/-- what the replay of a trace maintains: both invariants, and every writer that has ever done
anything has an index below `B` -/
structure Good (p : Prog) (B : Nat) (s : Sys) : Prop where
  inv : Inv p s
  invT : InvT p s
  bnd : ∀ w, s.wst w ≠ .idle → w < B

theorem good_init (p : Prog) (B : Nat) : Good p B init :=
  ⟨inv_init p, invT_init p, fun _ h => absurd rfl h⟩

theorem stepEv_cases {P : Sys → Prop} (p : Prog) (s : Sys) (e : Ev) (h0 : P s) (h1 : ∀ ev, P (step p s ev)) :
    P (stepEv p s e) := by
  unfold stepEv
  split
  · exact h1 _
  · exact h0

theorem Good.stepEv {p : Prog} {B : Nat} {s : Sys} (g : Good p B s) (e : Ev) (he : e.a < B) :
    Good p B (stepEv p s e) := by
  refine ⟨stepEv_cases p s e g.inv fun ev => inv_step p s ev g.inv,
    stepEv_cases p s e g.invT fun ev => invT_step p s ev g.inv g.invT, fun w hw => ?_⟩
  by_cases hwe : w = e.a
  · rw [hwe]; exact he
  · rw [stepEv_wst_other p s e w hwe] at hw
    exact g.bnd w hw

theorem le_maxA (evs : List Ev) (e : Ev) (h : e ∈ evs) : e.a ≤ maxA evs := by
  induction evs with
  | nil => simp at h
  | cons x xs ih =>
    simp only [maxA]
    rcases List.mem_cons.1 h with e1 | e1
    · subst e1; omega
    · have := ih e1; omega

theorem lt_bound (i : Input) (e : Ev) (h : e ∈ i.events) : e.a < bound i := by
  have := le_maxA i.events e h
  simp only [bound]; omega

theorem okRead_get (i : Input) (s : Sys) (k : Nat) (g : Good (prog i) (bound i) s) :
    okRead i k (getObs s k) = true := by
  rcases getObs_spec i s k g.inv with ⟨_, e⟩ | ⟨j, w0, _, _, h2, h4, e⟩
  · simp [okRead, e]
  · have hlt : w0 < bound i := g.bnd w0 (by rw [h4]; simp)
    simp only [okRead, e, Bool.or_eq_true, Bool.and_eq_true, List.any_eq_true]
    right
    refine ⟨by decide, w0, by simpa using hlt, ?_⟩
    simp [sameContent, h2]

theorem freshOK_get (i : Input) (s : Sys) (k : Nat) (g : Good (prog i) (bound i) s) :
    freshOK i s k (getObs s k) = true := by
  simp only [freshOK, List.all_eq_true, Bool.or_eq_true, Bool.not_eq_true', Bool.and_eq_false_iff,
    Bool.and_eq_true, List.any_eq_true, isDone, beq_iff_eq, beq_eq_false_iff_ne, decide_eq_true_eq, List.mem_range]
  intro w _
  by_cases hd : s.wst w = .done
  · by_cases hk : (specOf i w).key = k
    · right
      rcases getObs_spec i s k g.inv with ⟨hn, _⟩ | ⟨j, w0, _, hc, h2, h4, e⟩
      · -- a finished writer of `k` has left the key name present
        exact absurd hn (hk ▸ (g.invT.done_stamp w hd).2)
      · -- the key's current writer carries the latest stamp
        rw [e]
        exact ⟨rfl, w0, g.bnd w0 (by rw [h4]; nofun), ⟨⟨h4, h2⟩, by simp [sameContent]⟩,
          g.invT.cur_latest k w0 hc w hd hk⟩
    · exact Or.inl (Or.inr hk)
  · exact Or.inl (Or.inl hd)

theorem all2_map_both {α β γ} (f : β → γ → Bool) (g : α → β) (h : α → γ) : ∀ l : List α,
    all2 f (l.map g) (l.map h) = l.all (fun a => f (g a) (h a)) := by
  intro l
  induction l with
  | nil => rfl
  | cons a r ih => simp [all2, ih]

theorem all2_map_right {α β} (f : α → β → Bool) (g : α → β) (l : List α) :
    all2 f l (l.map g) = l.all (fun a => f a (g a)) := by
  have := all2_map_both f id g l
  rwa [List.map_id] at this

theorem getStates_all (p : Prog) (P : Sys → Prop) (evs : List Ev)
    (hstep : ∀ s, ∀ e ∈ evs, P s → P (stepEv p s e)) :
    ∀ s, P s → ∀ ks ∈ getStates p evs s, P ks.2 := by
  induction evs with
  | nil => intro s _ ks hks; cases hks
  | cons e es ih =>
    intro s hs ks hks
    have ih := ih fun s x hx => hstep s x (List.mem_cons_of_mem _ hx)
    simp only [getStates] at hks
    split at hks
    · rcases List.mem_cons.1 hks with rfl | e1
      · exact hs
      · exact ih s hs ks e1
    · exact ih _ (hstep s e List.mem_cons_self hs) ks hks

theorem probeStates_all (p : Prog) (P : Sys → Prop) (evs : List Ev)
    (hstep : ∀ s, ∀ e ∈ evs, P s → P (stepEv p s e)) :
    ∀ s, P s → ∀ x ∈ probeStates p evs s, P x := by
  induction evs with
  | nil => intro s _ x hx; cases hx
  | cons e es ih =>
    intro s hs x hx
    have ih := ih fun s x hx => hstep s x (List.mem_cons_of_mem _ hx)
    simp only [probeStates] at hx
    split at hx
    · rcases List.mem_cons.1 hx with rfl | e1
      · exact hs
      · exact ih s hs x e1
    · exact ih _ (hstep s e List.mem_cons_self hs) x hx

theorem probeOK_dirObs (i : Input) (nw : Nat) (s : Sys) (g : Good (prog i) (bound i) s) :
    probeOK i s (dirObs i.nkeys nw s) = true := by
  simp only [probeOK, dirObs, List.length_map, List.length_range, beq_self_eq_true, Bool.true_and,
    all2_map_right, all2_map_both, Bool.and_true, Bool.and_eq_true, List.all_eq_true]
  refine ⟨⟨?_, ?_⟩, ?_⟩
  · intro k _; exact okRead_get i s k g
  · intro k _; exact freshOK_get i s k g
  · intro k _
    rcases getObs_spec i s k g.inv with ⟨hn, e⟩ | ⟨j, w0, hj, _, _, _, e⟩
    · simp [hn, e]
    · simp [hj, e]

/-- **C14, the whole property of the model**: for every trace (any events - including failed
writes and kills -, any Set calls with any shared or repeated contents, any keys) all clauses of
`Holds` are true of the observations the model predicts. No well-formedness hypothesis is needed. -/
theorem model_holds (i : Input) : Holds i (run i) = true := by
  unfold Holds clauses run
  by_cases hf : i.free
  · simp [hf, Clauses.holds, all2]
  · simp only [hf, Bool.false_eq_true, if_false, Clauses.holds_cons, Clauses.holds_nil, Bool.and_true,
      all2_map_right, List.all_nil, Bool.and_eq_true, List.all_eq_true, Bool.false_or, beq_self_eq_true]
    have hstep : ∀ s, ∀ e ∈ i.events, Good (prog i) (bound i) s → Good (prog i) (bound i) (stepEv (prog i) s e) :=
      fun s e he g => g.stepEv e (lt_bound i e he)
    have hgets := getStates_all _ _ _ hstep init (good_init _ _)
    refine ⟨?_, ?_, ?_⟩
    · intro ks hks
      exact okRead_get i ks.2 ks.1 (hgets ks hks)
    · intro ks hks
      exact freshOK_get i ks.2 ks.1 (hgets ks hks)
    · intro x hx
      exact probeOK_dirObs i _ x (probeStates_all _ _ _ hstep init (good_init _ _) x hx)

/-! ### single steps: key names and temp names -/

theorem step_keeps_keys (p : Prog) (s : Sys) (e : Event) (h : ∀ w, e ≠ .rename w) (k : Nat) :
    (step p s e).dir (.key k) = s.dir (.key k) := by
  rcases step_shape p s e with ⟨w, t, i, -, rfl, -⟩ | ⟨r, x, t, -, hs⟩ | hs | ⟨w, -, m⟩
  · exact absurd rfl (h w)
  · rw [hs]
  · rw [hs]
  · exact m.key k

theorem run_keeps_keys (p : Prog) (evs : List Event) (h : ∀ e ∈ evs, ∀ w, e ≠ .rename w) (k : Nat) :
    ∀ s, (runFrom p s evs).dir (.key k) = s.dir (.key k) := by
  induction evs with
  | nil => intro s; rfl
  | cons e es ih =>
    intro s
    exact (ih (fun e' he' => h e' (List.mem_cons_of_mem _ he')) (step p s e)).trans
      (step_keeps_keys p s e (h e List.mem_cons_self) k)

/-- **C14, a failed write leaves no trace.** When a write fails and the writer carries on with its
error path, no key name changes and no inode other than the private temp inode is touched: the
key is what it was (absent or the earlier complete entry). -/
theorem wfail_touches_no_key (p : Prog) (s : Sys) (w n k : Nat) :
    (step p s (.wfail w n)).dir (.key k) = s.dir (.key k) :=
  step_keeps_keys p s (.wfail w n) (fun _ => nofun) k

/-- writer `w` holds the temp name `t`: its file is open or closed, neither renamed nor removed -/
def HasTemp (s : Sys) (w t : Nat) : Prop :=
  (∃ i off, s.wst w = .opened t i off) ∨ ∃ i, s.wst w = .closed t i

def IsWork (w : Nat) (e : Event) : Prop := e = .close w ∨ ∃ m, e = .write w m

theorem hasTemp_create (p : Prog) (s : Sys) (w t : Nat) (hidle : s.wst w = .idle)
    (hfree : s.dir (.tmp t) = none) : HasTemp (step p s (.create w t)) w t := by
  simp [HasTemp, step, hidle, hfree]

theorem hasTemp_step (p : Prog) (s : Sys) (w t : Nat) (e : Event) (h : HasTemp s w t)
    (he : IsWork w e) : HasTemp (step p s e) w t := by
  rcases he with rfl | ⟨m, rfl⟩
  · rcases h with ⟨i, off, h⟩ | ⟨i, h⟩
    · simp only [step, h]
      split <;> simp [HasTemp, h]
    · simp [HasTemp, step, h]
  · rcases h with ⟨i, off, h⟩ | ⟨i, h⟩ <;> simp [HasTemp, step, h]

theorem hasTemp_runFrom (p : Prog) (w t : Nat) (evs : List Event)
    (he : ∀ e ∈ evs, IsWork w e) :
    ∀ s, HasTemp s w t → HasTemp (runFrom p s evs) w t := by
  induction evs with
  | nil => intro s h; exact h
  | cons e es ih =>
    intro s h
    exact ih (fun x hx => he x (List.mem_cons_of_mem _ hx)) _ (hasTemp_step p s w t e h (he e List.mem_cons_self))

theorem giveup_of_hasTemp (p : Prog) (s : Sys) (w t : Nat) (h : HasTemp s w t) :
    (step p s (.giveup w)).dir (.tmp t) = none ∧ (step p s (.giveup w)).wst w = .dead := by
  rcases h with ⟨i, off, h⟩ | ⟨i, h⟩ <;> simp [step, h]

/-! ### failed Set calls (creation, rename) and later calls -/

/-- **a Set whose `os.CreateTemp` failed is no step at all**: nothing in the directory, no inode,
no writer state changes (the call is only listed among the failed ones) -/
theorem cfail_changes_nothing (p : Prog) (s : Sys) (a b : Nat) : stepEv p s ⟨.cfail, a, b⟩ = s := rfl

/-- **a failed rename (with its cleanup) changes no key name** -/
theorem rnfail_touches_no_key (p : Prog) (s : Sys) (w b k : Nat) :
    (stepEv p s ⟨.rnfail, w, b⟩).dir (.key k) = s.dir (.key k) :=
  step_keeps_keys p s (.giveup w) (fun _ => nofun) k

/-- a failed rename (with its cleanup) removes the temp file of the call, and the call is over -/
theorem rnfail_removes_temp (p : Prog) (s : Sys) (w b t i : Nat) (h : s.wst w = .closed t i) :
    (stepEv p s ⟨.rnfail, w, b⟩).dir (.tmp t) = none ∧ (stepEv p s ⟨.rnfail, w, b⟩).wst w = .dead :=
  giveup_of_hasTemp p s w t (Or.inr ⟨i, h⟩)

/-- a failed call is reported exactly where it fails: creation before the call did anything,
write while writing, rename after the close -/
theorem failsAt_cfail (s : Sys) (a b : Nat) : failsAt s ⟨.cfail, a, b⟩ = isIdle s a := rfl
theorem failsAt_wfail (s : Sys) (a b : Nat) : failsAt s ⟨.wfail, a, b⟩ = isOpened s a := rfl
theorem failsAt_rnfail (s : Sys) (a b : Nat) : failsAt s ⟨.rnfail, a, b⟩ = isClosed s a := rfl

theorem protocol_installs (p : Prog) (s : Sys) (w t : Nat) (hidle : s.wst w = .idle)
    (hfree : s.dir (.tmp t) = none) :
    let s' := runFrom p s [.create w t, .write w (p.wdata w).length, .close w, .rename w]
    s'.dir (.key (p.wkey w)) = some s.next ∧ s'.ino s.next = p.wdata w ∧
      s'.dir (.tmp t) = none ∧ s'.wst w = .done := by
  simp [runFrom, step, hidle, hfree, upd]

/-- **a completed Set is visible whatever happened before.** In ANY state - after any history of
completed, failed and killed calls, through whichever FileCache values - a call that has not begun
(and whose temp name is free), once its four steps have happened, has its own bundle under its key:
no earlier failure can make a later store a no-op. -/
theorem completed_set_is_visible (i : Input) (s : Sys) (w : Nat) (hw : s.wst w = .idle)
    (ht : s.dir (.tmp w) = none) :
    getObs (runFrom (prog i) s [.create w w, .write w ((prog i).wdata w).length, .close w, .rename w])
        (specOf i w).key = ⟨.complete, (specOf i w).base, (specOf i w).delta⟩ := by
  obtain ⟨h1, h2, -, -⟩ := protocol_installs (prog i) s w w hw ht
  simp only [getObs, show (specOf i w).key = (prog i).wkey w from rfl, h1, h2]
  exact decode_mkData _ _ _

/-- two inputs that describe the same calls and the same trace and differ at most in WHICH
FileCache value issues each call (`obj`) -/
def SameCalls (i j : Input) : Prop :=
  i.free = j.free ∧ i.nkeys = j.nkeys ∧ i.events = j.events ∧ i.writers.length = j.writers.length ∧
  ∀ w, (specOf i w).key = (specOf j w).key ∧ (specOf i w).base = (specOf j w).base ∧
    (specOf i w).delta = (specOf j w).delta ∧ (specOf i w).len = (specOf j w).len

theorem sameCalls_prog (i j : Input) (h : SameCalls i j) : prog i = prog j := by
  obtain ⟨_, _, _, _, hw⟩ := h
  simp only [prog, hw]

theorem sameCalls_bound (i j : Input) (h : SameCalls i j) : bound i = bound j := by
  obtain ⟨_, _, he, hl, _⟩ := h
  simp [bound, he, hl]

theorem sameCalls_checks (i j : Input) (h : SameCalls i j) :
    okRead i = okRead j ∧ freshOK i = freshOK j ∧ probeOK i = probeOK j := by
  have hb := sameCalls_bound i j h
  obtain ⟨_, hn, _, _, hw⟩ := h
  have hok : okRead i = okRead j := by
    funext k o
    simp only [okRead, sameContent, hb, hw]
  have hfr : freshOK i = freshOK j := by
    funext s k o
    simp only [freshOK, sameContent, hb, hw]
  refine ⟨hok, hfr, ?_⟩
  funext s d
  simp only [probeOK, hok, hfr, hn]

/-- **which FileCache value issues a call is irrelevant** (the cache is the directory): inputs
that differ only in the `obj` fields of their calls have the same predicted observations and the
same clauses - so a store through a value on which an earlier store failed is judged exactly like a
store through a fresh value or another process. -/
theorem obj_irrelevant (i j : Input) (h : SameCalls i j) :
    run i = run j ∧ ∀ o, clauses i o = clauses j o := by
  have hp := sameCalls_prog i j h
  have hb := sameCalls_bound i j h
  obtain ⟨hok, hfr, hpr⟩ := sameCalls_checks i j h
  obtain ⟨hf, hn, he, _, _⟩ := h
  constructor
  · simp only [run, hp, hb, hf, hn, he]
  · intro o
    simp only [clauses, hp, hf, he, hok, hfr, hpr]

/-- the instance used by the harness: renumbering the FileCache values changes nothing -/
def withObj (f : WSpec → Nat) (i : Input) : Input :=
  { i with writers := i.writers.map (fun s => { s with obj := f s }) }

theorem sameCalls_withObj (f : WSpec → Nat) (i : Input) : SameCalls (withObj f i) i := by
  refine ⟨rfl, rfl, rfl, by simp [withObj], ?_⟩
  intro w
  simp only [specOf, withObj, List.getElem?_map]
  cases i.writers[w]? <;> simp

theorem run_withObj (f : WSpec → Nat) (i : Input) : run (withObj f i) = run i :=
  (obj_irrelevant _ _ (sameCalls_withObj f i)).1

theorem holds_withObj (f : WSpec → Nat) (i : Input) (o : Obs) : Holds (withObj f i) o = Holds i o := by
  simp only [Holds, (obj_irrelevant _ _ (sameCalls_withObj f i)).2 o]

/-- the `get` of the trace replay is what a reader of the state machine finishes with when it
opens and reads to EOF without other events in between (one `os.ReadFile`): a miss when the key
name is absent, otherwise the whole inode -/
theorem get_atomic (p : Prog) (s : Sys) (r n : Nat) (hr : s.rst r = .idle)
    (hn : ∀ i, s.dir (.key (p.rkey r)) = some i → (s.ino i).length ≤ n + 1) :
    ∃ snap, (runFrom p s [.ropen r, .rread r n, .rread r n]).rst r =
      .finished ((s.dir (.key (p.rkey r))).map s.ino) snap := by
  refine ⟨s.cur (p.rkey r), ?_⟩
  cases hd : s.dir (.key (p.rkey r)) with
  | none => simp [runFrom, step, hr, hd, upd]
  | some i =>
    by_cases he : s.ino i = []
    · simp [runFrom, step, hr, hd, upd, he]
    · have h1 : List.take (n + 1) (s.ino i) = s.ino i := List.take_of_length_le (hn i hd)
      simp [runFrom, step, hr, hd, upd, he, h1]

/-! ### non-vacuity -/

def exTrace : Input :=
  { free := false, writers := [⟨0, 1, 0, 1, 0⟩, ⟨0, 2, 0, 1, 0⟩], nkeys := 1, urls := [],
    events := [⟨.get, 0, 0⟩, ⟨.create, 0, 0⟩, ⟨.write, 0, 4⟩, ⟨.create, 1, 0⟩, ⟨.write, 1, 1⟩, ⟨.close, 0, 0⟩,
               ⟨.rename, 0, 0⟩, ⟨.get, 0, 0⟩, ⟨.crash, 1, 0⟩, ⟨.probe, 0, 0⟩] }

/-- a miss before the first rename, writer 0's bundle after it; writer 1 killed mid-write leaves
one temp file and does not disturb the entry -/
example : run exTrace =
    { gets := [⟨.miss, 0, 0⟩, ⟨.complete, 1, 0⟩],
      probes := [{ present := [true], keys := [⟨.complete, 1, 0⟩], temps := 1, others := 0 }],
      seen := [], failed := [] } := by
  decide +kernel

/-- a truncated / undecodable entry observed by a reader violates the property -/
example : Holds exTrace
    { gets := [⟨.miss, 0, 0⟩, ⟨.corrupt, 0, 0⟩],
      probes := [{ present := [true], keys := [⟨.complete, 1, 0⟩], temps := 1, others := 0 }],
      seen := [], failed := [] } = false := by
  decide +kernel

/-- a miss after the Set returned violates freshness -/
example : Holds exTrace
    { gets := [⟨.miss, 0, 0⟩, ⟨.miss, 0, 0⟩],
      probes := [{ present := [true], keys := [⟨.complete, 1, 0⟩], temps := 1, others := 0 }],
      seen := [], failed := [] } = false := by
  decide +kernel

/-- the bundle of the killed writer showing up under the key violates the property -/
example : Holds exTrace
    { gets := [⟨.miss, 0, 0⟩, ⟨.complete, 1, 0⟩],
      probes := [{ present := [true], keys := [⟨.complete, 2, 0⟩], temps := 1, others := 0 }],
      seen := [], failed := [] } = false := by
  decide +kernel

/-- a bundle stored for another URL is not acceptable in a free run either -/
example : Holds { free := true, writers := [⟨0, 1, 0, 1, 0⟩, ⟨1, 2, 0, 1, 0⟩], nkeys := 2, urls := [], events := [] }
    { gets := [], probes := [], seen := [⟨0, .complete, 2, 0, true⟩], failed := [] } = false := by decide +kernel

/-- in a free run, a miss after a Set for the URL returned is a violation -/
example : Holds { free := true, writers := [⟨0, 1, 0, 1, 0⟩, ⟨1, 2, 0, 1, 0⟩], nkeys := 2, urls := [], events := [] }
    { gets := [], probes := [], seen := [⟨0, .miss, 0, 0, true⟩], failed := [] } = false := by decide +kernel

example : Holds { free := true, writers := [⟨0, 1, 0, 1, 0⟩, ⟨1, 2, 0, 1, 0⟩], nkeys := 2, urls := [], events := [] }
    { gets := [], probes := [],
      seen := [⟨0, .miss, 0, 0, false⟩, ⟨0, .complete, 1, 0, true⟩, ⟨1, .complete, 2, 0, true⟩], failed := [] } = true := by
  decide +kernel

/-- Set({B,D}) then Set({B,nil}) on one URL, both complete; then a Get -/
def exSharedBase : Input :=
  { free := false, writers := [⟨0, 1, 5, 1, 0⟩, ⟨0, 1, 0, 1, 0⟩], nkeys := 1, urls := [],
    events := [⟨.create, 0, 0⟩, ⟨.write, 0, 4⟩, ⟨.close, 0, 0⟩, ⟨.rename, 0, 0⟩, ⟨.create, 1, 0⟩,
               ⟨.write, 1, 4⟩, ⟨.close, 1, 0⟩, ⟨.rename, 1, 0⟩, ⟨.get, 0, 0⟩] }

example : run exSharedBase = { gets := [⟨.complete, 1, 0⟩], probes := [], seen := [], failed := [] } := by decide +kernel

/-- the stale delta CRL surviving the second, completed write violates freshness -/
example : Holds exSharedBase { gets := [⟨.complete, 1, 5⟩], probes := [], seen := [], failed := [] } = false := by
  decide +kernel

/-- A ; B ; A: after the third write only A is acceptable, and A is accepted although the first
write stored the same content -/
def exABA : Input :=
  { free := false, writers := [⟨0, 1, 0, 1, 0⟩, ⟨0, 2, 0, 1, 0⟩, ⟨0, 1, 0, 1, 0⟩], nkeys := 1, urls := [],
    events := [⟨.create, 0, 0⟩, ⟨.write, 0, 4⟩, ⟨.close, 0, 0⟩, ⟨.rename, 0, 0⟩,
               ⟨.create, 1, 0⟩, ⟨.write, 1, 4⟩, ⟨.close, 1, 0⟩, ⟨.rename, 1, 0⟩,
               ⟨.create, 2, 0⟩, ⟨.write, 2, 4⟩, ⟨.close, 2, 0⟩, ⟨.rename, 2, 0⟩, ⟨.get, 0, 0⟩] }

example : Holds exABA { gets := [⟨.complete, 1, 0⟩], probes := [], seen := [], failed := [] } = true := by decide +kernel
example : Holds exABA { gets := [⟨.complete, 2, 0⟩], probes := [], seen := [], failed := [] } = false := by decide +kernel

/-- an existing entry, then a Set whose write fails after 2 of 4 cells: the writer reports the
error, the temp file is gone, the old entry is still what readers get -/
def exFault : Input :=
  { free := false, writers := [⟨0, 1, 0, 1, 0⟩, ⟨0, 2, 0, 1, 0⟩], nkeys := 1, urls := [],
    events := [⟨.create, 0, 0⟩, ⟨.write, 0, 4⟩, ⟨.close, 0, 0⟩, ⟨.rename, 0, 0⟩,
               ⟨.create, 1, 0⟩, ⟨.wfail, 1, 2⟩, ⟨.close, 1, 0⟩, ⟨.rename, 1, 0⟩, ⟨.probe, 0, 0⟩] }

example : run exFault =
    { gets := [], probes := [{ present := [true], keys := [⟨.complete, 1, 0⟩], temps := 0, others := 0 }],
      seen := [], failed := [1] } := by decide +kernel

/-- the truncated new entry renamed over the key, and a Set that swallowed the write error -/
example : Holds exFault
    { gets := [], probes := [{ present := [true], keys := [⟨.corrupt, 0, 0⟩], temps := 0, others := 0 }],
      seen := [], failed := [1] } = false := by decide +kernel

example : Holds exFault
    { gets := [], probes := [{ present := [true], keys := [⟨.complete, 1, 0⟩], temps := 0, others := 0 }],
      seen := [], failed := [] } = false := by decide +kernel

/-- ONE long-lived FileCache value: Set(B1) completes; a Set fails before its first step (the cache
directory was briefly away); Set(B2) completes; a Set of another URL fails in its rename -/
def exHistory : Input :=
  { free := false, writers := [⟨0, 1, 0, 1, 0⟩, ⟨0, 3, 0, 1, 0⟩, ⟨0, 2, 0, 1, 0⟩, ⟨1, 4, 0, 1, 0⟩], nkeys := 2, urls := [],
    events := [⟨.create, 0, 0⟩, ⟨.write, 0, 4⟩, ⟨.close, 0, 0⟩, ⟨.rename, 0, 0⟩, ⟨.cfail, 1, 0⟩, ⟨.get, 0, 0⟩,
               ⟨.create, 2, 0⟩, ⟨.write, 2, 4⟩, ⟨.close, 2, 0⟩, ⟨.rename, 2, 0⟩, ⟨.get, 0, 0⟩,
               ⟨.create, 3, 0⟩, ⟨.write, 3, 4⟩, ⟨.close, 3, 0⟩, ⟨.rnfail, 3, 0⟩, ⟨.probe, 0, 0⟩] }

example : run exHistory =
    { gets := [⟨.complete, 1, 0⟩, ⟨.complete, 2, 0⟩],
      probes := [{ present := [true, false], keys := [⟨.complete, 2, 0⟩, ⟨.miss, 0, 0⟩], temps := 0, others := 0 }],
      seen := [], failed := [1, 3] } := by decide +kernel

/-- the store after the failed one was skipped (it returned nil, the old bundle is still served):
a read after a completed write yields an older bundle -/
example : Holds exHistory
    { gets := [⟨.complete, 1, 0⟩, ⟨.complete, 1, 0⟩],
      probes := [{ present := [true, false], keys := [⟨.complete, 1, 0⟩, ⟨.miss, 0, 0⟩], temps := 0, others := 0 }],
      seen := [], failed := [1, 3] } = false := by decide +kernel

/-- the failed store dropped the existing entry -/
example : Holds exHistory
    { gets := [⟨.miss, 0, 0⟩, ⟨.complete, 2, 0⟩],
      probes := [{ present := [true, false], keys := [⟨.complete, 2, 0⟩, ⟨.miss, 0, 0⟩], temps := 0, others := 0 }],
      seen := [], failed := [1, 3] } = false := by decide +kernel

/-- a failed rename reported as success -/
example : Holds exHistory
    { gets := [⟨.complete, 1, 0⟩, ⟨.complete, 2, 0⟩],
      probes := [{ present := [true, false], keys := [⟨.complete, 2, 0⟩, ⟨.miss, 0, 0⟩], temps := 0, others := 0 }],
      seen := [], failed := [1] } = false := by decide +kernel

/-- the reader machine is not vacuous: an open before a rename and reads after it return the old
complete entry (the pinned inode), a later open returns the new one -/
example :
    let p : Prog := { wkey := (fun _ => 0), wdata := (fun w => [w, 7, 7]), rkey := (fun _ => 0) }
    let s := exec p [.create 0 0, .write 0 3, .close 0, .rename 0, .ropen 0, .rread 0 0,
                     .create 1 1, .write 1 2, .rename 1, .write 1 5, .close 1, .rename 1,
                     .rread 0 5, .rread 0 5, .ropen 1, .rread 1 9, .rread 1 9]
    s.rst 0 = .finished (some [0, 7, 7]) (some 0) ∧ s.rst 1 = .finished (some [1, 7, 7]) (some 1) := by
  decide +kernel

end NotationModel.C14
