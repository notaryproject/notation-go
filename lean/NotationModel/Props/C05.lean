/-
C05 - Revocation checking fails closed over the whole certificate chain.
The property theorems about the model of `Model/C05.lean`, and (`namespace Tie`) the ties of the translated
`revocationFinalResult` and `GetVerificationLevel` to that model.
-/
import NotationModel.Model.C05
import NotationModel.Generated.SrcC05
import NotationModel.Generated.SrcLevels
set_option linter.unusedSimpArgs false

namespace NotationModel.C05

/-! ### the backwards loop -/

/-- what the accumulators hold after the loop has walked `rs` (whose head has index `i`) -/
structure ScanSpec (rs : List R) (i : Nat) (a : Acc) : Prop where
  numOK : a.numOK = rs.countP R.good
  revokedFound : a.revokedFound = rs.any (· == .revoked)
  revokedIdx : rs.any (· == .revoked) = true → ∃ n, a.revokedIdx = some (i + n) ∧ rs[n]? = some .revoked
  problematic : rs.all R.good = false → ∃ n r, a.problematic = some (i + n) ∧ rs[n]? = some r ∧
      r.good = false ∧ a.final = r.toFinal

theorem scan_spec : ∀ (rs : List R) (i : Nat), ScanSpec rs i (scan rs i) := by
  intro rs
  induction rs with
  | nil => intro i; constructor <;> simp [scan]
  | cons r rest ih =>
    intro i
    have h := ih (i + 1)
    simp only [scan, loopStep]
    by_cases hg : r.good = true
    · have hr : (r == R.revoked) = false := by cases r <;> simp_all [R.good]
      simp only [hg, if_true]
      constructor
      · simp [h.numOK, hg]
      · simp [h.revokedFound, hr]
      · intro hany
        simp only [List.any_cons, hr, Bool.false_or] at hany
        obtain ⟨n, h1, h2⟩ := h.revokedIdx hany
        exact ⟨n + 1, by simp [h1]; omega, by simpa using h2⟩
      · intro hall
        simp only [List.all_cons, hg, Bool.true_and] at hall
        obtain ⟨n, r', h1, h2, h3, h4⟩ := h.problematic hall
        exact ⟨n + 1, r', by simp [h1]; omega, by simpa using h2, h3, h4⟩
    · have hg' : r.good = false := by simpa using hg
      simp only [hg', Bool.false_eq_true, if_false]
      constructor
      · simp [h.numOK, hg']
      · simp [h.revokedFound, Bool.or_comm]
      · intro hany
        by_cases hr : r = .revoked
        · exact ⟨0, by simp [hr], by simp [hr]⟩
        · have hr' : (r == R.revoked) = false := by simpa using hr
          simp only [List.any_cons, hr', Bool.false_or] at hany
          obtain ⟨n, h1, h2⟩ := h.revokedIdx hany
          exact ⟨n + 1, by simp [hr', h1]; omega, by simpa using h2⟩
      · intro _
        exact ⟨0, r, by simp, by simp, hg', by simp⟩

theorem countP_beq_length (rs : List R) : (rs.countP R.good == rs.length) = rs.all R.good :=
  Bool.eq_iff_iff.2 (beq_iff_eq.trans (List.countP_eq_length.trans (by simp only [List.all_eq_true])))

theorem toFinal_ne_ok {r : R} : r.good = false → r.toFinal ≠ .ok := by
  cases r <;> decide

/-- a result that is neither good nor revoked is `unknown` -/
theorem not_good_not_revoked {r : R} : r.good = false → r ≠ .revoked → r.toFinal = .unknown := by
  cases r <;> decide

theorem not_revoked_of_all_good {rs : List R} (h : rs.all R.good = true) : rs.any (· == .revoked) = false := by
  rw [List.any_eq_false]
  intro x hx hxr
  have hg := List.all_eq_true.1 h x hx
  rw [beq_iff_eq.1 hxr] at hg
  exact Bool.noConfusion hg

/-! ### property theorems about `revocationFinalResult` (lists of any length) -/

/-- when every result is good the index is whatever the scan left (nothing reads it), hence no closed form for it -/
theorem final_eq (rs : List R) : revocationFinal rs =
    if rs.all R.good then (.ok, (revocationFinal rs).2)
    else if rs.any (· == .revoked) then (.revoked, (scan rs 0).revokedIdx)
    else ((scan rs 0).final, (scan rs 0).problematic) := by
  have h := scan_spec rs 0
  unfold revocationFinal revocationFinalFor aggregate
  simp only [bne_self_eq_false, Bool.false_eq_true, if_false, h.numOK, h.revokedFound, countP_beq_length]
  cases rs.all R.good <;> cases rs.any (· == .revoked) <;> rfl

/-- **final_ok_iff**: the final result is OK exactly when every certificate is OK or non-revokable -/
theorem final_ok_iff (rs : List R) : (revocationFinal rs).1 = .ok ↔ rs.all R.good = true := by
  rw [final_eq]
  cases hall : rs.all R.good
  · obtain ⟨n, r, _, _, h3, h4⟩ := (scan_spec rs 0).problematic hall
    have hne : (scan rs 0).final ≠ .ok := h4 ▸ toFinal_ne_ok h3
    cases rs.any (· == .revoked) <;> simp [hne]
  · simp

/-- **final_revoked**: if any certificate is reported revoked, the final result is revoked and the
index reported points at a revoked certificate - whatever the others report -/
theorem final_revoked (rs : List R) (hany : rs.any (· == .revoked) = true) :
    (revocationFinal rs).1 = .revoked ∧ ∃ n, (revocationFinal rs).2 = some n ∧ rs[n]? = some .revoked := by
  have hall : rs.all R.good = false :=
    Bool.eq_false_iff.2 fun hc => Bool.noConfusion ((not_revoked_of_all_good hc).symm.trans hany)
  obtain ⟨n, h1, h2⟩ := (scan_spec rs 0).revokedIdx hany
  rw [final_eq, hall, hany]
  exact ⟨rfl, n, by simpa using h1, h2⟩

/-- **final_unknown**: otherwise (not all good, none revoked) the final result is unknown and the
index reported points at a certificate that is not good -/
theorem final_unknown (rs : List R) (hall : rs.all R.good = false) (hany : rs.any (· == .revoked) = false) :
    (revocationFinal rs).1 = .unknown ∧ ∃ n r, (revocationFinal rs).2 = some n ∧ rs[n]? = some r ∧ r.good = false := by
  obtain ⟨n, r, h1, h2, h3, h4⟩ := (scan_spec rs 0).problematic hall
  have hr : r ≠ .revoked := fun e =>
    Bool.noConfusion (hany.symm.trans (List.any_eq_true.2 ⟨r, List.mem_of_getElem? h2, beq_iff_eq.2 e⟩))
  rw [final_eq, hall, hany]
  exact ⟨h4.trans (not_good_not_revoked h3 hr), n, r, by simpa using h1, h2, h3⟩

/-- **final_incomplete**: a validator that does not return exactly one result per certificate
(fewer, none, or more) never lets the chain pass - fail closed -/
theorem final_incomplete (n : Nat) (rs : List R) (h : rs.length ≠ n) :
    revocationFinalFor n rs = (.unknown, none) := by
  simp [revocationFinalFor, h]

theorem final_complete (rs : List R) : revocationFinalFor rs.length rs = revocationFinal rs := rfl

theorem finalFor_ok_iff (n : Nat) (rs : List R) :
    (revocationFinalFor n rs).1 = .ok ↔ rs.length = n ∧ rs.all R.good = true := by
  by_cases hn : rs.length = n
  · subst hn
    rw [final_complete, final_ok_iff]
    exact (and_iff_right rfl).symm
  · rw [final_incomplete n rs hn]
    exact ⟨fun h => Final.noConfusion h, fun h => absurd h.1 hn⟩

theorem finalFor_cases (n : Nat) (rs : List R) :
    (rs.length ≠ n ∧ revocationFinalFor n rs = (.unknown, none)) ∨
    (rs.length = n ∧ rs.all R.good = true ∧ rs.any (· == .revoked) = false ∧ ∃ m, revocationFinalFor n rs = (.ok, m)) ∨
    (rs.length = n ∧ rs.all R.good = false ∧ rs.any (· == .revoked) = true ∧
      ∃ k, revocationFinalFor n rs = (.revoked, some k) ∧ rs[k]? = some .revoked) ∨
    (rs.length = n ∧ rs.all R.good = false ∧ rs.any (· == .revoked) = false ∧
      ∃ k r, revocationFinalFor n rs = (.unknown, some k) ∧ rs[k]? = some r ∧ r.good = false) := by
  by_cases hn : rs.length = n
  · subst hn
    rw [final_complete]
    cases hg : rs.all R.good
    · cases hr : rs.any (· == .revoked)
      · have ⟨h1, k, r, h2, h3⟩ := final_unknown rs hg hr
        exact .inr (.inr (.inr ⟨rfl, rfl, rfl, k, r, Prod.ext h1 h2, h3⟩))
      · have ⟨h1, k, h2, h3⟩ := final_revoked rs hr
        exact .inr (.inr (.inl ⟨rfl, rfl, rfl, k, Prod.ext h1 h2, h3⟩))
    · exact .inr (.inl ⟨rfl, rfl, not_revoked_of_all_good hg, _, Prod.ext ((final_ok_iff rs).2 hg) rfl⟩)
  · exact .inl ⟨hn, final_incomplete n rs hn⟩

/-! ### the whole property -/

/-- **C05**: every clause of `Holds` is true of the model's behaviour, for result vectors and
chains of any length -/
theorem model_holds (i : Input) : Holds i (run i) = true := by
  unfold Holds clauses run
  by_cases ha : i.action = .skip
  · simp [Clauses.holds, ha]
  have ha' : (i.action == .skip) = false := beq_eq_false_iff_ne.2 ha
  cases hv : i.validatorError
  -- in every branch `simp` evaluates the clauses; unless the outcome is a pass it leaves `action_decides_rejection`,
  -- the only clause that depends on WHICH action it is: the `cases i.action <;> rfl`
  case true =>
    simp [Clauses.holds, ha', bne]
    cases i.action <;> rfl
  rcases finalFor_cases i.chainLen i.vec with ⟨hl, hf⟩ | ⟨hl, hg, hr, m, hf⟩ | ⟨hl, hg, hr, k, hf, hv⟩ |
    ⟨hl, hg, hr, k, r, hf, hv, hb⟩
  · have hc : (i.vec.length == i.chainLen) = false := beq_eq_false_iff_ne.2 hl
    simp [Clauses.holds, ha', bne, hf, hc]
    cases i.action <;> rfl
  · simp [Clauses.holds, ha', bne, hf, hl, hg, hr]
  · simp [Clauses.holds, ha', bne, hf, hl, hg, hr, hv]
    cases i.action <;> rfl
  · simp [Clauses.holds, ha', bne, hf, hl, hg, hr, hv, hb]
    cases i.action <;> rfl

/-! ### readable consequences -/

theorem run_performed (i : Input) (h : i.action ≠ .skip) :
    (run i).calls = 1 ∧ (run i).chainLen = some i.chainLen ∧ (run i).usedIface = some i.iface ∧
    (run i).signingTime = some (i.scheme == .signingAuthority) ∧ (run i).resultAction = some i.action ∧
    (run i).accepted = (i.action != .enforce || (run i).outcome == .pass) := by
  unfold run
  simp only [beq_eq_false_iff_ne.2 h, Bool.false_eq_true, if_false]
  cases i.validatorError
  · rcases revocationFinalFor i.chainLen i.vec with ⟨f, n⟩
    cases f <;> simp
  · simp

/-- the validator is consulted exactly once with the complete chain, through the interface the
caller supplied, and gets the signing time only for signing-authority signatures -/
theorem validator_args (i : Input) (h : i.action ≠ .skip) :
    (run i).calls = 1 ∧ (run i).chainLen = some i.chainLen ∧ (run i).usedIface = some i.iface ∧
    (run i).signingTime = some (i.scheme == .signingAuthority) :=
  have ⟨h1, h2, h3, h4, _⟩ := run_performed i h
  ⟨h1, h2, h3, h4⟩

theorem validator_error_fails (i : Input) (h : i.action ≠ .skip) (he : i.validatorError = true) :
    (run i).outcome = .inconclusive ∧ ((run i).accepted = true ↔ i.action = .log) := by
  unfold run
  have : (i.action == Action.skip) = false := by simpa using h
  simp only [this, Bool.false_eq_true, if_false, he, if_true]
  cases ha : i.action <;> simp_all

theorem skipped_not_performed (i : Input) (h : i.action = .skip) :
    (run i).calls = 0 ∧ (run i).outcome = .notPerformed := by
  simp [run, h]

/-- non-vacuity: a revoked intermediate behind an unknown leaf is reported as revoked, naming index 1 -/
example : revocationFinal [.unknown, .revoked, .ok] = (.revoked, some 1) := by decide +kernel
example : revocationFinal [.nonRevokable, .ok] = (.ok, none) := by decide +kernel
example : revocationFinal [.ok, .unknown, .unknown] = (.unknown, some 1) := by decide +kernel

/-- a plain scenario to vary in the examples: strict level, nothing overridden, context-aware validator -/
def sample : Input :=
  { vec := [.ok], chainLen := 1, scheme := .x509, iface := .validator, level := .strict, revOverride := none,
    otherOverrides := [], policyForm := "code", validatorError := false, errorKind := "", callerCtx := "background",
    methods := [], servers := [], validatorImpl := "scripted", errorWithResults := false, deprecatedCtor := false, identityPlugin := false,
    bothSupplied := false, variant := "", entry := .oci, companions := [], history := [], extraMethod := "",
    timestampingSupplied := false }

example : Holds { sample with vec := [.unknown, .revoked], chainLen := 2, iface := .client }
    { outcome := .unknown, named := some 0, accepted := false, resultAction := some .enforce, calls := 1, chainLen := some 2,
      signingTime := some false, usedIface := some .client } = false := by decide +kernel

/-- a validator answering with one result for a chain of three never passes, even if that result is OK -/
example : (run { sample with vec := [.ok], chainLen := 3 }).outcome = .unknown := by
  decide +kernel

/-! ### the action of the revocation type: named level and override -/

/-- without an override the named level decides -/
theorem effective_no_override (l : Level) : effective l none = l.base := by
  cases l <;> rfl

/-- **override_decides**: an override for the revocation type replaces what the named level says - it
relaxes a strict level and it TIGHTENS a permissive or audit one all the same -/
theorem override_decides (l : Level) (a : Action) (h : l ≠ .skip) : effective l (some a) = a := by
  cases l <;> simp_all [effective]

theorem action_of_override (i : Input) (a : Action) (hl : i.level ≠ .skip) (ho : i.revOverride = some a) :
    i.action = a := by
  unfold Input.action
  rw [ho]
  exact override_decides _ _ hl

/-- **tightening_override_enforces**: under `permissive` or `audit` (or any level that can be customised)
with the override `revocation: enforce`, the validator is consulted and everything but a passing
revocation validation is rejected: a revoked or unknown chain and a validator error are not merely logged -/
theorem tightening_override_enforces (i : Input) (hl : i.level ≠ .skip) (ho : i.revOverride = some .enforce) :
    (run i).calls = 1 ∧ (run i).resultAction = some .enforce ∧
    ((run i).accepted = true ↔ (run i).outcome = .pass) := by
  have ha := action_of_override i .enforce hl ho
  obtain ⟨h1, _, _, _, h5, h6⟩ := run_performed i (by rw [ha]; decide)
  rw [ha] at h5 h6
  exact ⟨h1, h5, by rw [h6]; exact beq_iff_eq⟩

/-- the converse direction: an override that relaxes revocation to `log` never rejects, whatever the base level -/
theorem relaxing_override_logs (i : Input) (hl : i.level ≠ .skip) (ho : i.revOverride = some .log) :
    (run i).calls = 1 ∧ (run i).resultAction = some .log ∧ (run i).accepted = true := by
  have ha := action_of_override i .log hl ho
  obtain ⟨h1, _, _, _, h5, h6⟩ := run_performed i (by rw [ha]; decide)
  rw [ha] at h5 h6
  exact ⟨h1, h5, h6⟩

/-- non-vacuity: `{"level":"permissive","override":{"revocation":"enforce"}}` with a revoked intermediate
is rejected; the same chain under plain `permissive` is only logged; a wrong observation (accepted under the
tightened level) does not satisfy `Holds` -/
example : (run { sample with level := .permissive, revOverride := some .enforce, vec := [.ok, .revoked], chainLen := 2 }).accepted = false := by decide +kernel
example : (run { sample with level := .permissive, vec := [.ok, .revoked], chainLen := 2 }).accepted = true := by decide +kernel
example : Holds { sample with level := .audit, revOverride := some .enforce, vec := [.unknown], chainLen := 1 }
    { outcome := .unknown, named := some 0, accepted := true, resultAction := some .log, calls := 1, chainLen := some 1,
      signingTime := some false, usedIface := some .validator } = false := by decide +kernel
/-- non-vacuity: a validator error that the implementation let pass does not satisfy `Holds`, whatever its kind -/
example : Holds { sample with validatorError := true, errorKind := "wrapDeadline", callerCtx := "live" }
    { outcome := .pass, named := none, accepted := true, resultAction := some .enforce, calls := 1, chainLen := some 1,
      signingTime := some false, usedIface := some .validator } = false := by decide +kernel

/-- non-vacuity (seeded change C05-18): an OK leaf in front of an intermediate whose status is unknown because
every one of its OCSP responders timed out does not pass, and an observation that lets it pass fails `Holds` -/
example : (run { sample with vec := [.ok, .unknown, .nonRevokable], chainLen := 3, servers := [["ok/none"], ["unknown/ocspTimeout", "unknown/ocspTimeout"], []] }).outcome = .unknown := by decide +kernel
example : Holds { sample with vec := [.ok, .unknown, .nonRevokable], chainLen := 3, servers := [["ok/none"], ["unknown/ocspTimeout"], []] }
    { outcome := .pass, named := none, accepted := true, resultAction := some .enforce, calls := 1, chainLen := some 3,
      signingTime := some false, usedIface := some .validator } = false := by decide +kernel

/-! ### what the decision does not read -/

def Input.decisive (i : Input) :=
  (i.vec, i.chainLen, i.scheme, i.iface, i.level, i.revOverride, i.validatorError)

theorem run_congr {i j : Input} (h : i.decisive = j.decisive) : run i = run j ∧ ∀ o, Holds i o = Holds j o := by
  simp only [Input.decisive, Prod.mk.injEq] at h
  obtain ⟨h1, h2, h3, h4, h5, h6, h7⟩ := h
  unfold run Holds clauses Input.action
  rw [h1, h2, h3, h4, h5, h6, h7]
  exact ⟨rfl, fun _ => rfl⟩

/-- what else is true of the signature, of the per-server results behind the per-certificate ones (how many
servers, which typed errors they carry), of the validator implementation, of the policy statement (overrides of other types, how the policy
was written), of the validator's error (its kind: plain, wrapping a context or deadline error, typed, empty
message) and of the caller's context is not an input of the revocation decision -/
theorem variant_irrelevant (i : Input) (v : String) (b : Bool) (oo : List String) (pf ek cc vi : String)
    (ms : List String) (sv : List (List String)) :
    run { i with variant := v, bothSupplied := b, otherOverrides := oo, policyForm := pf, errorKind := ek, callerCtx := cc, methods := ms, servers := sv, validatorImpl := vi } = run i :=
  (run_congr rfl).1

/-- **nil_entries_read_as_unknown**: which of the entries the vector reports as `unknown` were in fact NIL pointers
(and which server results were) is not an input of the decision: a nil entry IS an unknown status. The translated
`revocationFinalResult` agrees for every vector (`Tie.source_revocationFinalResult_refines_model`, `Tie.resOf`). -/
theorem nil_entries_read_as_unknown (i : Input) (ne : List Nat) (sv : List (List String)) :
    run { i with nilEntries := ne, servers := sv } = run i :=
  (run_congr rfl).1

theorem nil_entries_read_as_unknown_holds (i : Input) (ne : List Nat) (sv : List (List String)) (o : Obs) :
    Holds { i with nilEntries := ne, servers := sv } o = Holds i o :=
  (run_congr rfl).2 o

/-- non-vacuity: a chain whose root got a nil entry does not pass, and an observation that lets it pass (or that
accepts it under an enforcing statement) fails `Holds` -/
example : (run { sample with vec := [.ok, .unknown], chainLen := 2, nilEntries := [1], servers := [["nil"], []] }).outcome = .unknown := by decide +kernel
example : Holds { sample with vec := [.ok, .unknown], chainLen := 2, nilEntries := [1], servers := [["nil"], []] }
    { outcome := .pass, named := none, accepted := true, resultAction := some .enforce, calls := 1, chainLen := some 2,
      signingTime := some false, usedIface := some .validator } = false := by decide +kernel

/-- **history_irrelevant** (seeded change C05-19): a verifier keeps no state between calls. Which entry point
the observed call goes through, which OTHER statements the same verifier holds (in the same document under
another scope, or in the other document - where a statement may carry the SAME name and say something else
about revocation), and which calls were made on it before, is not an input of the revocation decision: the
statement applicable to the observed call decides alone. -/
theorem history_irrelevant (i : Input) (e : Entry) (cs hs : List String) :
    run { i with entry := e, companions := cs, history := hs } = run i :=
  (run_congr rfl).1

/-- ... and the property asks the same of the observation whatever the history was: a violation seen after a
history is a violation of the clauses, not of a separate rule about histories -/
theorem history_irrelevant_holds (i : Input) (e : Entry) (cs hs : List String) (o : Obs) :
    Holds { i with entry := e, companions := cs, history := hs } o = Holds i o :=
  (run_congr rfl).2 o

/-- **dynamic_type_irrelevant** (seeded change C05-20): the object the caller supplied is consulted through the
interface it was supplied AS. What else its dynamic type can do (a deprecated client that also has
`ValidateContext`, a context-aware validator that also has `Validate`, whatever that other method would
answer), and whether a timestamping validator was supplied next to it, is not an input of the decision. -/
theorem dynamic_type_irrelevant (i : Input) (x : String) (t : Bool) :
    run { i with extraMethod := x, timestampingSupplied := t } = run i :=
  (run_congr rfl).1

theorem dynamic_type_irrelevant_holds (i : Input) (x : String) (t : Bool) (o : Obs) :
    Holds { i with extraMethod := x, timestampingSupplied := t } o = Holds i o :=
  (run_congr rfl).2 o

/-- the interface consulted is the one supplied, for either interface and whatever else the object can do -/
theorem consulted_as_supplied (i : Input) (h : i.action ≠ .skip) (x : String) :
    (run { i with extraMethod := x }).usedIface = some i.iface := by
  rw [show run { i with extraMethod := x } = run i from (run_congr rfl).1]
  exact (validator_args i h).2.2.1

/-- non-vacuity (seeded change C05-19): a strict OCI statement `c05` on a verifier that also holds a blob statement
`c05` skipping revocation, after a VerifyBlob under the latter: the model still consults the validator and rejects
the revoked chain; the observation of the changed code (validator not consulted, no revocation result, accepted) and
the one with the blob statement's action `log` both fail `Holds` -/
example : (run { sample with vec := [.ok, .revoked, .nonRevokable], chainLen := 3, companions := ["blob/sameWild/strict/skip"], history := ["c0"] }).outcome = .revoked := by decide +kernel
example : Holds { sample with vec := [.ok, .revoked, .nonRevokable], chainLen := 3, companions := ["blob/sameWild/strict/skip"], history := ["c0"] }
    { outcome := .notPerformed, named := none, accepted := true, resultAction := none, calls := 0, chainLen := none,
      signingTime := none, usedIface := none } = false := by decide +kernel
example : Holds { sample with vec := [.ok, .unknown, .nonRevokable], chainLen := 3, companions := ["blob/sameWild/permissive/-"], history := ["c0", "self"] }
    { outcome := .unknown, named := some 1, accepted := true, resultAction := some .log, calls := 1, chainLen := some 3,
      signingTime := some false, usedIface := some .validator } = false := by decide +kernel
/-- the other direction: a blob statement that skips revocation must not inherit `enforce` from an OCI namesake -/
example : Holds { sample with entry := .blob, revOverride := some .skip, companions := ["oci/sameWild/strict/-"], history := ["c0"] }
    { outcome := .pass, named := none, accepted := true, resultAction := some .enforce, calls := 1, chainLen := some 1,
      signingTime := some false, usedIface := some .validator } = false := by decide +kernel

/-- non-vacuity (seeded change C05-20): a deprecated client whose dynamic type also has `ValidateContext`: served
through that method (all OK) instead of its `Validate` (revoked leaf), the chain passes - `Holds` is false; it is
false even when the two methods agree, because the caller's interface was not the one consulted -/
example : Holds { sample with iface := .client, vec := [.revoked, .ok], chainLen := 2, extraMethod := "allOK" }
    { outcome := .pass, named := none, accepted := true, resultAction := some .enforce, calls := 1, chainLen := some 2,
      signingTime := some false, usedIface := some .validator } = false := by decide +kernel
example : Holds { sample with iface := .client, vec := [.ok, .ok], chainLen := 2, extraMethod := "allOK" }
    { outcome := .pass, named := none, accepted := true, resultAction := some .enforce, calls := 1, chainLen := some 2,
      signingTime := some false, usedIface := some .validator } = false := by decide +kernel
example : Holds { sample with iface := .client, vec := [.ok, .ok], chainLen := 2, extraMethod := "allOK" }
    { outcome := .pass, named := none, accepted := true, resultAction := some .enforce, calls := 1, chainLen := some 2,
      signingTime := some false, usedIface := some .client } = true := by decide +kernel

/-! ### tie to the translated source -/

namespace Tie
open NotationModel.Src NotationModel.Src.revocationresult

def toR : Result → R
  | .ResultOK => .ok | .ResultNonRevokable => .nonRevokable | .ResultUnknown => .unknown | .ResultRevoked => .revoked
def ofFinal : Final → Result
  | .ok => .ResultOK | .unknown => .ResultUnknown | .revoked => .ResultRevoked
/-- the source names a certificate by its subject, the model by its index -/
def subj (chain : List x509.Certificate) : Option Nat → String
  | none => ""
  | some k => (chain[k]!).Subject.text

/-- the state of the translated loop, in the order the translation gives its mutable variables:
`finalResult`, `numOKResults`, `problematicCertSubject`, `revokedFound`, `revokedCertSubject` -/
abbrev GoState := Result × Int × String × Bool × String

def absS (chain : List x509.Certificate) (acc : Acc) : GoState :=
  (ofFinal acc.final, (acc.numOK : Int), subj chain acc.problematic, acc.revokedFound, subj chain acc.revokedIdx)

/-- the model's loop, counting down (`k` stays below the length, so the default `.ok` of `getD` is never read) -/
theorem loopDown_scan (rs : List R) :
    ∀ k, k ≤ rs.length →
      GoLite.loopDown (fun k acc => loopStep acc k (rs[k]?.getD .ok)) k (scan (rs.drop k) k) = scan rs 0 := by
  intro k
  induction k with
  | zero => intro _; simp [GoLite.loopDown]
  | succ k ih =>
    intro hk
    have hk' : k < rs.length := by omega
    rw [GoLite.loopDown]
    have := ih (by omega)
    rw [List.drop_eq_getElem_cons hk', scan] at this
    simpa [hk'] using this

theorem loopDown_scan_all (rs : List R) :
    GoLite.loopDown (fun k acc => loopStep acc k (rs[k]?.getD .ok)) rs.length {} = scan rs 0 := by
  have := loopDown_scan rs rs.length (Nat.le_refl _)
  simpa [scan] using this

/-- how the model reads one entry of the result vector: a nil entry (a certificate the validator
gave no result for) is a certificate of unknown status -/
def resOf : Option CertRevocationResult → R
  | none => .unknown
  | some c => toR c.Result

@[simp] theorem resOf_none : resOf none = .unknown := rfl
@[simp] theorem resOf_some (c : CertRevocationResult) : resOf (some c) = toR c.Result := rfl

/-- TIE (translated source): the Lean translation of `verifier.revocationFinalResult`, regenerated
from verifier/verifier.go on every run (`Generated/SrcC05.lean`), computes for EVERY result vector
- entries may be nil - and chain exactly what the hand-written model `revocationFinalFor` computes
(the named subject is the subject of the certificate at the model's index; a nil entry is read as
`unknown`, `resOf`). A change of the Go function that alters its result breaks this theorem,
whatever inputs the correspondence run happens to sample. -/
theorem source_revocationFinalResult_refines_model (crs : List (Option CertRevocationResult)) (chain : List x509.Certificate) :
    verifier.revocationFinalResult crs chain =
      ((ofFinal (revocationFinalFor chain.length (crs.map resOf)).1),
       subj chain (revocationFinalFor chain.length (crs.map resOf)).2) := by
  -- Idea: a simulation. The translated loop runs over `GoState`, the model's `scan` over `Acc`; `absS chain` maps the
  -- one to the other, every step of the source's body commutes with it (`GoLite.loopDown_sim`, second bullet below),
  -- so the loops end in related states, and the code after the loop is `aggregate` read through `absS` (first bullet).
  unfold verifier.revocationFinalResult
  simp only [Id.run]
  by_cases hlen : crs.length = chain.length
  · have h1 : (GoLite.len crs != GoLite.len chain) = false ∧ (GoLite.len chain != GoLite.len crs) = false := by
      simp [GoLite.len, hlen]
    simp only [h1]
    rw [GoLite.forIn_downTo_of_yields _ (by intro k s; (repeat' split) <;> exact ⟨_, rfl⟩)]
    rw [GoLite.loopDown_sim _ (absS chain) (fun k acc => loopStep acc k ((crs.map resOf)[k]?.getD .ok))
          crs.length _ _ {} (by simp [absS, ofFinal, subj])]
    · have hs := loopDown_scan_all (crs.map resOf)
      simp only [List.length_map] at hs
      rw [hs]
      simp only [revocationFinalFor, aggregate, List.length_map, ← hlen]
      generalize scan (List.map resOf crs) 0 = acc
      -- the two tests that are left (a revoked certificate found? all results OK?). The source may write the
      -- comparison either way round and return early instead of assigning, so its shape is not matched: after
      -- `simp` whatever conditionals remain are split and each leaf is an identity or contradicts `hk` (DESIGN.md 10.3)
      have hk' : (((acc.numOK : Nat) : Int) = ((crs.length : Nat) : Int)) = (acc.numOK = crs.length) := by
        simp [Int.natCast_inj]
      cases hr : acc.revokedFound <;> by_cases hk : acc.numOK = crs.length <;>
        simp [absS, hr, hk, hk', ofFinal, GoLite.len] <;>
        (try (repeat' split)) <;> first | rfl | (exfalso; omega)
    · intro k hk acc
      have e : (List.map resOf crs)[k]?.getD R.ok = resOf (GoLite.idx crs (k : Int)) := by
        simp [GoLite.idx, hk]
      rw [e]
      simp only [GoLite.stepOf]
      generalize GoLite.idx crs (k : Int) = c
      rcases c with _ | ⟨res, sr, m⟩
      · simp [absS, loopStep, R.good, R.toFinal, ofFinal, subj, GoLite.idx_natCast, pkix.Name.String, ForInStep.value]
      · cases res <;>
          simp [absS, loopStep, toR, R.good, R.toFinal, ofFinal, subj, GoLite.idx_natCast, GoLite.deref, pkix.Name.String,
            ForInStep.value]
  · have h1 : (GoLite.len crs != GoLite.len chain) = true ∧ (GoLite.len chain != GoLite.len crs) = true := by
      simp only [GoLite.len, bne_iff_ne, ne_eq, Int.natCast_inj]; exact ⟨hlen, Ne.symm hlen⟩
    have h2 : (crs.length != chain.length) = true := by simp [hlen]
    simp [h1, revocationFinalFor, h2, ofFinal, subj]
    rfl

/-- the tie for vectors without nil entries -/
theorem source_revocationFinalResult_refines_model_some (crs : List CertRevocationResult) (chain : List x509.Certificate) :
    verifier.revocationFinalResult (crs.map some) chain =
      ((ofFinal (revocationFinalFor chain.length (crs.map (fun c => toR c.Result))).1),
       subj chain (revocationFinalFor chain.length (crs.map (fun c => toR c.Result))).2) := by
  rw [source_revocationFinalResult_refines_model, List.map_map]
  rfl

/-- a nil entry behaves exactly like an entry whose `Result` is `ResultUnknown`, whatever else that entry says -/
theorem nil_entry_is_unknown (pre post : List (Option CertRevocationResult)) (c : CertRevocationResult)
    (hc : c.Result = .ResultUnknown) (chain : List x509.Certificate) :
    verifier.revocationFinalResult (pre ++ none :: post) chain =
      verifier.revocationFinalResult (pre ++ some c :: post) chain := by
  simp [source_revocationFinalResult_refines_model, resOf, hc, toR]

/-- server results - nil or not - do not matter: only the `Result` of every entry is read -/
theorem server_results_irrelevant (crs crs' : List (Option CertRevocationResult)) (chain : List x509.Certificate)
    (h : crs.map (fun c => c.map (·.Result)) = crs'.map (fun c => c.map (·.Result))) :
    verifier.revocationFinalResult crs chain = verifier.revocationFinalResult crs' chain := by
  have e : ∀ xs : List (Option CertRevocationResult),
      xs.map resOf = (xs.map (fun c => c.map (·.Result))).map (fun r => match r with | none => R.unknown | some r => toR r) := by
    intro xs; rw [List.map_map]; apply List.map_congr_left; intro c _; cases c <;> rfl
  simp only [source_revocationFinalResult_refines_model, e, h]

/-- non-vacuity: the translated function on a concrete chain -/
example : verifier.revocationFinalResult
    [some { Result := .ResultUnknown, ServerResults := [], RevocationMethod := .RevocationMethodUnknown },
     some { Result := .ResultRevoked, ServerResults := [], RevocationMethod := .RevocationMethodCRL }]
    [{ Subject := ⟨"leaf"⟩ }, { Subject := ⟨"root"⟩ }] = (.ResultRevoked, "root") := by decide +kernel
/-- a nil entry fails closed and names its certificate; a result with a nil server result is read as usual -/
example : verifier.revocationFinalResult
    [some { Result := .ResultOK, ServerResults := [none], RevocationMethod := .RevocationMethodOCSP }, none]
    [{ Subject := ⟨"leaf"⟩ }, { Subject := ⟨"root"⟩ }] = (.ResultUnknown, "root") := by decide +kernel
example : verifier.revocationFinalResult
    [some { Result := .ResultOK, ServerResults := [none], RevocationMethod := .RevocationMethodOCSP },
     some { Result := .ResultNonRevokable, ServerResults := [], RevocationMethod := .RevocationMethodUnknown }]
    [{ Subject := ⟨"leaf"⟩ }, { Subject := ⟨"root"⟩ }] = (.ResultOK, "") := by decide +kernel

/-! #### the action of the revocation type -/
section Levels
open NotationModel.Src.trustpolicy

def levelName : Level → String
  | .strict => "strict" | .permissive => "permissive" | .audit => "audit" | .skip => "skip"
def actionName : Action → String
  | .enforce => "enforce" | .log => "log" | .skip => "skip"

/-- the trust policy statement of the model's input as the source's type; overrides of other types may
come before and after the one for revocation (Go iterates a map in any order) -/
def statement (l : Level) (ov : Option Action) (before after : List (String × String)) : SignatureVerification :=
  { VerificationLevel := levelName l,
    Override := before ++ (match ov with | none => [] | some a => [("revocation", actionName a)]) ++ after }

/-- what the level returned by the source says about revocation -/
def revocationOf (r : Option VerificationLevel × Option GoLite.Err) : Option String :=
  match r with
  | (some lv, none) => GoLite.Map.get? lv.Enforcement TypeRevocation
  | _ => none

/-- overrides of other types a statement may carry next to the one for revocation -/
def companions : List (List (String × String)) :=
  [[], [("expiry", "log")], [("expiry", "enforce")], [("authenticity", "enforce")], [("authenticity", "log")],
   [("authenticTimestamp", "enforce")], [("authenticTimestamp", "log"), ("expiry", "enforce")]]

def setE (c : VerificationLevel) (x : String × String) : VerificationLevel :=
  { Name := c.Name, Enforcement := GoLite.Map.set c.Enforcement x.1 x.2 }

theorem get?_foldl_setE (l : List (String × String)) (c : VerificationLevel) (k : String)
    (h : ∀ x ∈ l, (x.1 == k) = false) :
    GoLite.Map.get? (l.foldl setE c).Enforcement k = GoLite.Map.get? c.Enforcement k := by
  induction l generalizing c with
  | nil => rfl
  | cons x l ih =>
    rw [List.foldl_cons, ih _ (fun y hy => h y (List.mem_cons_of_mem _ hy))]
    exact GoLite.Map.get?_set_ne _ _ _ _ (h x (List.mem_cons_self ..))

theorem foldl_snd (l : List (String × String)) (c : VerificationLevel) :
    List.foldl (fun s x => ((none : Option (Option VerificationLevel × Option GoLite.Err)), setE s.2 x)) (none, c) l =
      (none, l.foldl setE c) := by
  induction l generalizing c with
  | nil => rfl
  | cons x l ih => exact ih _

/-- the overrides of the OTHER types that `GetVerificationLevel` accepts -/
def others : List (String × String) :=
  [("expiry", "log"), ("expiry", "enforce"), ("authenticity", "enforce"), ("authenticity", "log"),
   ("authenticTimestamp", "enforce"), ("authenticTimestamp", "log")]

def levelOf : Level → VerificationLevel
  | .strict => LevelStrict | .permissive => LevelPermissive | .audit => LevelAudit | .skip => LevelSkip

/-- what the translated `GetVerificationLevel` says about revocation, for ANY overrides of other types before and after
the one for revocation: they are set at other keys (`GoLite.Map.get?_set_ne`), the override for revocation is set at its own
(`GoLite.Map.get?_set_self`), and without one the entry is the one copied from the named level -/
theorem revocation_read (l : Level) (ov : Option Action) (hl : l ≠ .skip) (b a : List (String × String))
    (hb : ∀ x ∈ b, x ∈ others) (ha : ∀ x ∈ a, x ∈ others) :
    revocationOf (GetVerificationLevel (statement l ov b a)) = some (actionName (effective l ov)) := by
  -- the closed tests on the level, each in both spellings a comparison can take in the source
  have hlook : (List.filter (fun x => x.Name == levelName l) VerificationLevels).getLast? = some (levelOf l) ∧
      (List.filter (fun x => levelName l == x.Name) VerificationLevels).getLast? = some (levelOf l) := by
    cases l <;> exact ⟨rfl, rfl⟩
  have hname : (levelName l == "") = false ∧ ("" == levelName l) = false := by cases l <;> exact ⟨rfl, rfl⟩
  have hskip : (some (levelOf l) == some LevelSkip) = false ∧ (some LevelSkip == some (levelOf l)) = false := by
    cases l
    case skip => exact absurd rfl hl
    all_goals exact ⟨rfl, rfl⟩
  have hcopy : List.foldl setE { Name := "custom", Enforcement := [] } (levelOf l).Enforcement =
      { Name := "custom", Enforcement := (levelOf l).Enforcement } := by cases l <;> rfl
  have hbase : GoLite.Map.get? (levelOf l).Enforcement TypeRevocation = some (actionName l.base) := by
    cases l <;> rfl
  have hne : ∀ x ∈ others, (x.1 == TypeRevocation) = false := by decide
  unfold GetVerificationLevel
  simp only [Id.run]
  simp only [GoLite.forIn_lastMatch, GoLite.forIn_firstEq, pure_bind]
  rw [GoLite.forIn_yield_foldl_mem _ setE _ ?copy]
  case copy => intro x _ s; rfl
  simp only [pure_bind]
  rw [GoLite.forIn_yield_foldl_mem _ (fun s x => (none, setE s.2 x)) (statement l ov b a).Override ?accepted]
  case accepted =>
    intro x hx s
    simp only [statement, List.mem_append] at hx
    have hx' : x ∈ others ∨ ∃ o, x = ("revocation", actionName o) := by
      rcases hx with (hx | hx) | hx
      · exact .inl (hb x hx)
      · cases ov with
        | none => cases hx
        | some o => exact .inr ⟨o, List.mem_singleton.1 hx⟩
      · exact .inl (ha x hx)
    simp only [others, List.mem_cons, List.not_mem_nil, or_false] at hx'
    rcases hx' with (rfl | rfl | rfl | rfl | rfl | rfl) | ⟨o, rfl⟩
    iterate 6 rfl
    cases o <;> rfl
  -- what is left: the test for an empty override list, the named level on one side, the level built on the other
  simp only [statement, hlook, hname, hskip, GoLite.len_beq_zero, GoLite.zero_beq_len, GoLite.deref, Option.getD_some, hcopy, foldl_snd, Option.isNone_some,
    Bool.false_eq_true, if_false, bind, pure]
  have hres : ∀ ovs : List (String × String),
      revocationOf (if ovs.isEmpty = true then (some (levelOf l), none)
        else (some (List.foldl setE { Name := "custom", Enforcement := (levelOf l).Enforcement } ovs), none)) =
      GoLite.Map.get? (List.foldl setE { Name := "custom", Enforcement := (levelOf l).Enforcement } ovs).Enforcement
        TypeRevocation := by
    intro ovs
    cases ovs <;> rfl
  rw [hres, List.foldl_append, List.foldl_append, get?_foldl_setE a _ _ fun x hx => hne x (ha x hx)]
  cases ov with
  | none =>
    rw [List.foldl_nil, get?_foldl_setE b _ _ fun x hx => hne x (hb x hx), effective_no_override]
    exact hbase
  | some o =>
    rw [override_decides l o hl]
    exact GoLite.Map.get?_set_self _ _ _

theorem companions_others : ∀ b ∈ companions, ∀ x ∈ b, x ∈ others := by decide

/-- TIE (translated source): `SignatureVerification.GetVerificationLevel`, translated from
verifier/trustpolicy/trustpolicy.go on every run (`Generated/SrcLevels.lean`, with the level tables), says
about the revocation type exactly what the model's `effective` says - for every named level that can be
customised and every override of revocation (none, enforce, log, skip: relaxing AND tightening), alone or
next to overrides of other types placed before and after it. (The general statement for arbitrary override
maps is C02's `source_GetVerificationLevel_refines_model`; this one pins the reading C05 depends on.) -/
theorem source_GetVerificationLevel_revocation (l : Level) (ov : Option Action) (hl : l ≠ .skip) :
    (companions.all fun b => companions.all fun a =>
      revocationOf (GetVerificationLevel (statement l ov b a)) == some (actionName (effective l ov))) = true := by
  exact List.all_eq_true.2 fun b hb => List.all_eq_true.2 fun a ha =>
    beq_iff_eq.2 (revocation_read l ov hl b a (companions_others b hb) (companions_others a ha))

example : revocationOf (GetVerificationLevel (statement .skip none [] [])) = some "skip" := by decide +kernel

/-- non-vacuity: the user's statement of seeded change C05-13 -/
example : revocationOf (GetVerificationLevel { VerificationLevel := "permissive", Override := [("revocation", "enforce")] }) = some "enforce" := by decide +kernel

end Levels

end Tie

end NotationModel.C05
