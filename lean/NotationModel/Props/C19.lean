/-
C19 - Stored signatures round-trip byte-for-byte and stay with their artifact.
The model is in `Model/C19.lean`, its relation to the declarative reading of a history in `Lemmas/C19.lean`; here: the run as
that state machine, the theorems about a listing, `model_holds`, test vectors, the tie to the translated Go functions.

Reading guide. A history `h : List Op` is newest-first. `stateOf h` is the state the model's
`step` function reaches; `listObs mode (stateOf h) q` is `ListSignatures(q)` followed by
`FetchSignatureBlob` of everything listed; `sigsFor q h` are the operations of the history that
stored a signature manifest of exactly `q` (a successful `PushSignature` for `q`, or a directly
written image / legacy artifact manifest with subject `q` and the notation artifact type).
-/
import NotationModel.Lemmas.C19
import NotationModel.Generated.SrcC19


namespace NotationModel.C19
open NotationModel.Facts

/-! ### facts read from the Go source -/

theorem caps_positive : 0 < capM ∧ 0 < capB ∧ capM ≤ capB := by decide +kernel

/-- the media types the model switches on are distinct from each other and from the index type it skips; the notation type is
none of the two -/
theorem media_types_distinct :
    mtImage ≠ mtArtifact ∧ mtImage ≠ c19MediaTypeImageIndex ∧ mtArtifact ≠ c19MediaTypeImageIndex ∧
    notationType ≠ mtImage ∧ notationType ≠ mtArtifact := by decide +kernel

/-- `ListSignatures` falls back to `signatureReferrers` (a fact read off the source text) -/
theorem list_uses_signatureReferrers : c19ListUsesSignatureReferrers = true := by decide +kernel

/-! ### the model run is the state machine over the history -/

/-- a view is good when its listing is the model's listing of the state after its history (distinct labels) -/
def Good (v : View) : Prop :=
  v.lo = listObs v.mode (stateOf v.hist) v.q ∧ (v.hist.map (·.id)).Nodup

theorem zipWith_map_self {α β γ : Type} (f : α → β → γ) (g : α → β) (l : List α) :
    List.zipWith f l (l.map g) = l.map (fun a => f a (g a)) := by
  rw [List.zipWith_map_right, List.zipWith_self]

theorem all_zip_map {α β : Type} (g : α → β) (P : α × β → Bool) (l : List α) :
    (l.zip (l.map g)).all P = l.all (fun a => P (a, g a)) := by
  rw [List.zip, zipWith_map_self, List.all_map]; rfl

theorem runSteps_cons (mode : Index) (qs : List Desc) (h : List Op) (o : Op) (rest : List Op) :
    runSteps mode qs (stateOf h) (o :: rest) =
      (⟨succeeds h o, true, qs.map (listObs mode (stateOf (o :: h)))⟩ :: (runSteps mode qs (stateOf (o :: h)) rest).1,
       (runSteps mode qs (stateOf (o :: h)) rest).2) := by
  simp only [runSteps, step_ok]; rfl

theorem runSteps_final (mode : Index) (qs : List Desc) : ∀ (ops h : List Op),
    (runSteps mode qs (stateOf h) ops).2 = stateOf (ops.reverse ++ h) := by
  intro ops
  induction ops with
  | nil => intro h; rfl
  | cons o rest ih => intro h; rw [runSteps_cons, ih (o :: h)]; simp

theorem runSteps_shape (mode : Index) (qs : List Desc) : ∀ (ops : List Op) (st : State),
    (runSteps mode qs st ops).1.length = ops.length ∧ (runSteps mode qs st ops).1.all (·.descOk) = true ∧
    (runSteps mode qs st ops).1.all (fun so => so.lists.length == qs.length) = true := by
  intro ops
  induction ops with
  | nil => intro st; simp [runSteps]
  | cons o rest ih => intro st; simp [runSteps, ih]

theorem nodup_reverse_of {l : List Nat} (h : l.Nodup) : l.reverse.Nodup := h.perm (List.reverse_perm l).symm

theorem nodup_suffix {h : List Op} {pre : List Op} (hn : ((pre ++ h).map (·.id)).Nodup) :
    (h.map (·.id)).Nodup := hn.sublist ((List.sublist_append_right pre h).map _)

theorem stepViews_run (mode : Index) (qs : List Desc) : ∀ (ops h : List Op),
    ((ops.reverse ++ h).map (·.id)).Nodup →
    ∀ v ∈ stepViews mode qs h ops (runSteps mode qs (stateOf h) ops).1, Good v := by
  intro ops
  induction ops with
  | nil => intro h _ v hv; simp [stepViews] at hv
  | cons o rest ih =>
    intro h hn v hv
    have hn' : ((rest.reverse ++ (o :: h)).map (·.id)).Nodup := by
      simpa [List.reverse_cons, List.append_assoc] using hn
    rw [runSteps_cons] at hv
    simp only [stepViews, List.mem_append, zipWith_map_self, List.mem_map] at hv
    rcases hv with ⟨q, _, rfl⟩ | hv
    · exact ⟨rfl, nodup_suffix hn'⟩
    · exact ih (o :: h) hn' v hv

theorem stepPairs_run (mode : Index) (qs : List Desc) : ∀ (ops h : List Op),
    (stepPairs h ops (runSteps mode qs (stateOf h) ops).1).all (fun (h', op, so) => so.ok == succeeds h' op) = true := by
  intro ops
  induction ops with
  | nil => intro h; rfl
  | cons o rest ih =>
    intro h
    rw [runSteps_cons]
    simp only [stepPairs, List.all_cons, beq_self_eq_true, Bool.true_and]
    exact ih (o :: h)

theorem wf_nodup (i : Input) (hwf : wf i = true) : (i.ops.map (·.id)).Nodup ∧ (i.race.map (·.id)).Nodup := by
  simpa [wf] using hwf

theorem runSteps_final_init (mode : Index) (qs : List Desc) (ops : List Op) :
    (runSteps mode qs {} ops).2 = stateOf ops.reverse := by
  have := runSteps_final mode qs ops []
  simpa [stateOf] using this

theorem runSteps_oks (mode : Index) (qs : List Desc) : ∀ (ops h : List Op),
    (runSteps mode qs (stateOf h) ops).1.map (·.ok) = expectOks h ops := by
  intro ops
  induction ops with
  | nil => intro h; rfl
  | cons o rest ih => intro h; rw [runSteps_cons, expectOks, ← ih (o :: h)]; rfl

theorem views_run (i : Input) (hwf : wf i = true) : ∀ v ∈ views i (run i), Good v := by
  have hn : (i.ops.map (·.id)).Nodup := (wf_nodup i hwf).1
  have hn' : ((i.ops.reverse ++ ([] : List Op)).map (·.id)).Nodup := by
    simp only [List.append_nil, List.map_reverse]
    exact nodup_reverse_of hn
  intro v hv
  simp only [views, run, List.mem_append] at hv
  rcases hv with (hv | hv) | hv
  · exact stepViews_run i.mode i.queries i.ops [] hn' v hv
  · have hfin := runSteps_final_init i.mode i.queries i.ops
    by_cases hr : i.reopenOk = true
    · simp only [hr, if_true, zipWith_map_self, List.mem_map] at hv
      obtain ⟨q, _, rfl⟩ := hv
      refine ⟨by simp [hfin], ?_⟩
      simpa using hn'
    · simp [hr] at hv
  · simp only [List.mem_singleton] at hv
    subst hv
    refine ⟨by simp [runSteps_final_init], ?_⟩
    simp only [List.map_reverse]
    exact nodup_reverse_of (wf_nodup i hwf).2

/-! ### a listing after any history -/

/-- **list_exact**: after any history, a listing that is not refused yields exactly the
signature manifests stored for that subject, in order of arrival. -/
theorem list_exact (mode : Index) (h : List Op) (q : Desc) (hok : (listObs mode (stateOf h) q).ok = true) :
    (listObs mode (stateOf h) q).sigs.map (·.id) = (sigsFor q h).map (·.id) := by
  rw [listObs_spec] at hok ⊢
  have hr : refused mode q h = false := by simpa using hok
  simp [hr, List.map_map, Function.comp_def, sigObs]

theorem listed_iff (mode : Index) (h : List Op) (q : Desc) (hok : (listObs mode (stateOf h) q).ok = true) (id : Nat) :
    id ∈ (listObs mode (stateOf h) q).sigs.map (·.id) ↔ ∃ o, SigIn q o h ∧ o.id = id := by
  rw [list_exact mode h q hok]
  simp only [List.mem_map, mem_sigsFor]

/-- **isolation**: whatever is listed for `q` was stored by an operation whose subject is exactly `q`
(media type, digest and size) and which is a `PushSignature` or a manifest of the notation type -
nothing of another subject, of another artifact type, or whose subject shares only some fields;
and this holds whether the index behind `Predecessors` is exact or keyed by digest only. -/
theorem isolation (mode : Index) (h : List Op) (q : Desc) (s : SigObs)
    (hs : s ∈ (listObs mode (stateOf h) q).sigs) :
    ∃ o ∈ h, o.id = s.id ∧ o.subject = some q ∧
      (o.kind = .push ∨ (o.kind = .raw ∧ o.atype = notationType ∧ isManifestType o.mt = true)) := by
  rw [listObs_spec] at hs
  by_cases hr : refused mode q h = true
  · simp [hr] at hs
  · have hr' : refused mode q h = false := by simpa using hr
    simp only [hr', Bool.false_eq_true, if_false] at hs
    obtain ⟨o, ho, hso⟩ := List.mem_map.1 hs
    have hp := sigIn_props q o h ((mem_sigsFor q o h).1 ho)
    exact ⟨o, hp.1, by rw [← hso]; simp [sigObs], hp.2.1, hp.2.2.2⟩

theorem eq_of_id_eq : ∀ {l : List Op}, (l.map (·.id)).Nodup → ∀ {a b : Op}, a ∈ l → b ∈ l → a.id = b.id → a = b
  | [], _, _, _, ha, _, _ => by simp at ha
  | x :: r, hn, a, b, ha, hb, hab => by
    simp only [List.map_cons, List.nodup_cons, List.mem_map, not_exists, not_and] at hn
    rcases List.mem_cons.1 ha with hax | har <;> rcases List.mem_cons.1 hb with hbx | hbr
    · rw [hax, hbx]
    · subst hax; exact absurd hab.symm (hn.1 b hbr)
    · subst hbx; exact absurd hab (hn.1 a har)
    · exact eq_of_id_eq hn.2 har hbr hab

/-- isolation between subjects, spelled out: a signature pushed for `q'` is never listed for `q ≠ q'`
(in particular not when `q'` differs from `q` in exactly one of media type, digest, size) -/
theorem isolation_between_subjects (mode : Index) (h : List Op) (q q' : Desc) (hne : q ≠ q')
    (hnd : (h.map (·.id)).Nodup) (o : Op) (ho : o ∈ h) (hsub : o.subject = some q') :
    o.id ∉ (listObs mode (stateOf h) q).sigs.map (·.id) := by
  intro hmem
  obtain ⟨s, hs, hid⟩ := List.mem_map.1 hmem
  obtain ⟨o', ho', hid', hsub', _⟩ := isolation mode h q s hs
  have : o' = o := eq_of_id_eq hnd ho' ho (by rw [hid', hid])
  subst this
  rw [hsub] at hsub'
  exact hne (Option.some.inj hsub').symm

/-- the subject filter of `signatureReferrers` makes the answer independent of how exact the
predecessor index is: whenever both listings succeed they are the same -/
theorem list_independent_of_index (h : List Op) (q : Desc)
    (h1 : (listObs .exact (stateOf h) q).ok = true) (h2 : (listObs .digestOnly (stateOf h) q).ok = true) :
    listObs .exact (stateOf h) q = listObs .digestOnly (stateOf h) q := by
  rw [listObs_spec] at h1 h2 ⊢
  rw [listObs_spec]
  have r1 : refused .exact q h = false := by simpa using h1
  have r2 : refused .digestOnly q h = false := by simpa using h2
  simp [r1, r2]

/-- an oversized referrer of one subject does not disturb the listing of another digest -/
theorem refusal_is_per_subject (mode : Index) (h : List Op) (q : Desc)
    (hnone : ∀ o ∈ h, ∀ s, o.subject = some s → s.dig ≠ q.dig) : refused mode q h = false := by
  induction h with
  | nil => rfl
  | cons o h ih =>
    have hm : subjMatches mode q o.subject = false := by
      cases hs : o.subject with
      | none => rfl
      | some s =>
        have hdig := hnone o List.mem_cons_self s hs
        cases mode with
        | exact => simpa [subjMatches] using fun (heq : s = q) => hdig (heq ▸ rfl)
        | digestOnly => simpa [subjMatches] using hdig
    simp [refused, hm, ih (fun o' ho' => hnone o' (List.mem_cons_of_mem _ ho'))]

theorem listed_fetch (mode : Index) (h : List Op) (q : Desc) (hn : (h.map (·.id)).Nodup)
    (hr : refused mode q h = false) (o : Op) (ho : o ∈ sigsFor q h) :
    (sigObs (stateOf h) (mkManifest o)).fetch = expectFetch h o := by
  have hs := (mem_sigsFor q o h).1 ho
  have hp := sigIn_props q o h hs
  simp only [sigObs, descOf, mk_mt, mk_id, mk_size]
  exact fetchSig_spec h o hn (sigIn_created q o h hs) hp.2.2.1 (sigIn_small mode q o h hs hr)

/-- **fetch_roundtrip**: after any history, a signature stored by a successful `PushSignature`
whose envelope is within the blob cap is listed for its subject, and fetching it returns exactly
the pushed bytes (label) and the pushed media type. -/
theorem fetch_roundtrip (mode : Index) (h : List Op) (q : Desc) (hn : (h.map (·.id)).Nodup)
    (hr : refused mode q h = false) (o : Op) (ho : o ∈ sigsFor q h) (hk : o.kind = .push)
    (hsz : o.bsize ≤ capB) :
    (sigObs (stateOf h) (mkManifest o)) ∈ (listObs mode (stateOf h) q).sigs ∧
    (sigObs (stateOf h) (mkManifest o)).fetch =
      { ok := true, blob := o.blob, mt := o.mt, manifestRead := true, blobRead := true } := by
  constructor
  · rw [listObs_spec]; simp only [hr, Bool.false_eq_true, if_false]
    exact List.mem_map.2 ⟨o, ho, rfl⟩
  · rw [listed_fetch mode h q hn hr o ho]
    have hs := (mem_sigsFor q o h).1 ho
    have hst := pushed_blob_stored o hk h (sigIn_created q o h hs)
    have : ¬ (o.bsize > capB) := by omega
    simp [expectFetch, opLayers, hk, hst, this]

theorem mem_insertKV (kv x : KV) : ∀ (l : List KV), x ∈ l → x ∈ insertKV kv l := by
  intro l
  induction l with
  | nil => intro h; simp at h
  | cons y r ih =>
    intro h
    simp only [insertKV]
    by_cases hlt : kv.k < y.k
    · simp only [hlt, if_true]; exact List.mem_cons_of_mem _ h
    · simp only [hlt, if_false]
      rcases List.mem_cons.1 h with h | h
      · rw [h]; exact List.mem_cons_self
      · exact List.mem_cons_of_mem _ (ih h)

/-- **annotations_superset**: every annotation handed to `PushSignature` (or written into a raw
manifest) is on the stored manifest, hence on the listed descriptor; the packer may add `created`. -/
theorem annotations_superset (o : Op) (kv : KV) (hkv : kv ∈ o.annos) : kv ∈ (mkManifest o).annos := by
  unfold mkManifest
  cases o.kind <;> simp only []
  · unfold ensureCreated
    split
    · exact hkv
    · exact mem_insertKV _ _ _ hkv
  · exact hkv
  · exact hkv

/-! ### the decisions of a fetch as one function -/
namespace Tie

/-- outcome of the decisions of `FetchSignatureBlob`: refused (was the manifest fetched? the blob?)
or the single layer whose blob is returned -/
inductive FetchDec (α : Type) | refuse (manifestRead blobRead : Bool) | ok (l : α)
  deriving DecidableEq, Repr

/-- `mtOk`: the descriptor's media type is one of the two manifest types; `tooBig`: its size is over the
manifest cap; `manifest`: the layers / blobs that fetching + decoding gives (none: failed);
`overCap l`: the layer's declared size is over the blob cap; `blobOk l`: fetching the blob works.
`blobOk` is consulted only for a manifest with exactly one layer within the cap. -/
def decideFetch {α : Type} (mtOk tooBig : Bool) (manifest : Option (List α)) (overCap : α → Bool) (blobOk : α → Bool) :
    FetchDec α :=
  if !mtOk then .refuse false false
  else if tooBig then .refuse false false
  else match manifest with
    | none => .refuse true false
    | some [l] => if overCap l then .refuse true false else if blobOk l then .ok l else .refuse true true
    | some _ => .refuse true false

theorem decideFetch_refuse {α : Type} (mtOk tooBig : Bool) (manifest : Option (List α)) (overCap blobOk : α → Bool)
    (h : mtOk = false ∨ tooBig = true) : decideFetch mtOk tooBig manifest overCap blobOk = .refuse false false := by
  unfold decideFetch
  rcases h with rfl | rfl
  · rfl
  · cases mtOk <;> rfl

theorem decideFetch_hostile {α : Type} (ls : List α) (overCap blobOk : α → Bool)
    (h : ls.length ≠ 1 ∨ ls.any overCap = true) : decideFetch true false (some ls) overCap blobOk = .refuse true false := by
  unfold decideFetch
  cases ls with
  | nil => rfl
  | cons l r =>
    cases r with
    | cons _ _ => rfl
    | nil =>
      have : overCap l = true := by simpa using h
      simp [this]

/-- the two stages of the Go code: `getSignatureBlobDesc` up to "exactly one layer", `FetchSignatureBlob` cap and fetch -/
theorem decideFetch_split {α : Type} (mtOk tooBig : Bool) (manifest : Option (List α)) (overCap blobOk : α → Bool) :
    decideFetch mtOk tooBig manifest overCap blobOk =
      match decideFetch mtOk tooBig manifest (fun _ => false) (fun _ => true) with
      | .refuse x y => .refuse x y
      | .ok l => if overCap l then .refuse true false else if blobOk l then .ok l else .refuse true true := by
  unfold decideFetch
  cases mtOk with
  | false => rfl
  | true =>
    cases tooBig with
    | true => rfl
    | false =>
      cases manifest with
      | none => rfl
      | some ls =>
        cases ls with
        | nil => rfl
        | cons l r => cases r <;> simp

def renderModel : FetchDec Layer → FetchObs
  | .refuse a b => refuse a b
  | .ok l => { ok := true, blob := l.blob, mt := l.mt, manifestRead := true, blobRead := true }

theorem fetchLayers_eq (st : State) (ls : List Layer) :
    fetchLayers st ls = renderModel (decideFetch true false (some ls)
      (fun l => decide (l.size > capB)) (fun l => blobSize st l.blob == some l.size)) := by
  unfold fetchLayers decideFetch
  split
  · rename_i l
    by_cases hb : l.size > capB
    · simp [hb, renderModel]
    · cases hs : blobSize st l.blob == some l.size <;> simp [hb, hs, renderModel]
  · rename_i hne
    cases ls with
    | nil => rfl
    | cons l r =>
      cases r with
      | nil => exact absurd rfl (hne l)
      | cons _ _ => rfl

end Tie

/-- **hostile_refused_before_use** (listed manifests): a listed manifest that does not carry exactly
one blob, or whose blob is declared larger than the cap, is refused and no blob is read. -/
theorem hostile_refused_before_use (h : List Op) (o : Op) (hh : hostileLayers (opLayers o) = true) :
    (expectFetch h o).ok = false ∧ (expectFetch h o).manifestRead = true ∧ (expectFetch h o).blobRead = false := by
  have hd : (opLayers o).length ≠ 1 ∨ (opLayers o).any (fun l => decide (l.size > capB)) = true := by
    simpa [hostileLayers] using hh
  rw [← fetchLayers_spec, Tie.fetchLayers_eq, Tie.decideFetch_hostile _ _ _ hd]
  exact ⟨rfl, rfl, rfl⟩

/-- **hostile_refused_before_use** (descriptors): a descriptor of another media type, or declaring
more than the manifest cap, is refused before anything is read - in any state. -/
theorem descriptor_refused_before_read (st : State) (d : Desc)
    (hd : isManifestType d.mt = false ∨ d.size > capM) :
    fetchSig st d = refuse false false := by
  unfold fetchSig
  rcases hd with hd | hd
  · have : (d.mt != mtArtifact && d.mt != mtImage) = true := by
      simp only [isManifestType, Bool.or_eq_false_iff] at hd
      simp [bne, hd.1, hd.2]
    simp [this]
  · by_cases hmt : (d.mt != mtArtifact && d.mt != mtImage) = true
    · simp [hmt]
    · simp [hmt, hd]

/-- in no state does `FetchSignatureBlob` read a blob that is declared larger than the cap, or
read anything for a manifest that does not have exactly one blob -/
theorem blob_read_implies_single_small_layer (st : State) (ls : List Layer)
    (hread : (fetchLayers st ls).blobRead = true) : ∃ l, ls = [l] ∧ l.size ≤ capB := by
  by_cases hd : ls.length ≠ 1 ∨ ls.any (fun l => decide (l.size > capB)) = true
  · rw [Tie.fetchLayers_eq, Tie.decideFetch_hostile _ _ _ hd] at hread
    cases hread
  · simp only [not_or, Decidable.not_not, Bool.not_eq_true] at hd
    obtain ⟨l, rfl⟩ := List.length_eq_one_iff.1 hd.1
    exact ⟨l, rfl, by simpa using hd.2⟩

/-! ### concurrent pushes, done contexts, results as values -/

theorem not_stored_of_not_mem (h : List Op) (b : Nat) (hb : b ∉ h.map (·.blob)) : stored h b = false := by
  cases hs : stored h b with
  | false => rfl
  | true =>
    simp only [stored, List.any_eq_true, Bool.and_eq_true, beq_iff_eq] at hs
    obtain ⟨o, ho, _, hob⟩ := hs
    exact absurd (List.mem_map.2 ⟨o, ho, hob⟩) hb

/-- pushes of pairwise distinct envelopes, in whatever order they take effect: the signatures listed
for `q` afterwards are exactly the pushes whose subject is `q` - none is lost, the order does not
matter (the right-hand side does not mention it). This is what the concurrency stage is held to. -/
theorem distinct_pushes_all_listed (q : Desc) (o : Op) : ∀ (h : List Op), (∀ x ∈ h, x.kind = .push) →
    (h.map (·.blob)).Nodup → (o ∈ sigsFor q h ↔ o ∈ h ∧ o.subject = some q) := by
  intro h
  induction h with
  | nil => intro _ _; simp [sigsFor]
  | cons x h ih =>
    intro hk hn
    simp only [List.map_cons, List.nodup_cons] at hn
    have hsig : isSigFor h x q = (x.subject == some q) := by
      simp [isSigFor, hk x List.mem_cons_self, not_stored_of_not_mem h x.blob hn.1]
    simp only [sigsFor, List.mem_append, ih (fun y hy => hk y (List.mem_cons_of_mem _ hy)) hn.2, hsig,
      List.mem_cons, or_and_right]
    by_cases hx : x.subject = some q
    · have : (o = x ∧ o.subject = some q) ↔ o = x := and_iff_left_of_imp (by rintro rfl; exact hx)
      simp [hx, this, or_comm]
    · have : ¬ (o = x ∧ o.subject = some q) := by rintro ⟨rfl, h2⟩; exact hx h2
      simp [hx, this]

theorem expectOks_distinct_pushes : ∀ (ops h : List Op), (∀ x ∈ ops, x.kind = .push) →
    ((ops.reverse ++ h).map (·.blob)).Nodup → (expectOks h ops).all id = true := by
  intro ops
  induction ops with
  | nil => intro h _ _; rfl
  | cons o rest ih =>
    intro h hk hn
    have hn' : ((rest.reverse ++ (o :: h)).map (·.blob)).Nodup := by
      simpa [List.reverse_cons, List.append_assoc] using hn
    have hoh : ((o :: h).map (·.blob)).Nodup := by
      rw [List.map_append] at hn'
      exact (List.nodup_append.1 hn').2.1
    simp only [expectOks, List.all_cons, id, succeeds, hk o List.mem_cons_self,
      not_stored_of_not_mem h o.blob (List.nodup_cons.1 hoh).1, Bool.not_false, Bool.true_and]
    exact ih (o :: h) (fun x hx => hk x (List.mem_cons_of_mem _ hx)) hn'

/-- ... and every one of them is accepted -/
theorem distinct_pushes_all_accepted : ∀ (ops h : List Op), (∀ x ∈ ops, x.kind = .push) →
    ((ops.reverse ++ h).map (·.blob)).Nodup → (∀ x ∈ h, writesBlob x = true) →
    (expectOks h ops).all id = true :=
  fun ops h hk hn _ => expectOks_distinct_pushes ops h hk hn

/-- a listing under a done context is the listing under a live one (the store ignores the
context, `signatureReferrers` does not look at it): complete, or the same refusal -/
theorem cancelled_listing_complete (mode : Index) (h : List Op) (q : Desc) :
    (ctxObs mode (stateOf h) q).err = true ∨ (ctxObs mode (stateOf h) q).ids = (sigsFor q h).map (·.id) := by
  by_cases hok : (listObs mode (stateOf h) q).ok = true
  · right; simp [ctxObs, list_exact mode h q hok]
  · left; simp [ctxObs, hok]

/-- in the model results are values: nothing a later call (on this or another repository) does
can change what an earlier call returned, and no two results share anything. The harness checks
the real code against exactly this: it keeps every returned envelope slice, blob descriptor,
callback slice and annotation map and re-compares them after all later calls (`retained`), and
checks that their memory is disjoint from each other and from caller-owned input (`unaliased`). -/
theorem results_are_values (i : Input) : (run i).retained = true ∧ (run i).unaliased = true := ⟨rfl, rfl⟩

theorem probeTarget_spec (d : Desc) : ∀ (h : List Op) (o : Op), probeTarget h d = some o →
    CreatedIn o h ∧ o.id = d.dig ∧ opMt o = d.mt ∧ o.msize = d.size := by
  intro h
  induction h with
  | nil => intro o ho; simp [probeTarget] at ho
  | cons x h ih =>
    intro o ho
    simp only [probeTarget] at ho
    by_cases hc : (creates h x && x.id == d.dig) = true
    · simp only [hc, if_true] at ho
      by_cases hm : (opMt x == d.mt && x.msize == d.size) = true
      · simp only [hm, if_true, Option.some.injEq] at ho
        subst ho
        simp only [Bool.and_eq_true, beq_iff_eq] at hc hm
        exact ⟨Or.inl ⟨rfl, hc.1⟩, hc.2, hm.1, hm.2⟩
      · simp [hm] at ho
    · simp only [hc] at ho
      obtain ⟨h1, h2⟩ := ih o ho
      exact ⟨Or.inr h1, h2⟩

theorem views_all (i : Input) (hwf : wf i = true) (f : View → Bool)
    (hf : ∀ mode h q, (h.map (·.id)).Nodup → f ⟨mode, h, q, listObs mode (stateOf h) q⟩ = true) :
    (views i (run i)).all f = true := by
  apply List.all_eq_true.2
  intro v hv
  obtain ⟨hlo, hnd⟩ := views_run i hwf v hv
  have := hf v.mode v.hist v.q hnd
  rwa [← hlo] at this

theorem views_sigs_all (i : Input) (hwf : wf i = true) (P : View → Op × SigObs → Bool)
    (hP : ∀ mode h q lo, (h.map (·.id)).Nodup → refused mode q h = false → ∀ o ∈ sigsFor q h,
      P ⟨mode, h, q, lo⟩ (o, sigObs (stateOf h) (mkManifest o)) = true) :
    (views i (run i)).all (fun v => !v.lo.ok || (paired v).all (P v)) = true := by
  apply views_all i hwf
  intro mode h q hnd
  simp only [paired, listObs_spec]
  cases hr : refused mode q h with
  | true => rfl
  | false =>
    simp only [Bool.not_false, Bool.not_true, Bool.false_or, Bool.false_eq_true, if_false, all_zip_map]
    exact List.all_eq_true.2 (fun o ho => hP mode h q _ hnd hr o ho)

/-! ### the whole property -/

/-- **C19, the whole property**: every clause of `Holds` is true of the model's behaviour, for
every well-formed input (any number of operations, subjects, queries and probes). -/
theorem model_holds (i : Input) (hwf : wf i = true) : Holds i (run i) = true := by
  have hnr : (i.ops.reverse.map (·.id)).Nodup := by
    rw [List.map_reverse]; exact nodup_reverse_of (wf_nodup i hwf).1
  have hfin : (runSteps i.mode i.queries {} i.ops).2 = stateOf i.ops.reverse :=
    runSteps_final_init i.mode i.queries i.ops
  have hview := views_all i hwf
  have hsigs := views_sigs_all i hwf
  unfold Holds clauses
  simp only [Clauses.holds_cons, Clauses.holds_nil, Bool.and_true, Bool.and_eq_true]
  refine ⟨hwf, ?shape, ?pdesc, ?push, ?exact, ?iso, ?refused, ?big, ?round, ?pushed, ?annos, ?hostile, ?probe1, ?probe2, ?reopen, ?race, ?ctx, ?retained, ?unaliased⟩
  case shape =>
    obtain ⟨h1, _, h3⟩ := runSteps_shape i.mode i.queries i.ops {}
    simp only [shapeOk, run, h1, h3, List.length_map, beq_self_eq_true, Bool.true_and, Bool.and_true]
    cases i.reopenOk <;> simp
  case pdesc => exact (runSteps_shape _ _ _ _).2.1
  case push =>
    exact stepPairs_run i.mode i.queries i.ops []
  case exact =>
    apply hview
    intro mode h q _
    by_cases hok : (listObs mode (stateOf h) q).ok = true
    · simp [hok, list_exact mode h q hok]
    · simp [hok]
  case iso =>
    apply hview
    intro mode h q _
    simp only [List.all_eq_true, List.any_eq_true]
    intro s hs
    obtain ⟨o, ho, hid, hsub, hkind⟩ := isolation mode h q s hs
    refine ⟨o, ho, ?_⟩
    rcases hkind with hk | ⟨hk, hat, hmt⟩ <;> simp [*]
  case refused =>
    apply hview
    intro mode h q _
    simp only [listObs_spec]
    cases refused mode q h <;> rfl
  case big =>
    apply hview
    intro mode h q _
    simp only [listObs_spec]; rfl
  case round =>
    apply hsigs
    intro mode h q _ hnd hr o ho
    dsimp only
    rw [listed_fetch mode h q hnd hr o ho, expectFetch]
    split
    · rename_i l _
      by_cases hsz : l.size > capB
      · have : ¬ (l.size ≤ capB) := by omega
        simp [this]
      · by_cases hst : storedSize h l.blob = some l.size <;> simp [hsz, hst]
    · rfl
  case pushed =>
    apply hsigs
    intro mode h q _ hnd hr o ho
    by_cases hk : o.kind = .push
    · by_cases hsz : o.bsize ≤ capB
      · simp [(fetch_roundtrip mode h q hnd hr o ho hk hsz).2]
      · simp [hsz]
    · simp [hk]
  case annos =>
    apply hsigs
    intro mode h q _ _ _ o _
    apply List.all_eq_true.2
    intro kv hkv
    simpa [sigObs] using annotations_superset o kv hkv
  case hostile =>
    apply hsigs
    intro mode h q _ hnd hr o ho
    by_cases hh : hostileLayers (opLayers o) = true
    · rw [listed_fetch mode h q hnd hr o ho]
      obtain ⟨h1, h2, h3⟩ := hostile_refused_before_use h o hh
      simp [h1, h2, h3]
    · simp [hh]
  case probe1 =>
    simp only [run, all_zip_map]
    apply List.all_eq_true.2
    intro d _
    by_cases hd : isManifestType d.mt = false ∨ d.size > capM
    · rw [descriptor_refused_before_read _ d hd]; simp [refuse]
    · simp only [not_or, Bool.not_eq_false] at hd
      simp [hd.1, hd.2]
  case probe2 =>
    simp only [run, all_zip_map, hfin]
    apply List.all_eq_true.2
    intro d _
    by_cases hd : (isManifestType d.mt && decide (d.size ≤ capM)) = true
    · simp only [hd, Bool.not_true, Bool.false_or]
      cases hp : probeTarget i.ops.reverse d with
      | none => rfl
      | some o =>
        obtain ⟨hc, hid, hmt, hsz⟩ := probeTarget_spec d _ o hp
        simp only [Bool.and_eq_true, decide_eq_true_eq] at hd
        have := fetchSig_spec i.ops.reverse o hnr hc (by rw [hmt]; exact hd.1) (by rw [hsz]; exact hd.2)
        rw [hmt, hid, hsz] at this
        simp [this]
    · simp [hd]
  case reopen => rfl
  case race =>
    have := runSteps_oks .exact [] i.race []
    simp only [run, beq_iff_eq]
    simpa [stateOf] using this
  case ctx =>
    simp only [run, all_zip_map, hfin]
    apply List.all_eq_true.2
    intro q _
    simpa using cancelled_listing_complete i.mode i.ops.reverse q
  case retained => rfl
  case unaliased => rfl

/-! ### non-vacuity -/

def s0 : Desc := ⟨mtImage, 0, 421⟩
def s0' : Desc := ⟨mtImage, 0, 422⟩      -- same digest, other size
def s1 : Desc := ⟨mtImage, 1, 422⟩

def pushOp (id : Nat) (s : Desc) (blob : Nat) : Op :=
  { kind := .push, id := id, subject := some s, mt := "application/jose+json", blob := blob, bsize := 100,
    msize := 600, atype := "", topType := "", layers := [], stray := [], annos := [⟨"a", "1"⟩] }

def rawOp (id : Nat) (mt : String) (s : Desc) (atype : String) (layers : List Layer) (msize : Nat := 500) : Op :=
  { kind := .raw, id := id, subject := some s, mt := mt, blob := 0, bsize := 0, msize := msize, atype := atype,
    topType := "", layers := layers, stray := [], annos := [] }

/-- two subjects; a signature each; a notation manifest for a subject that shares only the digest
with `s0`; another artifact type on `s0`; a hostile two-layer signature manifest on `s0`; a look-alike
artifact type (letter case) on `s1`; two concurrent first pushes; listings under done contexts -/
def demo : Input :=
  { mode := .digestOnly,
    ops := [pushOp 0 s0 1, pushOp 1 s1 2,
            rawOp 2 mtImage s0' notationType [⟨"application/cose", 1, 100⟩],
            rawOp 3 mtArtifact s0 "application/vnd.example.sbom" [⟨"application/cose", 2, 100⟩],
            rawOp 4 mtArtifact s0 notationType [⟨"application/cose", 1, 100⟩, ⟨"application/cose", 2, 100⟩],
            rawOp 5 mtImage s1 "application/vnd.cncf.notary.Signature" [⟨"application/cose", 1, 100⟩]],
    queries := [s0, s1], probes := [⟨mtImage, 0, 600⟩, ⟨mtImage, 0, capM + 1⟩], reopenOk := true,
    race := [pushOp 0 s0 1, pushOp 1 s0 2], raceSubject := s0, cuts := [0, 1] }

example : wf demo = true := by decide +kernel

/-- the final listings: `s0` has its pushed signature (fetchable, with the `created` annotation
added) and the hostile manifest (refused, no blob read); `s1` has exactly its own -/
example : (run demo).reopened =
    [ { ok := true, bigRead := false,
        sigs := [ { id := 0, annos := [⟨"a", "1"⟩, ⟨createdKey, timeMark⟩],
                    fetch := ⟨true, 1, "application/jose+json", true, true⟩ },
                  { id := 4, annos := [], fetch := ⟨false, 0, "", true, false⟩ } ] },
      { ok := true, bigRead := false,
        sigs := [ { id := 1, annos := [⟨"a", "1"⟩, ⟨createdKey, timeMark⟩],
                    fetch := ⟨true, 2, "application/jose+json", true, true⟩ } ] } ] := by decide +kernel

example : (run demo).probes = [⟨true, 1, "application/jose+json", true, true⟩, ⟨false, 0, "", false, false⟩] := by decide +kernel

/-- both concurrent pushes are accepted and listed; every cancelled listing is the complete one -/
example : (run demo).raceOks = [true, true] ∧ (run demo).raceList.sigs.map (·.id) = [0, 1] ∧
    (run demo).cancelled = [⟨false, [0, 4]⟩, ⟨false, [0, 4]⟩, ⟨false, [1]⟩, ⟨false, [1]⟩] := by decide +kernel

example : Holds demo (run demo) = true := model_holds demo (by decide +kernel)

/-- an oversized referrer refuses the listing of its subject only -/
example : ((run { demo with ops := demo.ops ++ [rawOp 6 mtImage s0 "x/y" [] (capM + 1)] }).reopened.map (·.ok)) =
    [false, true] := by decide +kernel

/-- wrong observations are rejected (`not_holds_at k n`: `n` is clause number `k` of `clauses`, from 0): the loser of the race
not stored; a truncated listing of the race; a truncated listing under a cancelled context -/
example : Holds demo { run demo with raceOks := [true, false] } = false :=
  Clauses.not_holds_at 15 "concurrent_pushes_accepted" (by decide +kernel)
example : Holds demo { run demo with raceList := { (run demo).raceList with sigs := (run demo).raceList.sigs.take 1 } } = false :=
  Clauses.not_holds_at 4 "list_exact" (by decide +kernel)
example : Holds demo { run demo with cancelled := [⟨false, [0]⟩, ⟨false, [0, 4]⟩, ⟨false, [1]⟩, ⟨false, [1]⟩] } = false :=
  Clauses.not_holds_at 16 "cancelled_listing_complete_or_error" (by decide +kernel)
/-- accepted: a listing under a done context may also fail as a whole -/
example : Holds demo { run demo with cancelled := [⟨true, []⟩, ⟨false, [0, 4]⟩, ⟨false, [1]⟩, ⟨true, []⟩] } = true := by decide +kernel
/-- rejected: the look-alike artifact type listed -/
example : Holds demo { run demo with reopened := (run demo).reopened.map (fun l =>
    { l with sigs := l.sigs ++ [{ id := 5, annos := [], fetch := ⟨true, 1, "application/cose", true, true⟩ }] }) } = false :=
  Clauses.not_holds_at 4 "list_exact" (by decide +kernel)

def goodSig0 : SigObs :=
  { id := 0, annos := [⟨"a", "1"⟩, ⟨createdKey, timeMark⟩], fetch := ⟨true, 1, "application/jose+json", true, true⟩ }
def okList (sigs : List SigObs) : ListObs := { ok := true, sigs := sigs, bigRead := false }
def stepOf (sigs : List SigObs) : StepObs := { ok := true, descOk := true, lists := [okList sigs] }

def demo2 : Input :=
  { mode := .digestOnly,
    ops := [pushOp 0 s0 1, rawOp 1 mtImage s0' notationType [⟨"application/cose", 1, 100⟩]],
    queries := [s0], probes := [], reopenOk := false, race := [], raceSubject := s0, cuts := [] }

def obs2 (steps : List StepObs) : Obs :=
  { steps := steps, probes := [], reopened := [], reopenSame := true, raceOks := [], raceList := okList [],
    cancelled := [], retained := true, unaliased := true }

example : run demo2 = obs2 [stepOf [goodSig0], stepOf [goodSig0]] := by decide +kernel

/-- a wrong observation is rejected: the manifest whose subject only shares the digest listed for `s0` -/
example : Holds demo2 (obs2 [stepOf [goodSig0],
    stepOf [goodSig0, { id := 1, annos := [], fetch := ⟨true, 1, "application/cose", true, true⟩ }]]) = false :=
  Clauses.not_holds_at 4 "list_exact" (by decide +kernel)

/-- and so is a fetch that returns other bytes than were pushed -/
example : Holds demo2 (obs2 [stepOf [{ goodSig0 with fetch := ⟨true, 7, "application/jose+json", true, true⟩ }],
    stepOf [goodSig0]]) = false :=
  Clauses.not_holds_at 8 "fetch_roundtrip" (by decide +kernel)

/-- and an earlier fetch result that a later fetch overwrote (pooled buffer) -/
example : Holds demo2 { obs2 [stepOf [goodSig0], stepOf [goodSig0]] with retained := false } = false :=
  Clauses.not_holds_at 17 "earlier_results_unchanged" (by decide +kernel)

/-- and a push that hands back a blob descriptor with another media type than was pushed -/
example : Holds demo2 (obs2 [{ stepOf [goodSig0] with descOk := false }, stepOf [goodSig0]]) = false :=
  Clauses.not_holds_at 2 "push_returns_descriptor_of_what_was_pushed" (by decide +kernel)

/-- a polyglot - an image manifest with no layer but a stray `blobs` member of the legacy format - is listed (notation type,
exact subject), refused by a fetch through its own descriptor without a blob read; only a hand-made descriptor that
names the OTHER manifest type makes the code read the stray list -/
def polyglotIn : Input :=
  { demo2 with ops := [pushOp 0 s0 1, { rawOp 1 mtImage s0 notationType [] with stray := [⟨"application/cose", 1, 100⟩] }],
               probes := [⟨mtImage, 1, 500⟩, ⟨mtArtifact, 1, 500⟩] }
example : ((run polyglotIn).steps.map (fun s => s.lists.map (fun l => l.sigs.map (fun g => (g.id, g.fetch.ok, g.fetch.blobRead))))) =
    [[[(0, true, true)]], [[(0, true, true), (1, false, false)]]] ∧
    (run polyglotIn).probes.map (fun f => (f.ok, f.blob)) = [(false, 0), (true, 1)] := by decide +kernel
example : Holds polyglotIn (run polyglotIn) = true := model_holds polyglotIn (by decide +kernel)
example : Holds polyglotIn { run polyglotIn with steps := (run polyglotIn).steps.map (fun s => { s with lists := s.lists.map (fun l =>
    { l with sigs := l.sigs.map (fun g => if g.id == 1 then { g with fetch := ⟨true, 1, "application/cose", true, true⟩ } else g) }) }) } = false :=
  Clauses.not_holds_at 11 "hostile_refused_before_use" (by decide +kernel)

/-- rejected: a listing that misses a pushed signature -/
example : Holds demo2 (obs2 [stepOf [goodSig0], stepOf []]) = false :=
  Clauses.not_holds_at 4 "list_exact" (by decide +kernel)

/-! ### tie to the translated source (docs/TIE_BRIEF.md) -/
namespace Tie
open NotationModel.Src.registry

/-! #### the listing: one decision function, two instantiations -/

/-- what the loop of `signatureReferrers` needs to know about one predecessor -/
structure NodeView where
  manifestType : Bool              -- the media type is the artifact manifest or the image manifest type
  big : Bool                       -- size > maxManifestSizeLimit
  content : Option (Bool × Bool)   -- none: fetching / decoding failed; some (subject equals the queried
                                   -- descriptor, artifact type is the notation type)

inductive NodeDec | skip | keep | tooLarge | fail
  deriving DecidableEq, Repr

/-- the per-node decision. `content` is looked at only for a manifest type within the cap. -/
def decideNode (v : NodeView) : NodeDec :=
  if v.manifestType then
    if v.big then .tooLarge
    else match v.content with
      | none => .fail
      | some (subjOk, typeOk) => if subjOk && typeOk then .keep else .skip
  else .skip

/-- the listing over any kind of node: the first oversized / unreadable node refuses the whole
listing, otherwise the kept nodes in order -/
def listG {α : Type} (view : α → NodeView) : List α → Option (List α)
  | [] => some []
  | a :: r =>
    match decideNode (view a) with
    | .tooLarge => none
    | .fail => none
    | .keep => (listG view r).map (a :: ·)
    | .skip => listG view r

/-- the model's view of a stored manifest when `q` is listed (content is always readable there) -/
def modelView (q : Desc) (m : Manifest) : NodeView :=
  { manifestType := isManifestType m.mt, big := decide (m.size > capM),
    content := some (m.subject == some q, m.atype == notationType) }

theorem model_scan_is_listG (q : Desc) : ∀ (ms : List Manifest),
    (if (scan q ms).err then none else some (scan q ms).kept) = listG (modelView q) ms := by
  intro ms
  induction ms with
  | nil => rfl
  | cons m r ih =>
    rw [scan_cons]
    simp only [listG, decideNode, modelView, ← ih]
    by_cases hmt : isManifestType m.mt = true
    · by_cases hbig : m.size > capM
      · simp [hmt, hbig, scanCase_big]
      · simp only [hmt, hbig, scanCase_small q m _ hbig, if_true, decide_false, Bool.false_eq_true, if_false]
        cases (m.subject == some q && m.atype == notationType) <;> cases (scan q r).err <;> rfl
    · simp [hmt]

/-- what the oracles tell the translated loop about the content of a predecessor -/
structure SrcContent where
  subject : Option ocispec.Descriptor
  atype : String
  annos : GoLite.Map String String

def srcFetchErr (w : World) (t : Via) (n : ocispec.Descriptor) : Option GoLite.Err :=
  if (w.FetchAll t n).2.isSome then (w.FetchAll t n).2
  else if n.MediaType == artifactspec.MediaTypeArtifactManifest then (w.decodeArtifact (w.FetchAll t n).1 default).2
  else (w.decodeManifest (w.FetchAll t n).1 default).2

/-- fetch + decode by media type (a fresh decode target every time) -/
def srcDecode (w : World) (t : Via) (n : ocispec.Descriptor) : Option SrcContent :=
  if (srcFetchErr w t n).isSome then none
  else if n.MediaType == artifactspec.MediaTypeArtifactManifest then
    let d := (w.decodeArtifact (w.FetchAll t n).1 default).1
    some ⟨d.Subject, d.ArtifactType, d.Annotations⟩
  else
    let d := (w.decodeManifest (w.FetchAll t n).1 default).1
    some ⟨d.Subject, d.Config.MediaType, d.Annotations⟩

def srcView (w : World) (t : Via) (desc : ocispec.Descriptor) (n : ocispec.Descriptor) : NodeView :=
  { manifestType := n.MediaType == artifactspec.MediaTypeArtifactManifest || n.MediaType == ocispec.MediaTypeImageManifest,
    big := decide (n.Size > maxManifestSizeLimit),
    content := (srcDecode w t n).map (fun c =>
      (c.subject.isSome && content.Equal (GoLite.deref c.subject) desc, c.atype == ArtifactTypeNotation)) }

def srcUpdate (w : World) (t : Via) (n : ocispec.Descriptor) : ocispec.Descriptor :=
  match srcDecode w t n with
  | some c => { n with ArtifactType := c.atype, Annotations := c.annos }
  | none => n

def listShape (r : List ocispec.Descriptor × Option GoLite.Err) : Option (List ocispec.Descriptor) :=
  if r.2.isSome then none else some r.1

/-- the state of the translated loop: the pending `return` value, `results`, `err` -/
abbrev LoopSt := Option (List ocispec.Descriptor × Option GoLite.Err) × List ocispec.Descriptor × Option GoLite.Err

/-- a loop that, seen through `abs`, appends, continues or returns as `decideNode (view a)` says computes `listG view` -/
theorem forIn_listG {α β S : Type} (view : α → NodeView) (upd : α → β) (body : α → S → Id (ForInStep S))
    (abs : List β → S) (Bad : S → Prop)
    (h : ∀ a acc, ∃ r, body a (abs acc) = pure r ∧
      match decideNode (view a) with
      | .keep => r = .yield (abs (acc ++ [upd a]))
      | .skip => r = .yield (abs acc)
      | _ => ∃ s, r = .done s ∧ Bad s) :
    ∀ (l : List α) (acc : List β),
      (∀ k, listG view l = some k → forIn l (abs acc) body = pure (abs (acc ++ k.map upd))) ∧
      (listG view l = none → Bad (forIn l (abs acc) body : Id S)) := by
  intro l
  induction l with
  | nil => intro acc; simp [listG]
  | cons a r ih =>
    intro acc
    obtain ⟨x, hx, ha⟩ := h a acc
    simp only [List.forIn_cons, listG, hx, pure_bind]
    cases hd : decideNode (view a) <;> rw [hd] at ha <;> simp only at ha
    case skip => rw [ha]; exact ih acc
    case keep =>
      simp only [ha, Option.map_eq_some_iff, Option.map_eq_none_iff]
      refine ⟨?_, (ih _).2⟩
      rintro k ⟨k', hk', rfl⟩
      rw [(ih _).1 k' hk']; simp
    all_goals
      obtain ⟨s, rfl, ho⟩ := ha
      exact ⟨fun k hk => by simp at hk, fun _ => ho⟩

/-- one `case` of the switch in `signatureReferrers` (both have this shape) over variables; `c5` is the artifact-type test in
whichever orientation the text has it -/
theorem case_step (w : World) (t : Via) (desc n : ocispec.Descriptor) (acc : List ocispec.Descriptor)
    (fe de : Option GoLite.Err) (sub : Option ocispec.Descriptor) (aty : String) (annos : GoLite.Map String String)
    (e1 : GoLite.Err) (o1 : Option GoLite.Err) {c5 : Prop} [Decidable c5] (hc5 : c5 ↔ aty = ArtifactTypeNotation)
    (hm : (n.MediaType == artifactspec.MediaTypeArtifactManifest || n.MediaType == ocispec.MediaTypeImageManifest) = true)
    (hfe : srcFetchErr w t n = if fe.isSome then fe else de)
    (hdec : srcDecode w t n = if (srcFetchErr w t n).isSome then none else some ⟨sub, aty, annos⟩) :
    ∃ r, (if decide (n.Size > maxManifestSizeLimit) = true then pure (ForInStep.done (some (default, some e1), acc, o1))
          else if fe.isSome = true then pure (.done (some (default, fe), acc, fe))
          else if de.isSome = true then pure (.done (some (default, de), acc, de))
          else if (sub.isNone || !content.Equal (GoLite.deref sub) desc) = true then pure (.yield (none, acc, de))
          else if c5 then pure (.yield (none, acc ++ [{ n with ArtifactType := aty, Annotations := annos }], de))
          else pure (.yield (none, acc, de)) : Id (ForInStep LoopSt)) = pure r ∧
      match decideNode (srcView w t desc n) with
      | .keep => r = .yield (none, acc ++ [srcUpdate w t n], none)
      | .skip => r = .yield (none, acc, none)
      | _ => ∃ s, r = .done s ∧ ∃ r', s.1 = some r' ∧ r'.2.isSome = true := by
  by_cases hbig : decide (n.Size > maxManifestSizeLimit) = true
  · rw [if_pos hbig]
    refine ⟨_, rfl, ?_⟩
    simp only [decideNode, srcView, hm, hbig, if_true]
    exact ⟨_, rfl, _, rfl, rfl⟩
  · rw [if_neg hbig]
    by_cases he : (srcFetchErr w t n).isSome = true
    · -- fetching or decoding failed: the cascade returns that error
      have hfail : decideNode (srcView w t desc n) = .fail := by
        simp only [decideNode, srcView, hdec, hm, hbig, he, if_true, Bool.false_eq_true, if_false, Option.map_none]
      rw [hfail]
      cases fe with
      | some e => exact ⟨_, rfl, _, rfl, _, rfl, rfl⟩
      | none =>
        cases de with
        | some e => exact ⟨_, rfl, _, rfl, _, rfl, rfl⟩
        | none => simp [hfe] at he
    · have hnone : fe = none ∧ de = none := by
        rw [hfe] at he
        cases fe <;> cases de <;> simp at he ⊢
      obtain ⟨rfl, rfl⟩ := hnone
      simp only [decideNode, srcView, srcUpdate, hdec, hm, hbig, he, if_true, Bool.false_eq_true, if_false, Option.map_some,
        Option.isSome_none, hc5]
      cases sub with
      | none => exact ⟨_, rfl, by simp⟩
      | some sd =>
        by_cases heq : content.Equal sd desc = true <;> by_cases hty : aty = ArtifactTypeNotation <;>
          simp [heq, hty, GoLite.deref]

-- an argument for the other orientation of a test is idle for the present text
set_option linter.unusedSimpArgs false in
/-- TIE (translated source): `signatureReferrers`, translated from registry/repository.go on every run
(`Generated/SrcC19.lean`), computes for EVERY world (store, decoder) and every queried descriptor the
generic listing `listG` of its view of the predecessors: refused when `Predecessors` fails or when
the first node that is not simply skipped / kept is over the manifest cap (decided on the
descriptor's size alone - `srcView.content` is not consulted) or cannot be fetched / decoded;
otherwise exactly the nodes whose subject `content.Equal`s the queried descriptor and whose
artifact type (artifact manifest: `artifactType`, image manifest: `config.mediaType`) is the notation
type, in the order of `Predecessors`, each with artifact type and annotations from its content.
`model_scan_is_listG` says the model's `scan` is the same `listG` of the model's view. -/
theorem source_signatureReferrers_refines_model (w : World) (t : Via) (desc : ocispec.Descriptor) :
    listShape (signatureReferrers w t desc) =
      if (w.Predecessors desc).2.isSome then none
      else (listG (srcView w t desc) (w.Predecessors desc).1).map (fun l => l.map (srcUpdate w t)) := by
  unfold signatureReferrers
  generalize hP : w.Predecessors desc = p
  obtain ⟨nodes, e⟩ := p
  simp only [Id.run]
  cases e with
  | some e0 => rfl
  | none =>
    simp only [Option.isSome_none, Bool.false_eq_true, if_false]
    rw [GoLite.idBind]
    generalize hb : (forIn nodes _ _ : Id LoopSt) = s
    have key : (∀ k, listG (srcView w t desc) nodes = some k → s = (none, k.map (srcUpdate w t), none)) ∧
        (listG (srcView w t desc) nodes = none → ∃ r, s.1 = some r ∧ r.2.isSome = true) :=
      hb ▸ forIn_listG (srcView w t desc) (srcUpdate w t) _ (fun acc => (none, acc, none))
        (fun s : LoopSt => ∃ r, s.1 = some r ∧ r.2.isSome = true) ?step nodes []
    case step =>
      -- the text is regenerated and may turn a comparison round: a test is entered with `rw [if_pos ?c]`, and its side goal
      -- `c` (`x == k` or `k == x`) is closed after `BEq.comm (a := k)` has put the constant on the right
      clear hb
      intro a acc
      by_cases hA : (a.MediaType == artifactspec.MediaTypeArtifactManifest) = true
      · rw [if_pos ?c]
        case c => simpa only [BEq.comm (a := artifactspec.MediaTypeArtifactManifest)] using hA
        exact case_step w t desc a acc _ _ _ _ _ _ _ (by simp only [BEq.comm (a := ArtifactTypeNotation), beq_iff_eq]) (by rw [hA]; rfl)
          (by simp only [srcFetchErr, hA, if_true]; rfl) (by simp only [srcDecode, hA, if_true]; rfl)
      · rw [if_neg ?c]
        case c => simpa only [BEq.comm (a := artifactspec.MediaTypeArtifactManifest)] using hA
        by_cases hI : (a.MediaType == ocispec.MediaTypeImageManifest) = true
        · rw [if_pos ?c]
          case c => simpa only [BEq.comm (a := ocispec.MediaTypeImageManifest)] using hI
          exact case_step w t desc a acc _ _ _ _ _ _ _ (by simp only [BEq.comm (a := ArtifactTypeNotation), beq_iff_eq]) (by rw [hI, Bool.or_true])
            (by simp only [srcFetchErr, hA, Bool.false_eq_true, if_false]; rfl) (by simp only [srcDecode, hA, Bool.false_eq_true, if_false]; rfl)
        · rw [if_neg ?c]
          case c => simpa only [BEq.comm (a := ocispec.MediaTypeImageManifest)] using hI
          refine ⟨_, rfl, ?_⟩
          simp only [decideNode, srcView, hA, hI, Bool.or_self, Bool.false_eq_true, if_false]
    cases hl : listG (srcView w t desc) nodes with
    | some k => rw [key.1 k hl]; rfl
    | none =>
      obtain ⟨r, h1, h2⟩ := key.2 hl
      simp [h1, listShape, h2, GoLite.idPure]

/-! #### the listing: both instantiations in one statement -/

theorem listG_congr {α : Type} (v1 v2 : α → NodeView) : ∀ (l : List α), (∀ a ∈ l, decideNode (v1 a) = decideNode (v2 a)) →
    listG v1 l = listG v2 l := by
  intro l
  induction l with
  | nil => intro _; rfl
  | cons a r ih =>
    intro h
    simp only [listG, h a List.mem_cons_self, ih (fun b hb => h b (List.mem_cons_of_mem _ hb))]

theorem listG_map {α β : Type} (f : β → α) (v : α → NodeView) : ∀ (zs : List β),
    listG v (zs.map f) = (listG (fun z => v (f z)) zs).map (fun l => l.map f) := by
  intro zs
  induction zs with
  | nil => simp [listG]
  | cons z r ih =>
    simp only [List.map_cons, listG, ih]
    cases decideNode (v (f z)) <;> simp
    cases listG (fun z => v (f z)) r <;> simp

/-- TIE, both sides together: pair every predecessor the store returns with the stored manifest it
stands for. If the world shows of each predecessor what the model knows of its manifest (same
view: manifest type, over the cap, subject equals the query, notation type), then the translated
`signatureReferrers` and the model's `scan` refuse together and otherwise keep the SAME positions in
the SAME order: there is one list `kept` of pairs such that the source returns the descriptors of
`kept` (with artifact type / annotations filled in) and the model keeps the manifests of `kept`. -/
theorem source_lists_exactly_what_model_lists (w : World) (t : Via) (desc : ocispec.Descriptor) (q : Desc)
    (zs : List (ocispec.Descriptor × Manifest)) (hP : w.Predecessors desc = (zs.map (·.1), none))
    (hv : ∀ z ∈ zs, srcView w t desc z.1 = modelView q z.2) :
    ∃ kept : Option (List (ocispec.Descriptor × Manifest)),
      listShape (signatureReferrers w t desc) = kept.map (fun l => l.map (fun z => srcUpdate w t z.1)) ∧
      (if (scan q (zs.map (·.2))).err then none else some (scan q (zs.map (·.2))).kept) = kept.map (fun l => l.map (·.2)) := by
  refine ⟨listG (fun z => srcView w t desc z.1) zs, ?_, ?_⟩
  · rw [source_signatureReferrers_refines_model, hP]
    simp only [Option.isSome_none, Bool.false_eq_true, if_false, listG_map]
    cases listG (fun z => srcView w t desc z.1) zs <;> simp
  · rw [model_scan_is_listG, listG_map]
    rw [listG_congr (fun z => srcView w t desc z.1) (fun z => modelView q z.2) zs (fun z hz => by rw [hv z hz])]

/-- refused BEFORE the content is read: for a node that is not of a manifest type, or is over the
cap, the decision does not depend on what fetching / decoding would give -/
theorem oversized_decided_before_fetch (v : NodeView) (c c' : Option (Bool × Bool))
    (h : v.manifestType = false ∨ v.big = true) :
    decideNode { v with content := c } = decideNode { v with content := c' } := by
  unfold decideNode
  rcases h with h | h
  · simp [h]
  · by_cases hm : v.manifestType = true <;> simp [hm, h]

/-- ... and the two guards of the translated loop's view do not mention the oracles at all -/
theorem srcView_guards_oracle_free (w w' : World) (t t' : Via) (desc n : ocispec.Descriptor) :
    (srcView w t desc n).manifestType = (srcView w' t' desc n).manifestType ∧
    (srcView w t desc n).big = (srcView w' t' desc n).big := ⟨rfl, rfl⟩

/-- non-vacuity: the translated loop on a world with three predecessors - a notation image manifest
of the subject, one of another subject, one of another type -/
def demoDesc : ocispec.Descriptor := { MediaType := ocispec.MediaTypeImageManifest, Digest := "sha256:s", Size := 421 }
def demoNode (k : Nat) : ocispec.Descriptor := { MediaType := ocispec.MediaTypeImageManifest, Digest := s!"sha256:n{k}", Size := 600 + k }
def demoWorld : World :=
  { (default : World) with
    Predecessors := fun _ => ([demoNode 0, demoNode 1, demoNode 2], none),
    FetchAll := fun _ n => (⟨(n.Size - 600).toNat⟩, none),
    decodeManifest := fun b _ =>
      ({ MediaType := ocispec.MediaTypeImageManifest, ArtifactType := "",
         Config := { MediaType := if b.id == 2 then "application/vnd.example" else ArtifactTypeNotation, Digest := "sha256:c", Size := 2 },
         Layers := [], Subject := some (if b.id == 1 then { demoDesc with Size := 422 } else demoDesc),
         Annotations := [("k", "v")] }, none) }

example : (signatureReferrers demoWorld .direct demoDesc).1.map (·.Digest) = ["sha256:n0"] ∧
    (signatureReferrers demoWorld .direct demoDesc).2 = none := by decide +kernel

/-- TIE (translated source): `ListSignatures` on an OCI layout (the target is no `registry.ReferrerLister`) hands
exactly the result of `signatureReferrers` for the client's own target to the callback, once, and returns the
callback's answer - or an error when the listing was refused. -/
theorem source_ListSignatures_refines_model (w : World) (c : repositoryClient) (desc : ocispec.Descriptor)
    (fn : List ocispec.Descriptor → Option GoLite.Err) (hl : w.isRepository = false) :
    ListSignatures w c desc fn =
      if (signatureReferrers w c.GraphTarget desc).2.isSome then some (GoLite.wrapf "" (signatureReferrers w c.GraphTarget desc).2)
      else fn (signatureReferrers w c.GraphTarget desc).1 := by
  unfold ListSignatures
  generalize signatureReferrers w c.GraphTarget desc = r
  obtain ⟨l, e⟩ := r
  simp only [Id.run, World.asReferrerLister, hl, Bool.false_eq_true, if_false]
  cases e <;> rfl

/-! #### the fetch: two instantiations of `decideFetch` -/

theorem model_fetchSig_is_decideFetch (st : State) (d : Desc) :
    fetchSig st d = renderModel (decideFetch (isManifestType d.mt) (decide (d.size > capM))
      (((st.manifests.find? (·.id == d.dig)).filter (fun m => m.size == d.size)).map
        (fun m => if d.mt == m.mt then m.layers else if isManifestType m.mt then m.stray else []))
      (fun l => decide (l.size > capB)) (fun l => blobSize st l.blob == some l.size)) := by
  by_cases hd : isManifestType d.mt = false ∨ d.size > capM
  · rw [descriptor_refused_before_read st d hd, decideFetch_refuse _ _ _ _ _ (by simpa using hd)]; rfl
  · have hmt : isManifestType d.mt = true := by
      cases h : isManifestType d.mt <;> simp [h] at hd ⊢
    have hsz : ¬ d.size > capM := fun h => hd (Or.inr h)
    have h1 : (d.mt != mtArtifact && d.mt != mtImage) = false := by
      simpa [isManifestType, bne, ← Bool.not_or] using hmt
    simp only [fetchSig, h1, hsz, hmt, Bool.false_eq_true, if_false, decide_false]
    cases st.manifests.find? (fun x => x.id == d.dig) with
    | none => rfl
    | some m =>
      by_cases hs : m.size = d.size
      · simp only [hs, bne_self_eq_false, Bool.false_eq_true, if_false, Option.filter, beq_self_eq_true, if_true,
          Option.map_some, fetchLayers_eq]
      · simp [hs, Option.filter, decideFetch, renderModel]

/-- what fetching + decoding the manifest gives the translated code: its layers (image manifest)
or blobs (artifact manifest), by the DESCRIPTOR's media type; a fresh decode target -/
def srcManifest (w : World) (v : Via) (d : ocispec.Descriptor) : Option (List ocispec.Descriptor) :=
  if (w.FetchAll v d).2.isSome then none
  else if d.MediaType == ocispec.MediaTypeImageManifest then
    (if (w.decodeManifest (w.FetchAll v d).1 default).2.isSome then none else some (w.decodeManifest (w.FetchAll v d).1 default).1.Layers)
  else
    (if (w.decodeArtifact (w.FetchAll v d).1 default).2.isSome then none else some (w.decodeArtifact (w.FetchAll v d).1 default).1.Blobs)

def srcFetchDec (w : World) (d : ocispec.Descriptor) : FetchDec ocispec.Descriptor :=
  decideFetch (d.MediaType == artifactspec.MediaTypeArtifactManifest || d.MediaType == ocispec.MediaTypeImageManifest)
    (decide (d.Size > maxManifestSizeLimit)) (srcManifest w .direct d)
    (fun l => decide (l.Size > maxBlobSizeLimit)) (fun l => (w.FetchAll .direct l).2.isNone)

def fetchShape (r : Option Bytes × ocispec.Descriptor × Option GoLite.Err) : Option Bytes × ocispec.Descriptor × Bool :=
  (r.1, r.2.1, r.2.2.isSome)

def renderSrc (w : World) : FetchDec ocispec.Descriptor → Option Bytes × ocispec.Descriptor × Bool
  | .refuse _ _ => (none, default, true)
  | .ok l => (some (w.FetchAll .direct l).1, l, false)

/-- the end of `getSignatureBlobDesc` for either format over variables; `c` is the test "not exactly one" -/
theorem blob_case (w : World) (d : ocispec.Descriptor) (de : Option GoLite.Err) (ls : List ocispec.Descriptor) (e : GoLite.Err)
    {c : Prop} [Decidable c] (hc : c ↔ (ls.length : Int) ≠ 1)
    (hmt : (d.MediaType == artifactspec.MediaTypeArtifactManifest || d.MediaType == ocispec.MediaTypeImageManifest) = true)
    (hbig : ¬ decide (d.Size > maxManifestSizeLimit) = true)
    (hm : srcManifest w .direct d = if de.isSome then none else some ls) :
    (((if de.isSome = true then pure (default, de) else if c then pure (default, some e) else pure (GoLite.idx ls 0, none) :
        Id (ocispec.Descriptor × Option GoLite.Err))).2.isSome,
     ((if de.isSome = true then pure (default, de) else if c then pure (default, some e) else pure (GoLite.idx ls 0, none) :
        Id (ocispec.Descriptor × Option GoLite.Err))).1) =
      match decideFetch (d.MediaType == artifactspec.MediaTypeArtifactManifest || d.MediaType == ocispec.MediaTypeImageManifest)
          (decide (d.Size > maxManifestSizeLimit)) (srcManifest w .direct d) (fun _ => false) (fun _ => true) with
      | .ok l => (false, l)
      | .refuse _ _ => (true, default) := by
  simp only [decideFetch, hmt, hbig, hm, Bool.not_true, Bool.false_eq_true, if_false, hc]
  cases de with
  | some e' => rfl
  | none =>
    cases ls with
    | nil => simp [GoLite.idPure]
    | cons l r =>
      cases r with
      | nil => simp [GoLite.idPure, GoLite.idx]
      | cons l2 r2 =>
        have h1 : ¬ ((r2.length : Int) + 1 + 1 = 1) := by omega
        simp [GoLite.idPure, h1]

-- as above
set_option linter.unusedSimpArgs false in
/-- TIE (translated source): `getSignatureBlobDesc` decides, for every world on an OCI layout (the target is
not a remote `registry.Repository`), exactly the manifest part of `decideFetch`: media type, manifest cap
(both before the fetch), then exactly one layer / blob, which it returns. -/
theorem source_getSignatureBlobDesc_refines_model (w : World) (c : repositoryClient) (d : ocispec.Descriptor)
    (hl : w.isRepository = false) (hc : c.GraphTarget = .direct) :
    ((getSignatureBlobDesc w c d).2.isSome, (getSignatureBlobDesc w c d).1) =
      match decideFetch (d.MediaType == artifactspec.MediaTypeArtifactManifest || d.MediaType == ocispec.MediaTypeImageManifest)
          (decide (d.Size > maxManifestSizeLimit)) (srcManifest w .direct d) (fun _ => false) (fun _ => true) with
      | .ok l => (false, l)
      | .refuse _ _ => (true, default) := by
  unfold getSignatureBlobDesc
  simp only [Id.run, World.asRepository, hl, hc, Bool.false_eq_true, if_false, World.Unmarshal, Decode.decode]
  by_cases hmt : (d.MediaType != artifactspec.MediaTypeArtifactManifest && d.MediaType != ocispec.MediaTypeImageManifest) = true
  · have : (d.MediaType == artifactspec.MediaTypeArtifactManifest || d.MediaType == ocispec.MediaTypeImageManifest) = false := by
      simpa [bne] using hmt
    rw [if_pos ?c, decideFetch_refuse _ _ _ _ _ (Or.inl this)]
    case c => simpa only [bne_comm (a := artifactspec.MediaTypeArtifactManifest), bne_comm (a := ocispec.MediaTypeImageManifest)] using hmt
    rfl
  · rw [if_neg ?c]
    case c => simpa only [bne_comm (a := artifactspec.MediaTypeArtifactManifest), bne_comm (a := ocispec.MediaTypeImageManifest)] using hmt
    have hok : (d.MediaType == artifactspec.MediaTypeArtifactManifest || d.MediaType == ocispec.MediaTypeImageManifest) = true := by
      cases h1 : d.MediaType == artifactspec.MediaTypeArtifactManifest <;>
        cases h2 : d.MediaType == ocispec.MediaTypeImageManifest <;> simp [bne, h1, h2] at hmt ⊢
    by_cases hbig : decide (d.Size > maxManifestSizeLimit) = true
    · rw [if_pos hbig, decideFetch_refuse _ _ _ _ _ (Or.inr hbig)]
      rfl
    · rw [if_neg hbig]
      by_cases hf : (w.FetchAll .direct d).2.isSome = true
      · rw [if_pos hf]
        simp only [decideFetch, srcManifest, hok, hbig, hf, Bool.not_true, Bool.false_eq_true, if_false, if_true]
        exact congrArg (·, default) hf
      · rw [if_neg hf]
        by_cases hI : (d.MediaType == ocispec.MediaTypeImageManifest) = true
        · rw [if_pos ?c]
          case c => simpa only [BEq.comm (a := ocispec.MediaTypeImageManifest)] using hI
          exact blob_case w d _ _ _ (by simp [GoLite.len, eq_comm (a := (1 : Int))]) hok hbig
            (by simp only [srcManifest, hf, hI, Bool.false_eq_true, if_false, if_true])
        · rw [if_neg ?c]
          case c => simpa only [BEq.comm (a := ocispec.MediaTypeImageManifest)] using hI
          exact blob_case w d _ _ _ (by simp [GoLite.len, eq_comm (a := (1 : Int))]) hok hbig
            (by simp only [srcManifest, hf, hI, Bool.false_eq_true, if_false])

/-- TIE (translated source): `FetchSignatureBlob` on an OCI layout computes, for EVERY world, the decision
`decideFetch` of what the world answers - the same function the model's `fetchSig` computes of what
its state answers (`model_fetchSig_is_decideFetch`): refused unless the descriptor has a manifest media
type within the manifest cap, the manifest can be fetched and decoded, it has exactly one layer /
blob, that layer's declared size is within the blob cap and the blob can be fetched; then the bytes
fetched for exactly that layer descriptor and that descriptor are returned. -/
theorem source_FetchSignatureBlob_refines_model (w : World) (c : repositoryClient) (d : ocispec.Descriptor)
    (hl : w.isRepository = false) (hc : c.GraphTarget = .direct) :
    fetchShape (FetchSignatureBlob w c d) = renderSrc w (srcFetchDec w d) := by
  have hg := source_getSignatureBlobDesc_refines_model w c d hl hc
  unfold FetchSignatureBlob srcFetchDec
  rw [decideFetch_split]
  generalize getSignatureBlobDesc w c d = g at hg ⊢
  obtain ⟨gd, ge⟩ := g
  simp only [Id.run, World.asRepository, hl, hc, RemoteRepo.Blobs]
  cases hD : decideFetch (d.MediaType == artifactspec.MediaTypeArtifactManifest || d.MediaType == ocispec.MediaTypeImageManifest)
      (decide (d.Size > maxManifestSizeLimit)) (srcManifest w .direct d) (fun _ => false) (fun _ => true) with
  | refuse x y =>
    rw [hD] at hg
    simp only [Prod.mk.injEq] at hg
    simp [hg.1, fetchShape, renderSrc, GoLite.idPure]
  | ok l =>
    rw [hD] at hg
    simp only [Prod.mk.injEq] at hg
    obtain ⟨hne, rfl⟩ := hg
    by_cases hb : gd.Size > maxBlobSizeLimit
    · simp [hne, hb, fetchShape, renderSrc, GoLite.idPure]
    · cases hf : (w.FetchAll .direct gd).2 <;> simp [hne, hb, hf, fetchShape, renderSrc, GoLite.idPure]

/-- refused BEFORE the blob is read: a manifest that does not carry exactly one layer, or whose layer is
declared over the blob cap, is refused whatever fetching the blob would give -/
theorem hostile_decided_before_blob_fetch {α : Type} (a b : Bool) (ls : List α) (oc bo bo' : α → Bool)
    (h : ls.length ≠ 1 ∨ ls.any oc = true) :
    decideFetch a b (some ls) oc bo = decideFetch a b (some ls) oc bo' ∧
    (a = true → b = false → decideFetch a b (some ls) oc bo = .refuse true false) := by
  cases a <;> cases b <;> simp [decideFetch_refuse, decideFetch_hostile (h := h)]

/-- ... and a descriptor of another media type or over the manifest cap before anything is read -/
theorem descriptor_decided_before_any_fetch {α : Type} (a b : Bool) (m m' : Option (List α)) (oc bo bo' : α → Bool)
    (h : a = false ∨ b = true) :
    decideFetch a b m oc bo = .refuse false false ∧ decideFetch a b m' oc bo' = .refuse false false :=
  ⟨decideFetch_refuse _ _ _ _ _ h, decideFetch_refuse _ _ _ _ _ h⟩

def fetchWorld (layers : List ocispec.Descriptor) : World :=
  { (default : World) with
    FetchAll := fun _ n => (⟨n.Size.toNat⟩, if n.Digest == "sha256:missing" then some ⟨"notfound"⟩ else none),
    decodeManifest := fun _ _ => ({ (default : ocispec.Manifest) with Layers := layers }, none) }
def envDesc (size : Int) : ocispec.Descriptor := { MediaType := "application/jose+json", Digest := "sha256:e", Size := size }

example : fetchShape (FetchSignatureBlob (fetchWorld [envDesc 100]) {} demoDesc) = (some ⟨100⟩, envDesc 100, false) := by decide +kernel
example : fetchShape (FetchSignatureBlob (fetchWorld [envDesc 100, envDesc 7]) {} demoDesc) = (none, default, true) := by decide +kernel
example : fetchShape (FetchSignatureBlob (fetchWorld [envDesc (maxBlobSizeLimit + 1)]) {} demoDesc) = (none, default, true) := by decide +kernel
example : fetchShape (FetchSignatureBlob (fetchWorld [envDesc 100]) {} { demoDesc with Size := maxManifestSizeLimit + 1 }) =
    (none, default, true) := by decide +kernel

/-! #### the push: what goes into the packed manifest -/

/-- the config descriptor every signature manifest gets: its media type is the model's `notationType`
(what `signatureReferrers` later reads as the artifact type of an image manifest) -/
theorem config_is_notation_type : notationEmptyConfigDesc.MediaType = notationType := by decide +kernel

/-- TIE (translated source): `pushNotationManifestConfig` succeeds - with exactly `notationEmptyConfigDesc` -
iff the existence check works and the config is there, or can be pushed, or the push says
"already exists" (a concurrent first push won the race; the model's concurrency stage relies on it). -/
theorem source_pushNotationManifestConfig_refines_model (w : World) (p : Via) :
    pushNotationManifestConfig w p =
      if (w.Exists notationEmptyConfigDesc).2.isSome then (default, some (GoLite.wrapf "" (w.Exists notationEmptyConfigDesc).2))
      else if (w.Exists notationEmptyConfigDesc).1 then (notationEmptyConfigDesc, none)
      else if (w.Push notationEmptyConfigDesc notationEmptyConfigData).isSome &&
              !(w.Push notationEmptyConfigDesc notationEmptyConfigData == some errdef.ErrAlreadyExists) then
        (default, some (GoLite.wrapf "" (w.Push notationEmptyConfigDesc notationEmptyConfigData)))
      else (notationEmptyConfigDesc, none) := by
  unfold pushNotationManifestConfig
  generalize w.Exists notationEmptyConfigDesc = ex
  obtain ⟨x, xe⟩ := ex
  cases xe with
  | some e0 => rfl
  | none => cases x <;> rfl

/-- what the model stores for a push (`mkManifest`, kind push), as pack options -/
def modelPackOptions (subject blobDesc : ocispec.Descriptor) (annotations : GoLite.Map String String) : oras.PackManifestOptions :=
  { Subject := some subject, ManifestAnnotations := annotations, Layers := [blobDesc], ConfigDescriptor := some notationEmptyConfigDesc }

/-- TIE (translated source): `uploadSignatureManifest` packs an OCI 1.1 manifest without an `artifactType`
whose subject is the given subject, whose only layer is the given blob descriptor, whose annotations are the
given ones and whose config is the notation config - what the model's `mkManifest` stores for a push
(`oras.PackManifest` adds `created`, the model's `ensureCreated`) - or fails because the config could not be pushed. -/
theorem source_uploadSignatureManifest_refines_model (w : World) (c : repositoryClient) (subject blobDesc : ocispec.Descriptor)
    (annotations : GoLite.Map String String) :
    uploadSignatureManifest w c subject blobDesc annotations =
      if (pushNotationManifestConfig w c.GraphTarget).2.isSome then
        (default, some (GoLite.wrapf "" (pushNotationManifestConfig w c.GraphTarget).2))
      else w.PackManifest c.GraphTarget oras.PackManifestVersion1_1 ""
        { modelPackOptions subject blobDesc annotations with ConfigDescriptor := some (pushNotationManifestConfig w c.GraphTarget).1 } := by
  unfold uploadSignatureManifest
  generalize pushNotationManifestConfig w c.GraphTarget = r
  obtain ⟨cd, ce⟩ := r
  cases ce <;> rfl

/-- TIE (translated source): `PushSignature` on an OCI layout pushes the envelope first and gives up when that fails
(the model's "already exists" for known bytes: nothing else changes); otherwise it uploads a manifest for exactly
the descriptor `oras.PushBytes` returned, the given subject and annotations, and returns both descriptors. -/
theorem source_PushSignature_refines_model (w : World) (c : repositoryClient) (mediaType : String) (blob : Bytes)
    (subject : ocispec.Descriptor) (annotations : GoLite.Map String String) (hl : w.isRepository = false) :
    PushSignature w c mediaType blob subject annotations =
      let b := w.PushBytes c.GraphTarget mediaType blob
      if b.2.isSome then (default, default, b.2)
      else
        let m := uploadSignatureManifest w c subject b.1 annotations
        if m.2.isSome then (default, default, m.2) else (b.1, m.1, none) := by
  unfold PushSignature
  generalize hb : w.PushBytes c.GraphTarget mediaType blob = b
  simp only [Id.run, World.asRepository, hl, hb]
  obtain ⟨bd, be⟩ := b
  by_cases h1 : be.isSome = true
  · simp [h1, GoLite.idPure]
  · generalize uploadSignatureManifest w c subject bd annotations = m
    obtain ⟨md, me⟩ := m
    cases me <;> simp [h1, GoLite.idPure]

end Tie

end NotationModel.C19
