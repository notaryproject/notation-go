/-
C03 - `verifyAuthenticity` (verifier/verifier.go) translated on every run (Generated/SrcC03v.lean; it is
what the translator's type-switch rule serves) and tied for every list of trust certificates,
every outcome and every behaviour of notation-core-go's `signature.VerifyAuthenticity`:

* the authenticity validation passes exactly when the list of trust certificates handed in is
  NOT EMPTY and the library finds the chain authentic AGAINST THAT LIST - nothing else is consulted
  (no certificate pool of the system, no cache, no second list);
* an empty list fails closed before the library is asked; every error of the library is a failed
  result, whatever its kind; the result carries type authenticity and the action of the level.
The library's verdict is an oracle here (`SignerInfo.verify`); that it means "some certificate of the chain
is identical to one of the list" (the model's `authentic`) is the assumption about notation-core-go recorded
in `Model/C03.lean`. Which certificates are in the list is the business of the trust-store ties of `Props/C03.lean`
(`source_loadX509TrustStores_refines_model`: only the stores the statement lists, typed by scheme).
-/
import NotationModel.Generated.SrcC03v

namespace NotationModel.C03.TieA
open NotationModel.Src

def actionOf (outcome : c03v.VerificationOutcome) : trustpolicy.ValidationAction :=
  GoLite.Map.get outcome.VerificationLevel.Enforcement trustpolicy.TypeAuthenticity

/-- **Tie.** Passing = a non-empty list and the library's verdict on exactly that list. -/
theorem source_verifyAuthenticity_passes_iff (trustCerts : List x509.Certificate)
    (outcome : c03v.VerificationOutcome) :
    (c03v.verifyAuthenticity trustCerts outcome).Error = none ↔
      trustCerts ≠ [] ∧ outcome.EnvelopeContent.SignerInfo.verify trustCerts = none := by
  unfold c03v.verifyAuthenticity
  cases trustCerts with
  | nil => simp [Id.run, GoLite.idPure, GoLite.len_lt_one]
  | cons c cs =>
    cases hv : outcome.EnvelopeContent.SignerInfo.verify (c :: cs) with
    | none =>
      simp [Id.run, GoLite.idPure, GoLite.len_lt_one, c03v.VerifyAuthenticity, hv]
      rfl  -- what is left: the default `ValidationResult` has `Error := none`
    | some e =>
      by_cases hk : c03v.isAuthenticityError (some e) = true <;>
        simp [Id.run, GoLite.idPure, GoLite.len_lt_one, c03v.VerifyAuthenticity, hv, hk]

/-- **An empty list of trust certificates fails closed**, whatever the library would say. -/
theorem source_verifyAuthenticity_empty_fails (outcome : c03v.VerificationOutcome) :
    (c03v.verifyAuthenticity [] outcome).Error.isSome := by
  have := source_verifyAuthenticity_passes_iff [] outcome
  cases h : (c03v.verifyAuthenticity [] outcome).Error <;> simp_all

/-- the result carries type authenticity and the action the level gives it -/
theorem source_verifyAuthenticity_type_action (trustCerts : List x509.Certificate)
    (outcome : c03v.VerificationOutcome) :
    (c03v.verifyAuthenticity trustCerts outcome).«Type» = trustpolicy.TypeAuthenticity ∧
      (c03v.verifyAuthenticity trustCerts outcome).Action = actionOf outcome := by
  unfold c03v.verifyAuthenticity
  simp only [Id.run]
  -- the four returns
  split
  · exact ⟨rfl, rfl⟩
  split
  · split <;> exact ⟨rfl, rfl⟩
  · exact ⟨rfl, rfl⟩

/-- **Only the list handed in matters**: two outcomes whose signer infos answer alike on this list
get the same verdict (no other source of trust is consulted). -/
theorem source_verifyAuthenticity_only_this_list (trustCerts : List x509.Certificate)
    (o1 o2 : c03v.VerificationOutcome)
    (h : o1.EnvelopeContent.SignerInfo.verify trustCerts = o2.EnvelopeContent.SignerInfo.verify trustCerts) :
    ((c03v.verifyAuthenticity trustCerts o1).Error = none ↔ (c03v.verifyAuthenticity trustCerts o2).Error = none) := by
  simp [source_verifyAuthenticity_passes_iff, h]

end NotationModel.C03.TieA
