/-
C18 - The signer never returns plugin output it has not checked against the request.
The property of the model (`Model/C18.lean`; main theorem `model_holds`), the duplicate-name scanner as a
token machine, and the tie of the translated Go functions to the model (namespace `Tie`).
-/
import NotationModel.Model.C18
import NotationModel.Generated.SrcC18
import NotationModel.Generated.SrcC18b
import NotationModel.Generated.SrcC18c

namespace NotationModel.C18

/-! ### lists and Booleans -/

theorem lookup_mem {α β : Type} [BEq α] [LawfulBEq α] (l : List (α × β)) (a : α) (b : β)
    (h : l.lookup a = some b) : (a, b) ∈ l := by
  induction l with
  | nil => cases h
  | cons p r ih =>
    obtain ⟨k, v⟩ := p
    rw [List.lookup_cons] at h
    split at h
    next hk =>
      cases h
      rw [beq_iff_eq.1 hk]
      exact List.mem_cons_self
    next => exact List.mem_cons_of_mem _ (ih h)

theorem isEmpty_filter_not {α : Type} (p : α → Bool) (l : List α) :
    (l.filter fun x => !p x).isEmpty = l.all p := by
  induction l with
  | nil => rfl
  | cons a l ih => rw [List.filter_cons, List.all_cons]; cases p a <;> simp [ih]

theorem isEmpty_append {α : Type} (a b : List α) : (a ++ b).isEmpty = (a.isEmpty && b.isEmpty) := by
  cases a <;> rfl

theorem all_beq_of_not_contains (k : String) (l : List String) (h : l.contains k = false) :
    l.all (· == k) = l.isEmpty := by
  cases l with
  | nil => rfl
  | cons a r =>
    rw [List.contains_cons, Bool.or_eq_false_iff, BEq.comm] at h
    rw [List.all_cons, h.1]
    rfl

theorem any_or {α : Type} (l : List α) (p q : α → Bool) : l.any (fun x => p x || q x) = (l.any p || l.any q) := by
  induction l with
  | nil => rfl
  | cons a l ih => simp only [List.any_cons, ih]; cases p a <;> cases q a <;> cases l.any p <;> cases l.any q <;> rfl

theorem bne_or_of_imp {α : Type} [DecidableEq α] {a b : α} {c : Bool} (h : a = b → c = true) :
    (a != b || c) = true := by
  by_cases e : a = b
  · rw [h e, Bool.or_true]
  · simp [e]

theorem mem_zip_map_self {α β : Type} (f : α → β) (l : List α) (p : β × α) (hp : p ∈ (l.map f).zip l) :
    p.1 = f p.2 := by
  induction l with
  | nil => cases hp
  | cons a l ih =>
    rcases List.mem_cons.1 hp with rfl | hp
    · rfl
    · exact ih hp

/-! ### facts regenerated from the Go source -/

theorem target_key_fact : Facts.c18TargetKey = "targetArtifact" := rfl
theorem payload_fields_fact : Facts.c18PayloadFields = ["targetArtifact"] := rfl
theorem payload_type_fact :
    Facts.c18MediaTypePayloadV1 = "application/vnd.cncf.notary.payload.v1+json" := rfl
/-- the keys the scan treats as known are exactly the JSON names of `ocispec.Descriptor` -/
theorem known_keys_fact :
    Facts.c18KnownDescriptorKeys.all descFields.contains = true ∧
    descFields.all Facts.c18KnownDescriptorKeys.contains = true := by decide +kernel
theorem isKnownKey_eq (k : String) : isKnownKey k = descFields.contains k := by
  rw [isKnownKey, Bool.eq_iff_iff, List.contains_iff_mem, List.contains_iff_mem]
  exact ⟨fun h => List.contains_iff_mem.1 (List.all_eq_true.1 known_keys_fact.1 k h),
    fun h => List.contains_iff_mem.1 (List.all_eq_true.1 known_keys_fact.2 k h)⟩

theorem sanitized_fields_fact :
    Facts.c18SanitizedFields = ["MediaType", "Digest", "Size", "Annotations"] := rfl

/-- generateSignatureEnvelope rejects duplicate member names, and does so after the struct decode
and before the descriptor comparison and the unknown-field scan (`idxOf` of an absent name is the length) -/
theorem duplicate_check_fact :
    Facts.c18EnvelopeChecks.idxOf "json.Unmarshal" < Facts.c18EnvelopeChecks.idxOf "findDuplicateKey" ∧
    Facts.c18EnvelopeChecks.idxOf "findDuplicateKey" <
      Facts.c18EnvelopeChecks.idxOf "isPayloadDescriptorValid" ∧
    Facts.c18EnvelopeChecks.idxOf "findDuplicateKey" <
      Facts.c18EnvelopeChecks.idxOf "areUnknownAttributesAdded" ∧
    Facts.c18EnvelopeChecks.idxOf "sigEnv.Verify" < Facts.c18EnvelopeChecks.idxOf "json.Unmarshal" ∧
    Facts.c18EnvelopeChecks.idxOf "areUnknownAttributesAdded" < Facts.c18EnvelopeChecks.length ∧
    Facts.c18EnvelopeChecks.idxOf "isPayloadDescriptorValid" < Facts.c18EnvelopeChecks.length := by
  decide +kernel

/-! ### codec lemmas over the regenerated tables -/

theorem decode_encode_keySpec (k : KS) :
    (encodeKeySpec k.spec).bind decodeKeySpec = some k.spec := by
  cases k <;> decide +kernel

theorem encode_decode_keySpec (s : String) (ks : Spec) (h : decodeKeySpec s = some ks) :
    encodeKeySpec ks = some s := by
  have hall : ∀ p ∈ Facts.c18DecodeKeySpec, encodeKeySpec p.2 = some p.1 := by decide +kernel
  exact hall (s, ks) (lookup_mem _ _ _ h)

theorem decodeKeySpec_range (s : String) (ks : Spec) (h : decodeKeySpec s = some ks) :
    ∃ k : KS, ks = k.spec := by
  have hall : ∀ p ∈ Facts.c18DecodeKeySpec,
      p.2 = KS.rsa2048.spec ∨ p.2 = KS.rsa3072.spec ∨ p.2 = KS.rsa4096.spec ∨
      p.2 = KS.ec256.spec ∨ p.2 = KS.ec384.spec ∨ p.2 = KS.ec521.spec := by decide +kernel
  rcases hall (s, ks) (lookup_mem _ _ _ h) with h | h | h | h | h | h <;> exact ⟨_, h⟩

theorem sigAlg_roundtrip (k : KS) :
    ∃ a, sigAlgOf k.spec = some a ∧ (encodeSigAlg a).bind decodeSigAlg = some a := by
  cases k <;> refine ⟨_, rfl, ?_⟩ <;> decide +kernel

theorem sigAlgOf_injective (k k' : KS) (h : sigAlgOf k.spec = sigAlgOf k'.spec) : k = k' := by
  -- among the six key specs, the first one with the algorithm of `k` is `k` itself
  have inv : ∀ k : KS, [KS.rsa2048, .rsa3072, .rsa4096, .ec256, .ec384, .ec521].find?
      (fun x => sigAlgOf x.spec == sigAlgOf k.spec) = some k := by
    intro k; cases k <;> decide +kernel
  have := inv k
  rw [h, inv k'] at this
  exact (Option.some.inj this).symm

/-- **codec**: the hash `HashAlgorithmFromKeySpec` requests from the plugin is the hash of the
key spec's signature algorithm -/
theorem hash_bound_to_keySpec (k : KS) :
    ∃ a h, sigAlgOf k.spec = some a ∧ hashOfAlg a = some h ∧ hashFromKeySpec k.spec = some h.2 := by
  cases k <;> exact ⟨_, _, rfl, rfl, rfl⟩

theorem blobDigestAlg_total (k : KS) : (blobDigestAlg k.spec).isSome = true := by
  cases k <;> decide +kernel

theorem spec_facts (k : KS) :
    ∃ e h a, encodeKeySpec k.spec = some e ∧ hashFromKeySpec k.spec = some h ∧
      sigAlgOf k.spec = some a := by
  obtain ⟨a, h, ha, _, hh⟩ := hash_bound_to_keySpec k
  cases he : encodeKeySpec k.spec with
  | some e => exact ⟨e, h.2, a, rfl, hh, ha⟩
  | none =>
    have := decode_encode_keySpec k
    rw [he] at this
    cases this

/-! ### member lookups -/

theorem keysOf_cons (k : String) (v : JVal) (r : Members) : keysOf ((k, v) :: r) = k :: keysOf r := rfl

theorem nodupB_keysOf_cons (k : String) (v : JVal) (r : Members) :
    nodupB (keysOf ((k, v) :: r)) = true ↔ (keysOf r).contains k = false ∧ nodupB (keysOf r) = true := by
  simp only [keysOf_cons, nodupB, Bool.and_eq_true, Bool.not_eq_true']

theorem lookupLast_eq_none_iff (k : String) (m : Members) :
    lookupLast k m = none ↔ (keysOf m).contains k = false := by
  induction m with
  | nil => exact ⟨fun _ => rfl, fun _ => rfl⟩
  | cons p r ih =>
    obtain ⟨k', v⟩ := p
    rw [keysOf_cons, List.contains_cons, Bool.or_eq_false_iff, ← ih, lookupLast]
    cases lookupLast k r <;> simp [BEq.comm (a := k)]

theorem lookupLast_cons_self (k : String) (v : JVal) (r : Members)
    (h : (keysOf r).contains k = false) : lookupLast k ((k, v) :: r) = some v := by
  rw [lookupLast, (lookupLast_eq_none_iff k r).2 h]
  exact if_pos (beq_self_eq_true k)

theorem lookupLast_cons_ne (k k' : String) (v : JVal) (r : Members) (h : k' ≠ k) :
    lookupLast k ((k', v) :: r) = lookupLast k r := by
  rw [lookupLast]
  cases lookupLast k r with
  | some w => rfl
  | none => exact if_neg (by simpa using h)

theorem mem_of_lookupLast (k : String) (m : Members) (v : JVal) (h : lookupLast k m = some v) :
    (k, v) ∈ m := by
  induction m with
  | nil => cases h
  | cons q r ih =>
    obtain ⟨k', v'⟩ := q
    rw [lookupLast] at h
    cases hr : lookupLast k r with
    | some w =>
      rw [hr] at h
      cases h
      exact List.mem_cons_of_mem _ (ih hr)
    | none =>
      rw [hr] at h
      by_cases hk : (k' == k) = true
      · rw [if_pos hk] at h
        cases h
        rw [beq_iff_eq.1 hk]
        exact List.mem_cons_self
      · rw [if_neg hk] at h
        cases h

theorem lookupFirst_eq_lookupLast (k : String) (m : Members) (h : nodupB (keysOf m) = true) :
    lookupFirst k m = lookupLast k m := by
  induction m with
  | nil => rfl
  | cons p r ih =>
    obtain ⟨k', v⟩ := p
    obtain ⟨hnot, hr⟩ := (nodupB_keysOf_cons k' v r).1 h
    by_cases hk : k' = k
    · subst hk
      rw [lookupLast_cons_self k' v r hnot]
      simp [lookupFirst, List.lookup]
    · rw [lookupLast_cons_ne k k' v r hk, ← ih hr]
      have : (k == k') = false := by simpa using fun e => hk e.symm
      simp [lookupFirst, List.lookup, this]

/-! ### the Go struct decoder on a descriptor object with known, distinct member names -/

/-- the decoder's effect on one field: `o`, the member of the field's name if any, decoded into the current value -/
def fieldBy {α : Type} (dec : α → JVal → Option α) (cur : α) : Option JVal → Option α
  | none => some cur
  | some v => dec cur v

theorem known_cases (k : String) (hk : isKnownKey k = true) :
    k = "mediaType" ∨ k = "digest" ∨ k = "size" ∨ k = "urls" ∨ k = "annotations" ∨ k = "data" ∨
    k = "platform" ∨ k = "artifactType" := by
  rw [isKnownKey_eq] at hk
  simpa [descFields] using hk

theorem matchField_known (k : String) (hk : isKnownKey k = true) : matchField descFields k = some k := by
  rw [isKnownKey_eq] at hk
  rw [matchField, if_pos hk]

/-- a member with a known (exactly spelled) name touches its own field only -/
theorem decDescField_spec (cur c : GoDesc) (k : String) (v : JVal) (hk : isKnownKey k = true)
    (h : decDescField cur k v = some c) :
    (if k = "mediaType" then decStr cur.mediaType v = some c.mediaType else c.mediaType = cur.mediaType) ∧
    (if k = "digest" then decStr cur.digest v = some c.digest else c.digest = cur.digest) ∧
    (if k = "size" then decInt64 cur.size v = some c.size else c.size = cur.size) ∧
    (if k = "annotations" then decAnnotations cur.annotations v = some c.annotations
      else c.annotations = cur.annotations) := by
  rw [decDescField, matchField_known k hk] at h
  rcases known_cases k hk with h' | h' | h' | h' | h' | h' | h' | h' <;> subst h' <;> simp at h
  · obtain ⟨s, hs, rfl⟩ := h; simp [hs]
  · obtain ⟨s, hs, rfl⟩ := h; simp [hs]
  · obtain ⟨s, hs, rfl⟩ := h; simp [hs]
  · obtain ⟨_, rfl⟩ := h; simp
  · obtain ⟨s, hs, rfl⟩ := h; simp [hs]
  · obtain ⟨_, rfl⟩ := h; simp
  · obtain ⟨_, rfl⟩ := h; simp
  · obtain ⟨_, rfl⟩ := h; simp

theorem field_step {α : Type} (dec : α → JVal → Option α)
    {f k : String} {v : JVal} {rest : Members} {curf cf rf : α}
    (hnot : (keysOf rest).contains k = false)
    (hA : if k = f then dec curf v = some cf else cf = curf)
    (hIH : fieldBy dec cf (lookupLast f rest) = some rf) :
    fieldBy dec curf (lookupLast f ((k, v) :: rest)) = some rf := by
  by_cases hkf : k = f
  · subst hkf
    rw [if_pos rfl] at hA
    rw [(lookupLast_eq_none_iff k rest).2 hnot] at hIH
    rw [lookupLast_cons_self k v rest hnot, ← hIH]
    exact hA
  · rw [if_neg hkf] at hA
    rw [lookupLast_cons_ne f k v rest hkf, ← hA]
    exact hIH

theorem decDescFields_spec (d : Members) (cur r : GoDesc)
    (hk : (keysOf d).all isKnownKey = true) (hn : nodupB (keysOf d) = true) (h : decDescFields cur d = some r) :
    fieldBy decStr cur.mediaType (lookupLast "mediaType" d) = some r.mediaType ∧
    fieldBy decStr cur.digest (lookupLast "digest" d) = some r.digest ∧
    fieldBy decInt64 cur.size (lookupLast "size" d) = some r.size ∧
    fieldBy decAnnotations cur.annotations (lookupLast "annotations" d) = some r.annotations := by
  induction d generalizing cur with
  | nil =>
    cases h
    exact ⟨rfl, rfl, rfl, rfl⟩
  | cons p rest ih =>
    obtain ⟨k, v⟩ := p
    obtain ⟨hnot, hn'⟩ := (nodupB_keysOf_cons k v rest).1 hn
    rw [keysOf_cons, List.all_cons, Bool.and_eq_true] at hk
    rw [decDescFields] at h
    cases hc : decDescField cur k v with
    | none => rw [hc] at h; cases h
    | some c =>
      rw [hc] at h
      obtain ⟨i1, i2, i3, i4⟩ := ih c hk.2 hn' h
      obtain ⟨a1, a2, a3, a4⟩ := decDescField_spec cur c k v hk.1 hc
      exact ⟨field_step decStr hnot a1 i1, field_step decStr hnot a2 i2, field_step decInt64 hnot a3 i3,
        field_step decAnnotations hnot a4 i4⟩

theorem fieldBy_decStr (o : Option JVal) : fieldBy decStr "" o = exactStr o := by
  cases o with
  | none => rfl
  | some v => cases v <;> rfl

theorem fieldBy_decInt64 (o : Option JVal) (n : Int) (h : fieldBy decInt64 0 o = some n) :
    exactInt o = some n := by
  cases o with
  | none => exact h
  | some v =>
    cases v with
    | num m =>
      simp only [fieldBy, decInt64] at h
      split at h
      · exact h
      · cases h
    | null | bool _ | str _ | arr _ | obj _ => exact h

theorem fieldBy_decAnnotations (o : Option JVal) : fieldBy decAnnotations [] o = exactAnn o := by
  cases o with
  | none => rfl
  | some v => cases v <;> rfl

theorem exactDesc_agrees (d : Members) (r : GoDesc)
    (hk : (keysOf d).all isKnownKey = true) (hn : nodupB (keysOf d) = true)
    (h : decDescFields {} d = some r) : exactDescBy lookupLast d = some r := by
  obtain ⟨h1, h2, h3, h4⟩ := decDescFields_spec d {} r hk hn h
  rw [fieldBy_decStr] at h1 h2
  rw [fieldBy_decAnnotations] at h4
  simp only [exactDescBy, h1, h2, fieldBy_decInt64 _ _ h3, h4]

/-! ### the whole payload -/

theorem top_shape (kvs : Members) (ht : (keysOf kvs).all (· == "targetArtifact") = true)
    (hn : nodupB (keysOf kvs) = true) : kvs = [] ∨ ∃ v, kvs = [("targetArtifact", v)] := by
  cases kvs with
  | nil => exact .inl rfl
  | cons p rest =>
    obtain ⟨k, v⟩ := p
    obtain ⟨hnot, _⟩ := (nodupB_keysOf_cons k v rest).1 hn
    rw [keysOf_cons, List.all_cons, Bool.and_eq_true, beq_iff_eq] at ht
    obtain ⟨rfl, hrest⟩ := ht
    -- a second member would bear the same name
    rw [all_beq_of_not_contains _ _ hnot] at hrest
    cases rest with
    | nil => exact .inr ⟨v, rfl⟩
    | cons q r2 => cases hrest

theorem exactDescBy_first (d : Members) (hn : nodupB (keysOf d) = true) :
    exactDescBy lookupFirst d = exactDescBy lookupLast d := by
  simp only [exactDescBy, lookupFirst_eq_lookupLast _ d hn]

theorem goDecodePayload_single (v : JVal) :
    goDecodePayload (.obj [("targetArtifact", v)]) = decDesc {} v := by
  have : matchField Facts.c18PayloadFields "targetArtifact" = some "targetArtifact" := by decide +kernel
  rw [goDecodePayload, decPayloadFields, this]
  cases decDesc {} v <;> rfl

/-- **every reader sees the same descriptor**: when the payload carries only the exactly spelled
key `targetArtifact`, its object only known descriptor keys, and no member name is duplicated,
then a last-wins exact-key reader and a first-wins exact-key reader read exactly what the Go
struct decoder (exact name, else case-insensitive, merging) reads -/
theorem views_agree (p : JVal) (r : GoDesc) (ht : topKeysExact p = true)
    (hk : descKeysKnown p = true) (hd : hasDup p = false) (h : goDecodePayload p = some r) :
    exactView p = some r ∧ firstView p = some r := by
  cases p with
  | null =>
    cases h
    exact ⟨rfl, rfl⟩
  | bool _ | num _ | str _ | arr _ => cases h
  | obj kvs =>
    rw [hasDup, Bool.or_eq_false_iff, Bool.not_eq_false'] at hd
    obtain ⟨hn, hd2⟩ := hd
    rcases top_shape kvs ht hn with rfl | ⟨v, rfl⟩
    · cases h
      exact ⟨rfl, rfl⟩
    · have hl : lookupLast "targetArtifact" [("targetArtifact", v)] = some v := lookupLast_cons_self _ v [] rfl
      rw [hl] at hd2
      rw [descKeysKnown, hl] at hk
      rw [goDecodePayload_single] at h
      cases v with
      | obj d =>
        have hnd : nodupB (keysOf d) = true := by simpa using hd2
        have hk' : (keysOf d).all isKnownKey = true := by rwa [funext isKnownKey_eq]
        have := exactDesc_agrees d r hk' hnd h
        refine ⟨by simp only [exactView, exactViewBy, hl, this], ?_⟩
        simp only [firstView, exactViewBy, lookupFirst_eq_lookupLast _ _ hn, hl, exactDescBy_first d hnd, this]
      | null | bool _ | num _ | str _ | arr _ => cases hk

/-! ### the unknown-field scan -/

def scanClean : Scan → Bool
  | .panic => false
  | .unknown ks => ks.isEmpty

/-- with the checked assertion the scan cannot panic - for ANY document -/
theorem scan_checked_ne_panic (p : JVal) : scanUnknown true p ≠ .panic := by
  cases p with
  | obj kvs => simp only [scanUnknown]; split <;> simp
  | null | bool _ | num _ | str _ | arr _ => simp [scanUnknown]

/-- the defect repaired by 105e86f, in the model: with an unchecked assertion a payload spelled
`TargetArtifact` reaches the panic -/
theorem unchecked_assertion_panics :
    (match scanUnknown false (.obj [("TargetArtifact", .obj [])]) with | .panic => true | _ => false) = true := by
  decide +kernel

theorem scan_checked_iff (p : JVal) :
    scanClean (scanUnknown true p) = (topKeysExact p && descKeysKnown p) := by
  cases p with
  | obj kvs =>
    simp only [scanUnknown, target_key_fact, topKeysExact, descKeysKnown]
    cases hl : lookupLast "targetArtifact" kvs with
    | none =>
      simp only [if_true, scanClean, Bool.and_true]
      exact (all_beq_of_not_contains _ _ ((lookupLast_eq_none_iff _ _).1 hl)).symm
    | some v =>
      cases v with
      | obj d =>
        have : isKnownKey = descFields.contains := funext isKnownKey_eq
        simp only [scanClean, isEmpty_append, isEmpty_filter_not, bne, this, Bool.and_comm]
      | null | bool _ | num _ | str _ | arr _ =>
        have hne : (keysOf kvs).isEmpty = false := by
          cases kvs with
          | nil => cases hl
          | cons q r => rfl
        simp only [if_true, scanClean, hne, Bool.and_false]
  | null | bool _ | num _ | str _ | arr _ => rfl

/-! ### duplicate member names -/

theorem dupInMembers_false (kvs : Members) (h : dupInMembers kvs = false) :
    ∀ kv ∈ kvs, kv.2.dupDeep = false := by
  induction kvs with
  | nil => intro kv hkv; cases hkv
  | cons q r ih =>
    simp only [dupInMembers, Bool.or_eq_false_iff] at h
    intro kv hkv
    rcases List.mem_cons.1 hkv with rfl | hkv
    · exact h.1
    · exact ih h.2 kv hkv

theorem hasDup_of_dupDeep (p : JVal) (h : p.dupDeep = false) : hasDup p = false := by
  cases p with
  | obj kvs =>
    simp only [JVal.dupDeep, Bool.or_eq_false_iff, Bool.not_eq_false'] at h
    obtain ⟨hn, hm⟩ := h
    simp only [hasDup, Bool.or_eq_false_iff, Bool.not_eq_false']
    refine ⟨hn, ?_⟩
    cases hl : lookupLast "targetArtifact" kvs with
    | none => rfl
    | some v =>
      cases v with
      | obj d =>
        have := dupInMembers_false kvs hm _ (mem_of_lookupLast _ _ _ hl)
        simp only [JVal.dupDeep, Bool.or_eq_false_iff, Bool.not_eq_false'] at this
        exact (Bool.not_eq_false' _).mpr this.1
      | null | bool _ | num _ | str _ | arr _ => rfl
  | null | bool _ | num _ | str _ | arr _ => rfl

/-! ### the two paths, characterised -/

theorem sig_ne_err : errObs.outcome ≠ .sig := by decide +kernel

theorem ite_obs_cases (b : Bool) :
    (if b then sigObs else errObs) = errObs ∨ (if b then sigObs else errObs) = sigObs := by
  cases b
  · exact .inl rfl
  · exact .inr rfl

theorem ite_obs_sig {b : Bool} : (if b then sigObs else errObs).outcome = .sig ↔ b = true := by
  cases b <;> decide

theorem refuse_or (c b : Bool) :
    (if c then errObs else if b then sigObs else errObs) = if (!c && b) then sigObs else errObs := by
  cases c <;> rfl

/-- everything `generateSignatureEnvelope` checks -/
def envChecks (i : Input) : Bool :=
  i.pluginErr != .generate && i.echoOk && !i.garbage && i.envFmt == i.format && wrapParses i && verifyOk i &&
  i.ctypeOk && singleDocument i && !i.payload.dupDeep &&
  sees i.req (goDecodePayload i.payload) && topKeysExact i.payload && descKeysKnown i.payload

structure EnvelopeOk (i : Input) : Prop where
  noError : i.pluginErr ≠ .generate
  echo : i.echoOk = true
  parses : i.garbage = false
  format : i.envFmt = i.format
  framing : wrapParses i = true
  verifies : verifyOk i = true
  ctype : i.ctypeOk = true
  oneDocument : singleDocument i = true
  noDup : i.payload.dupDeep = false
  sees : sees i.req (goDecodePayload i.payload) = true
  topKeys : topKeysExact i.payload = true
  descKeys : descKeysKnown i.payload = true

theorem envChecks_iff (i : Input) : envChecks i = true ↔ EnvelopeOk i := by
  simp only [envChecks, Bool.and_eq_true, bne_iff_ne, beq_iff_eq, Bool.not_eq_true', ne_eq]
  exact ⟨fun ⟨⟨⟨⟨⟨⟨⟨⟨⟨⟨⟨a, b⟩, c⟩, d⟩, e⟩, f⟩, g⟩, h⟩, j⟩, k⟩, l⟩, m⟩ => ⟨a, b, c, d, e, f, g, h, j, k, l, m⟩,
    fun ok => ⟨⟨⟨⟨⟨⟨⟨⟨⟨⟨⟨ok.noError, ok.echo⟩, ok.parses⟩, ok.format⟩, ok.framing⟩, ok.verifies⟩, ok.ctype⟩,
      ok.oneDocument⟩, ok.noDup⟩, ok.sees⟩, ok.topKeys⟩, ok.descKeys⟩⟩

theorem descValid_iff (req : Desc) (d : GoDesc) :
    descValid req d = true ↔
      d.mediaType = req.mediaType ∧ d.digest = req.digest ∧ d.size = req.size ∧
      ∀ kv ∈ req.annotations, d.annotations.lookup kv.1 = some kv.2 := by
  simp only [descValid, Bool.and_eq_true, beq_iff_eq, List.all_eq_true]
  exact ⟨fun ⟨⟨⟨a, b⟩, c⟩, e⟩ => ⟨c, b, a, e⟩, fun ⟨a, b, c, e⟩ => ⟨⟨⟨c, b⟩, a⟩, e⟩⟩

theorem sees_iff (req : Desc) (o : Option GoDesc) :
    sees req o = true ↔ ∃ d, o = some d ∧ descValid req d = true := by
  cases o with
  | none => exact ⟨fun h => Bool.noConfusion h, fun ⟨_, h, _⟩ => by cases h⟩
  | some d => exact ⟨fun h => ⟨d, rfl, h⟩, fun ⟨_, h, hv⟩ => by cases h; exact hv⟩

theorem envelopePath_eq (i : Input) : envelopePath i = if envChecks i then sigObs else errObs := by
  unfold envelopePath envChecks
  cases goDecodePayload i.payload with
  | none => simp only [sees, Bool.and_false, Bool.false_and, Bool.false_eq_true, if_false, ite_self]
  | some d =>
    -- the checked scan cannot panic, and it passes exactly on the two key conditions
    cases hsc : scanUnknown true i.payload with
    | panic => exact absurd hsc (scan_checked_ne_panic _)
    | unknown ks =>
      have hs : ks.isEmpty = (topKeysExact i.payload && descKeysKnown i.payload) := by
        rw [← scan_checked_iff, hsc]; rfl
      simp only [sees, hs, refuse_or]
      congr 1
      simp only [Bool.and_assoc, Bool.not_or, Bool.not_not, bne, Bool.and_comm (descValid i.req d)]

theorem leaf_of_verifyOk (i : Input) (h : verifyOk i = true) :
    leafSpec i = some i.key.spec ∧ (i.chain == .garbage) = false := by
  simp only [verifyOk, Bool.and_eq_true, Bool.or_eq_true, beq_iff_eq] at h
  rcases h with ⟨⟨_, hc | hc⟩ | ⟨_, hc⟩, _⟩ <;> simp [leafSpec, hc]

theorem rawPath_eq (i : Input) (k : KS) :
    rawPath i k.spec =
      if (i.pluginErr != .generate && i.gsKeyIdOk && verifyOk i && k == i.key) then sigObs else errObs := by
  obtain ⟨e, h, a, he, hh, ha⟩ := spec_facts k
  simp only [rawPath, he, hh, ha]
  cases hv : verifyOk i with
  | false =>
    cases leafSpec i <;>
      simp only [Bool.not_false, Bool.and_false, Bool.false_and, if_true, ite_self, Bool.false_eq_true, if_false]
  | true =>
    obtain ⟨hleaf, hng⟩ := leaf_of_verifyOk i hv
    -- the leaf's algorithm is that of `k` only for `k` itself
    have hk : (sigAlgOf i.key.spec == some a) = (k == i.key) := by
      rw [← ha, Bool.eq_iff_iff, beq_iff_eq, beq_iff_eq]
      exact ⟨fun hEq => sigAlgOf_injective k i.key hEq.symm, fun hEq => by rw [hEq]⟩
    simp only [hleaf, hng, bne, hk, Bool.not_true, Bool.false_eq_true, if_false, Bool.and_true]
    cases (i.pluginErr == .generate) <;> cases i.gsKeyIdOk <;> cases (k == i.key) <;> rfl

theorem getKeySpec_some (i : Input) (ks : Spec) (h : getKeySpec i = some ks) :
    i.pluginErr ≠ .describeKey ∧ i.dkKeyIdOk = true ∧ decodeKeySpec i.dkKeySpec = some ks := by
  unfold getKeySpec at h
  by_cases h0 : i.pluginErr = .describeKey
  · simp [h0] at h
  by_cases h1 : i.dkKeyIdOk = true
  case neg => simp [h0, h1] at h
  simp [h0, h1] at h
  exact ⟨h0, h1, h⟩

/-- how an answer of `run` comes about -/
inductive Via (i : Input) (o : Obs) : Prop
  | refused (h : o = errObs)
  | raw (hp : pathOf i = .raw) (ks : Spec) (hks : getKeySpec i = some ks) (h : o = rawPath i ks)
  | envelope (hp : pathOf i = .envelope) (h : o = envelopePath i)

theorem via_choice (i : Input) (o : Obs)
    (h : o = if hasRaw i.cap then
        match getKeySpec i with
        | none => errObs
        | some ks => rawPath i ks
      else if hasEnvelope i.cap then envelopePath i else errObs) : Via i o := by
  subst h
  cases hr : hasRaw i.cap with
  | true =>
    cases hks : getKeySpec i with
    | none => exact .refused rfl
    | some ks => exact .raw (by rw [pathOf, hr]; rfl) ks hks rfl
  | false =>
    cases he : hasEnvelope i.cap with
    | true => exact .envelope (by rw [pathOf, hr, he]; rfl) rfl
    | false => exact .refused rfl

theorem run_path (i : Input) : Via i (run i) := by
  generalize ho : run i = o
  unfold run at ho
  by_cases hm : (i.pluginErr == .metadata) = true
  · exact .refused (ho.symm.trans (if_pos hm))
  rw [if_neg hm] at ho
  cases hapi : i.api with
  | sign =>
    rw [hapi] at ho
    exact via_choice i o ho.symm
  | signBlob =>
    rw [hapi] at ho
    dsimp only at ho
    cases hks : getKeySpec i with
    | none => rw [hks] at ho; exact .refused ho.symm
    | some ks =>
      rw [hks] at ho
      dsimp only at ho
      cases hb : blobDigestAlg ks with
      | none => rw [hb] at ho; exact .refused ho.symm
      | some _ =>
        rw [hb] at ho
        dsimp only at ho
        by_cases hg : (i.gen == .failing) = true
        · exact .refused (ho.symm.trans (if_pos hg))
        · exact via_choice i o (by rw [hks]; exact ho.symm.trans (if_neg hg))

theorem run_cases (i : Input) : run i = errObs ∨ run i = sigObs := by
  rcases run_path i with ⟨h⟩ | ⟨_, ks, hks, h⟩ | ⟨_, h⟩
  · exact .inl h
  · obtain ⟨k, rfl⟩ := decodeKeySpec_range _ _ (getKeySpec_some i ks hks).2.2
    rw [h, rawPath_eq]
    exact ite_obs_cases _
  · rw [h, envelopePath_eq]
    exact ite_obs_cases _

/-! ### property theorems -/

/-- the code's check is at least what the property asks of the signature bytes -/
theorem code_check_stricter_than_property (i : Input) (h : verifyOk i = true) : sigGenuine i = true := by
  simp only [verifyOk, Bool.and_eq_true, beq_iff_eq] at h
  simp only [sigGenuine, Bool.and_eq_true]
  exact ⟨h.1, by rw [h.2]; rfl⟩

theorem raw_sig (i : Input) (ks : Spec) (hks : getKeySpec i = some ks) (hp : pathOf i = .raw)
    (h : (rawPath i ks).outcome = .sig) : required i = true ∧ verifyOk i = true := by
  obtain ⟨_, hid, hdec⟩ := getKeySpec_some i ks hks
  obtain ⟨k, rfl⟩ := decodeKeySpec_range _ _ hdec
  rw [rawPath_eq] at h
  have hc := ite_obs_sig.1 h
  simp only [Bool.and_eq_true, beq_iff_eq] at hc
  obtain ⟨⟨⟨_, hgs⟩, hv⟩, hk⟩ := hc
  subst hk
  exact ⟨by simp [required, hp, hid, hgs, code_check_stricter_than_property i hv, hdec], hv⟩

theorem env_sig (i : Input) (hp : pathOf i = .envelope) (h : (envelopePath i).outcome = .sig) :
    required i = true ∧ EnvelopeOk i := by
  rw [envelopePath_eq] at h
  have ok := (envChecks_iff i).1 (ite_obs_sig.1 h)
  refine ⟨?_, ok⟩
  simp [required, hp, ok.echo, ok.parses, ok.format, ok.framing, ok.verifies, ok.ctype, ok.oneDocument, ok.sees,
    ok.topKeys, ok.descKeys]

/-- a signature is returned only after every check the property demands (and after the code's own, stricter,
check of the signature bytes) -/
theorem run_sig_full (i : Input) (h : (run i).outcome = .sig) :
    required i = true ∧ (pathOf i = .envelope → EnvelopeOk i) ∧ verifyOk i = true := by
  rcases run_path i with ⟨he⟩ | ⟨hp, ks, hks, he⟩ | ⟨hp, he⟩ <;> rw [he] at h
  · exact absurd h sig_ne_err
  · have := raw_sig i ks hks hp h
    refine ⟨this.1, fun hp' => ?_, this.2⟩
    rw [hp] at hp'
    cases hp'
  · have := env_sig i hp h
    exact ⟨this.1, fun _ => this.2, this.2.verifies⟩

theorem run_sig_envelope (i : Input) (h : (run i).outcome = .sig) (hp : pathOf i = .envelope) : EnvelopeOk i :=
  (run_sig_full i h).2.1 hp

/-- **never panics**: whatever the plugin answers - in particular for ALL payload documents -
the outcome is an error or a signature (the model's scan is `scanUnknown true`, the checked form of the
type assertion; that the Go text has it is `Tie.areUnknown_agrees`) -/
theorem never_panics (i : Input) : (run i).outcome ≠ .panic := by
  rcases run_cases i with h | h <;> rw [h] <;> decide

/-- never a signature over something else: a returned signature is the checked envelope
(`payloadOk`, `leafOk`: observations of the harness, constants of `sigObs`) -/
theorem returns_only_checked (i : Input) (h : (run i).outcome = .sig) :
    (run i).payloadOk = true ∧ (run i).leafOk = true := by
  rcases run_cases i with h' | h' <;> rw [h'] at h ⊢
  · exact absurd h sig_ne_err
  · exact ⟨rfl, rfl⟩

theorem readers_see_requested (i : Input) (h : (run i).outcome = .sig) (hp : pathOf i = .envelope) :
    sees i.req (exactView i.payload) = true ∧ sees i.req (firstView i.payload) = true := by
  have ok := run_sig_envelope i h hp
  obtain ⟨d, hg, hv⟩ := (sees_iff _ _).1 ok.sees
  obtain ⟨h1, h2⟩ := views_agree i.payload d ok.topKeys ok.descKeys (hasDup_of_dupDeep _ ok.noDup) hg
  rw [h1, h2]
  exact ⟨hv, hv⟩

/-- a payload that repeats a member name anywhere is never signed off (F-C18b, repaired by
95bb17e) -/
theorem duplicates_refused (i : Input) (hp : pathOf i = .envelope) (h : i.payload.dupDeep = true) :
    (run i).outcome ≠ .sig :=
  fun hs => Bool.noConfusion (h.symm.trans (run_sig_envelope i hs hp).noDup)

/-! ### the whole property -/

/-- **C18, the whole property** for well-formed requests (distinct annotation keys, int64 size -
what a Go `ocispec.Descriptor` can hold, and what the generator emits; `dupKeys` is the redundant
flag the harness computes). -/
theorem model_holds (i : Input) (hwf : reqWellFormed i.req = true)
    (hdk : i.dupKeys = i.payload.dupDeep) : Holds i (runAll i) = true := by
  -- `never_panics` and `signature_only_if_checked` are also asked of every earlier call
  have never_panics' : ∀ j : Input, ((run j).outcome != .panic) = true := fun j => by simpa using never_panics j
  have signature_only_if_checked : ∀ j : Input, ((run j).outcome != .sig || required j) = true :=
    fun j => bne_or_of_imp fun h => (run_sig_full j h).1
  unfold Holds clauses
  simp only [Clauses.holds_cons, Clauses.holds_nil, Bool.and_true, Bool.and_eq_true, Bool.or_assoc]
  refine ⟨⟨hwf, ?input_wellformed⟩, never_panics' i, signature_only_if_checked i, ?exact_key_readers_see_requested,
    ?unambiguous_payload, ?returned_signature_is_the_checked_one, ?earlier_calls_all_answered,
    ?earlier_calls_never_panic, ?earlier_signature_only_if_checked⟩
  case input_wellformed =>
    rw [hdk]
    exact beq_self_eq_true _
  case exact_key_readers_see_requested =>
    refine bne_or_of_imp fun h => bne_or_of_imp fun hp => ?_
    have := readers_see_requested i h hp
    rw [this.1, this.2]
    rfl
  case unambiguous_payload =>
    refine bne_or_of_imp fun h => bne_or_of_imp fun hp => ?_
    cases hdd : i.payload.dupDeep with
    | false => rfl
    | true => exact absurd h (duplicates_refused i hp hdd)
  case returned_signature_is_the_checked_one =>
    exact bne_or_of_imp fun h => Bool.and_eq_true_iff.2 (returns_only_checked i h)
  case earlier_calls_all_answered => exact beq_iff_eq.2 (List.length_map _)
  case earlier_calls_never_panic =>
    rw [List.all_eq_true]
    intro x hx
    obtain ⟨s, _, rfl⟩ := List.mem_map.1 hx
    exact never_panics' (s.apply i)
  case earlier_signature_only_if_checked =>
    rw [List.all_eq_true]
    intro p hp
    rw [mem_zip_map_self _ _ p hp]
    exact signature_only_if_checked _

/-! ### single facts about `run` -/

/-- **each call on its own**: whatever was asked and answered before on the same signer value, a call is
answered as if it were the first one -/
theorem history_ignored (i : Input) (h : List Step) : run { i with history := h } = run i := by
  -- `run` reads no such field; on a destructured scenario the projections compute
  cases i; rfl

/-- the framing of the returned bytes: an envelope that the registered parser of the requested format does
not read as it stands (an untagged or doubly tagged COSE_Sign1, bytes after the message, indefinite-length
encoding, blanks around CBOR) is never handed back -/
theorem unparsable_framing_refused (i : Input) (hp : pathOf i = .envelope) (h : wrapParses i = false) :
    (run i).outcome ≠ .sig :=
  fun hs => Bool.noConfusion (h.symm.trans (run_sig_envelope i hs hp).framing)

/-! ### readable corollaries -/

/-- **envelope path, soundness**: a signature comes back only if the plugin echoed the requested
format and produced an envelope of that format, the envelope verifies under its own chain, it
carries the Notary payload type, the struct-decoded target is the requested descriptor with
every original annotation, the only top-level key is the exactly spelled `targetArtifact` and
the target object has only known descriptor keys. -/
theorem envelope_path_sound (i : Input) (h : (envelopePath i).outcome = .sig) :
    i.echoOk = true ∧ i.garbage = false ∧ i.envFmt = i.format ∧ wrapParses i = true ∧ verifyOk i = true ∧
    i.ctypeOk = true ∧
    singleDocument i = true ∧ i.payload.dupDeep = false ∧
    (∃ d, goDecodePayload i.payload = some d ∧ d.mediaType = i.req.mediaType ∧ d.digest = i.req.digest ∧
        d.size = i.req.size ∧ ∀ kv ∈ i.req.annotations, d.annotations.lookup kv.1 = some kv.2) ∧
    topKeysExact i.payload = true ∧ descKeysKnown i.payload = true := by
  rw [envelopePath_eq] at h
  have ok := (envChecks_iff i).1 (ite_obs_sig.1 h)
  obtain ⟨d, hg, hv⟩ := (sees_iff _ _).1 ok.sees
  exact ⟨ok.echo, ok.parses, ok.format, ok.framing, ok.verifies, ok.ctype, ok.oneDocument, ok.noDup,
    ⟨d, hg, (descValid_iff _ _).1 hv⟩, ok.topKeys, ok.descKeys⟩

/-- … hence the exact-key readers (last-wins and first-wins) and the case-insensitive, merging
Go decoder all read the same, requested, descriptor -/
theorem envelope_path_sound_readers (i : Input) (h : (envelopePath i).outcome = .sig) :
    ∃ d, goDecodePayload i.payload = some d ∧ exactView i.payload = some d ∧
      firstView i.payload = some d ∧ descValid i.req d = true := by
  obtain ⟨_, _, _, _, _, _, _, hdd, ⟨d, hg, hv⟩, ht, hk⟩ := envelope_path_sound i h
  obtain ⟨h1, h2⟩ := views_agree i.payload d ht hk (hasDup_of_dupDeep _ hdd) hg
  exact ⟨d, hg, h1, h2, (descValid_iff _ _).2 hv⟩

/-- **envelope path, completeness**: the converse - these checks are all there is -/
theorem envelope_path_complete (i : Input) (hp : i.pluginErr ≠ .generate)
    (h1 : i.echoOk = true) (h2 : i.garbage = false) (h3 : i.envFmt = i.format) (hw : wrapParses i = true)
    (h4 : verifyOk i = true) (h5 : i.ctypeOk = true) (hsd : singleDocument i = true)
    (hdd : i.payload.dupDeep = false)
    (h6 : ∃ d, goDecodePayload i.payload = some d ∧ descValid i.req d = true)
    (h7 : topKeysExact i.payload = true) (h8 : descKeysKnown i.payload = true) :
    envelopePath i = sigObs := by
  rw [envelopePath_eq, (envChecks_iff i).2 ⟨hp, h1, h2, h3, hw, h4, h5, hsd, hdd, (sees_iff _ _).2 h6, h7, h8⟩]
  rfl

/-- **raw path, soundness**: through a raw-signature plugin a signature comes back only if
DescribeKey and GenerateSignature answered for the requested key id, the described key spec is
the spec of the key that signed, and the signature was made with the key the chain's leaf
certifies (the plugin's key under its chains, or consistently another key of the same spec), and
the plugin wrote the signature in the one wire form the envelope formats take. -/
theorem raw_path_sound (i : Input) (hr : hasRaw i.cap = true) (h : (run i).outcome = .sig) :
    i.dkKeyIdOk = true ∧ i.gsKeyIdOk = true ∧ decodeKeySpec i.dkKeySpec = some i.key.spec ∧
    ((i.sigMode = .good ∧ (i.chain = .ok ∨ i.chain = .selfSigned)) ∨
     (i.sigMode = .otherKey ∧ i.chain = .otherKey)) ∧ i.sigEnc = .fixed := by
  have := (run_sig_full i h).1
  have hv := (run_sig_full i h).2.2
  simp only [required, pathOf, hr, if_true, Bool.and_eq_true, beq_iff_eq] at this
  simp only [verifyOk, Bool.and_eq_true, beq_iff_eq, Bool.or_eq_true] at hv
  obtain ⟨⟨⟨a, b⟩, c⟩, _⟩ := this
  exact ⟨a, b, c, hv.1, hv.2⟩

/-! ### the wire form of the signature bytes -/

theorem run_other_encoding (i : Input) (h : i.sigEnc ≠ .fixed) : run i = errObs := by
  rcases run_cases i with hr | hr
  · exact hr
  · have hv := (run_sig_full i (by rw [hr]; rfl)).2.2
    simp only [verifyOk, Bool.and_eq_true, beq_iff_eq] at hv
    exact absurd hv.2 h

/-- **signature bytes in another wire form are refused**: whatever the plugin answers otherwise - a DER
`SEQUENCE { r, s }` of an honest ECDSA signature, a forged SEQUENCE with integers wider than the field, padded,
truncated, extended, doubled, text-encoded octets - on either path, for every key spec, no signature comes back
(and, with `never_panics`, an error does: nothing is converted, so nothing can overflow) -/
theorem other_signature_encoding_refused (i : Input) (h : i.sigEnc ≠ .fixed) : (run i).outcome = .err := by
  rw [run_other_encoding i h]
  rfl

theorem runAll_other_encoding (i : Input) (h : i.sigEnc ≠ .fixed) :
    runAll i = { errObs with earlier := i.history.map fun _ => .err } := by
  have he : i.history.map (fun s => (run (s.apply i)).outcome) = i.history.map fun _ => .err :=
    List.map_congr_left fun s _ => other_signature_encoding_refused (s.apply i) h
  unfold runAll
  rw [run_other_encoding i h, he]

/-- … and so is every EARLIER call on the same signer value answered by that plugin -/
theorem other_signature_encoding_refused_in_every_call (i : Input) (h : i.sigEnc ≠ .fixed) :
    (runAll i).outcome = .err ∧ ∀ o ∈ (runAll i).earlier, o = .err := by
  rw [runAll_other_encoding i h]
  refine ⟨rfl, fun o ho => ?_⟩
  obtain ⟨_, _, rfl⟩ := List.mem_map.1 ho
  rfl

/-- WHICH other wire form it is does not matter to the model: all of them are answered alike (the signer
looks at the signature bytes nowhere; only the verifier does, and it refuses them all) -/
theorem signature_encoding_variant_irrelevant (i : Input) (e e' : SigEnc) (he : e ≠ .fixed) (he' : e' ≠ .fixed) :
    runAll { i with sigEnc := e } = runAll { i with sigEnc := e' } := by
  rw [runAll_other_encoding _ he, runAll_other_encoding _ he']

/-- the key spec does not matter either: an RSA answer in another form is refused like an EC one -/
theorem fixed_form_needed_for_every_key (i : Input) (k : KS) (h : i.sigEnc ≠ .fixed) :
    (run { i with key := k }).outcome = .err :=
  other_signature_encoding_refused { i with key := k } h

/-! ### one refusal each, and what `run` does not read -/

/-- **one document**: an envelope whose payload bytes go on after the first JSON value (a second
payload object, a stray `]`, a BOM or any other non-blank byte before or after it) is never signed
off - whatever the first value says -/
theorem trailing_data_refused (i : Input) (hp : pathOf i = .envelope)
    (h : jsonWs i.lead = false ∨ jsonWs i.trail = false) : (run i).outcome ≠ .sig := by
  intro hs
  obtain ⟨h1, h2⟩ := Bool.and_eq_true_iff.1 (run_sig_envelope i hs hp).oneDocument
  rcases h with h | h
  · rw [h1] at h; cases h
  · rw [h2] at h; cases h

theorem spacing_ignored (i : Input) (b : Bool) : run { i with spaced := b } = run i := by
  cases i; rfl

/-- an answer labelled with another envelope type than the requested one - even a truthful label of a
well-formed envelope in the OTHER registered format - is never handed back -/
theorem other_format_refused (i : Input) (hp : pathOf i = .envelope)
    (h : i.echo ≠ .requested ∨ i.envFmt ≠ i.format) : (run i).outcome ≠ .sig := by
  intro hs
  have ok := run_sig_envelope i hs hp
  rcases h with h | h
  · exact h (beq_iff_eq.1 ok.echo)
  · exact h ok.format

/-- SignBlob with a generator that fails returns an error; which generator it is otherwise (called
once) makes no difference to the answer -/
theorem failing_generator_refused (i : Input) (ha : i.api = .signBlob) (hg : i.gen = .failing) :
    run i = errObs := by
  unfold run
  by_cases hm : i.pluginErr = .metadata
  · simp [hm]
  simp only [hm, beq_iff_eq, if_false, ha]
  cases getKeySpec i with
  | none => rfl
  | some ks =>
    simp only
    cases blobDigestAlg ks with
    | none => rfl
    | some _ => simp [hg]

theorem honest_blob_ignored (i : Input) (b : Bool) (s : String) : run { i with honest := b, blob := s } = run i := by
  cases i; rfl

/-- `response.SigningAlgorithm` of GenerateSignature is never read: the algorithm is fixed by
the described key spec and checked against the leaf certificate instead -/
theorem response_algorithm_ignored (i : Input) (a : String) : run { i with gsAlg := a } = run i := by
  cases i; rfl

/-- the former witness of F-C18b: the descriptor split over two `targetArtifact` members (the Go
decoder merges them into the requested descriptor, a last-wins reader sees no digest) -/
def findingWitness : Input :=
  { api := .sign, cap := .envelope, format := .jws, key := .ec256,
    req := { mediaType := "m", digest := "sha256:00", size := 7, annotations := [] },
    pluginErr := .noErr, dkKeyIdOk := true, dkKeySpec := "EC-256", echo := .requested, envFmt := .jws,
    garbage := false, ctypeOk := true,
    payload := .obj [("targetArtifact", .obj [("mediaType", .str "m"), ("digest", .str "sha256:00")]),
                     ("targetArtifact", .obj [("size", .num 7)])],
    lead := "", trail := "", spaced := false,
    gsKeyIdOk := true, gsAlg := "ECDSA-SHA-256", sigMode := .good, chain := .ok, gen := .fixed, blob := "",
    honest := false, wrap := .asIs, history := [], dupKeys := true,
    emptyAnnMap := false }

theorem former_finding_refused :
    run findingWitness = errObs ∧
    sees findingWitness.req (goDecodePayload findingWitness.payload) = true ∧
    sees findingWitness.req (exactView findingWitness.payload) = false ∧
    Holds findingWitness sigObs = false := by decide +kernel

/-! ### non-vacuity -/

def benign : Input :=
  { findingWitness with
    payload := .obj [("targetArtifact", .obj [("mediaType", .str "m"), ("digest", .str "sha256:00"),
                                               ("size", .num 7)])],
    dupKeys := false }

example : run benign = sigObs := by decide +kernel
example : Holds benign (run benign) = true := by decide +kernel
example : Holds benign panicObs = false := by decide +kernel
/-- alternative spelling of the top-level key: refused -/
example : run { benign with payload := .obj [("TargetArtifact", .obj [("mediaType", .str "m"),
    ("digest", .str "sha256:00"), ("size", .num 7)])] } = errObs := by decide +kernel
/-- an evil digest under a case variant placed after the exact key: the Go decoder merges it -/
example : run { benign with payload := .obj [("targetArtifact", .obj [("mediaType", .str "m"),
    ("digest", .str "sha256:00"), ("size", .num 7), ("Digest", .str "sha256:ff")])] } = errObs := by decide +kernel
/-- a signature for a wrong digest would violate the property -/
example : Holds { benign with payload := .obj [("targetArtifact", .obj [("mediaType", .str "m"),
    ("digest", .str "sha256:ff"), ("size", .num 7)])] } sigObs = false := by decide +kernel
/-- raw path: a key spec that is not the signing key's is refused -/
example : run { benign with cap := .raw, dkKeySpec := "EC-384" } = errObs := by decide +kernel
example : run { benign with cap := .raw } = sigObs := by decide +kernel
/-- surrounding blanks are fine, a second document or a stray bracket is not -/
example : run { benign with lead := " \n", trail := "\r\n\t " } = sigObs := by decide +kernel
example : run { benign with trail := "{\"targetArtifact\":{\"digest\":\"sha256:ff\"}}" } = errObs := by decide +kernel
example : run { benign with trail := "]" } = errObs := by decide +kernel
example : run { benign with lead := "\uFEFF" } = errObs := by decide +kernel
example : Holds { benign with trail := "]" } sigObs = false := by decide +kernel
-- the wire form of the signature bytes
example : run { benign with cap := .raw, key := .ec521, dkKeySpec := "EC-521" } = sigObs := by decide +kernel
example : run { benign with cap := .raw, key := .ec521, dkKeySpec := "EC-521", sigEnc := .der } = errObs := by decide +kernel
example : run { benign with sigEnc := .derWideR } = errObs := by decide +kernel
example : Holds { benign with cap := .raw, key := .ec521, dkKeySpec := "EC-521", sigEnc := .der } panicObs = false := by decide +kernel
example : Holds { benign with cap := .raw, sigEnc := .derHuge } sigObs = false := by decide +kernel
example : Holds { benign with cap := .raw, sigEnc := .b64 } errObs = true := by decide +kernel
-- a signer that converted a lossless re-encoding and handed out a verifying envelope differs from the model
-- (correspondence) but does not break the property; one that answers a forged SEQUENCE with a signature does
example : Holds { benign with cap := .raw, sigEnc := .der } sigObs = true := by decide +kernel
example : Holds { benign with cap := .raw, sigEnc := .derWideS } sigObs = false := by decide +kernel
example : Holds { benign with cap := .raw, sigEnc := .der } ⟨.sig, false, true, []⟩ = false := by decide +kernel
example : Holds { benign with sigEnc := .der } sigObs = false := by decide +kernel   -- envelope path: returned as it is, must verify as it is

/-! ### the duplicate-name scanner (`findDuplicateKey`) as a token state machine -/

/-- the delimiter cases of the source do what the transcription assumes -/
theorem scanner_table_fact : tableOf Facts.c18DupScannerDelims = canonTable := by decide +kernel

/-- a member value is expected (or we are outside every object) -/
def valPos : List Frame → Prop
  | [] => True
  | f :: _ => f.keys = none ∨ f.expectKey = false

def afterValue (st : List Frame) : List Frame := applyAct st .rearm

/-- a member name repeats one of `ks` or an earlier member's -/
def clash (ks : List String) : List (String × JVal) → Bool
  | [] => false
  | kv :: r => ks.contains kv.1 || clash (kv.1 :: ks) r

def pushKeys (ks : List String) : List (String × JVal) → List String
  | [] => ks
  | kv :: r => pushKeys (kv.1 :: ks) r

theorem clash_eq (kvs : List (String × JVal)) (ks : List String) :
    clash ks kvs = ((kvs.map (·.1)).any ks.contains || !nodupB (kvs.map (·.1))) := by
  induction kvs generalizing ks with
  | nil => rfl
  | cons kv r ih =>
    have hfun : (kv.1 :: ks).contains = fun x => (x == kv.1 || ks.contains x) :=
      funext fun _ => List.contains_cons
    rw [clash, ih, hfun, any_or, List.any_beq', List.map_cons, List.any_cons, nodupB]
    cases ks.contains kv.1 <;> cases (r.map (·.1)).contains kv.1 <;> cases (r.map (·.1)).any ks.contains <;>
      cases nodupB (r.map (·.1)) <;> rfl

theorem clash_nil (kvs : List (String × JVal)) : clash [] kvs = !nodupB (kvs.map (·.1)) := by
  have h0 : (kvs.map (·.1)).any ([] : List String).contains = false :=
    List.any_eq_false.2 fun _ _ => Bool.false_ne_true
  rw [clash_eq, h0, Bool.false_or]

theorem scalar_step (st : List Frame) (t : Tok) (ht : t = .other ∨ ∃ s, t = .str s) (hv : valPos st) :
    tokStep canonTable st t = some (afterValue st) := by
  cases st with
  | nil => rcases ht with rfl | ⟨s, rfl⟩ <;> rfl
  | cons f r =>
    obtain ⟨keys, e⟩ := f
    cases keys with
    | none => rcases ht with rfl | ⟨s, rfl⟩ <;> rfl
    | some ks =>
      have he : e = false := by
        rcases hv with h | h
        · cases h
        · exact h
      subst he
      rcases ht with rfl | ⟨s, rfl⟩ <;> rfl

theorem scan_scalar (st : List Frame) (t : Tok) (ht : t = .other ∨ ∃ s, t = .str s) (hv : valPos st)
    (rest : List Tok) : scan canonTable st (t :: rest) = scan canonTable (afterValue st) rest := by
  rw [scan, scalar_step st t ht hv]

theorem scan_key (ks : List String) (st : List Frame) (k : String) (ts : List Tok) :
    scan canonTable (⟨some ks, true⟩ :: st) (.str k :: ts) =
      (ks.contains k || scan canonTable (⟨some (k :: ks), false⟩ :: st) ts) := by
  simp only [scan, tokStep]
  cases ks.contains k <;> rfl

mutual
theorem scan_value : ∀ (v : JVal) (st : List Frame) (rest : List Tok), valPos st →
    scan canonTable st (v.tokens ++ rest) = (v.dupDeep || scan canonTable (afterValue st) rest)
  | .null, st, rest, hv | .bool _, st, rest, hv | .num _, st, rest, hv =>
    scan_scalar st .other (.inl rfl) hv rest
  | .str s, st, rest, hv => scan_scalar st (.str s) (.inr ⟨s, rfl⟩) hv rest
  | .arr xs, st, rest, _ => by
    rw [JVal.tokens, List.cons_append, List.append_assoc, JVal.dupDeep]
    exact scan_list xs st _
  | .obj kvs, st, rest, _ => by
    rw [JVal.tokens, List.cons_append, List.append_assoc, JVal.dupDeep, ← clash_nil]
    exact scan_members kvs [] st _
theorem scan_list : ∀ (xs : List JVal) (st : List Frame) (rest : List Tok),
    scan canonTable (⟨none, false⟩ :: st) (tokensList xs ++ rest) =
      (dupInList xs || scan canonTable (⟨none, false⟩ :: st) rest)
  | [], st, rest => rfl
  | x :: r, st, rest => by
    rw [tokensList, List.append_assoc, scan_value x (⟨none, false⟩ :: st) _ (Or.inl rfl), dupInList, Bool.or_assoc]
    exact congrArg _ (scan_list r st rest)
theorem scan_members : ∀ (kvs : List (String × JVal)) (ks : List String) (st : List Frame) (rest : List Tok),
    scan canonTable (⟨some ks, true⟩ :: st) (tokensMembers kvs ++ rest) =
      (clash ks kvs || dupInMembers kvs || scan canonTable (⟨some (pushKeys ks kvs), true⟩ :: st) rest)
  | [], ks, st, rest => rfl
  | kv :: r, ks, st, rest => by
    rw [tokensMembers, List.cons_append, List.append_assoc, scan_key,
      scan_value kv.2 (⟨some (kv.1 :: ks), false⟩ :: st) _ (Or.inr rfl)]
    refine (congrArg (fun b => ks.contains kv.1 || (kv.2.dupDeep || b)) (scan_members r (kv.1 :: ks) st rest)).trans ?_
    simp only [clash, dupInMembers, pushKeys, Bool.or_assoc, Bool.or_left_comm]
end

/-- **the scanner is right**: `findDuplicateKey`'s state machine (with the delimiter table regenerated
from the source) reports a duplicate exactly for the documents in which some object, at any depth,
repeats a member name - for ALL documents, whatever arrays, objects or strings precede or follow -/
theorem scanner_computes_dupDeep (p : JVal) : scanDup p = p.dupDeep := by
  unfold scanDup
  rw [scanner_table_fact]
  have := scan_value p [] [] trivial
  simpa [scan, afterValue, applyAct] using this

/-- seed C18-10 in the model: a `]` that does not re-arm the enclosing object puts the scanner out of
step, and a name repeated after an array-valued member slips through -/
def brokenTable : DelimTable := { canonTable with rbrack := [.pop] }
example : scan brokenTable []
    (JVal.obj [("urls", .arr []), ("digest", .str "sha256:bad"), ("digest", .str "sha256:00")]).tokens = false := by decide +kernel
example : scanDup
    (JVal.obj [("urls", .arr []), ("digest", .str "sha256:bad"), ("digest", .str "sha256:00")]) = true := by decide +kernel
example : scanDup (JVal.obj [("a", .arr [.str "b", .str "b"]), ("b", .str "a"), ("c", .obj [("a", .null)])]) = false := by
  decide +kernel

/-! ### tie to the translated source (docs/TIE_BRIEF.md)

`Generated/SrcC18*.lean` are produced from signer/plugin.go, internal/envelope/envelope.go and
plugin/proto/algorithm.go on every run. The theorems below say that the translated functions compute,
for ALL inputs, what the hand-written model computes. Library calls are oracles (`Src/TypesC18.lean`). -/

namespace Tie
open NotationModel.Src

/-- the framework's wire constants, as hand-written in `Src/TypesC18.lean`, are the regenerated ones -/
theorem wire_constants_fact : plugin.wireConstants = Facts.c18WireConstants := rfl

def reqOf (o : ocispec.Descriptor) : Desc :=
  { mediaType := o.MediaType, digest := o.Digest, size := o.Size, annotations := o.Annotations }
def goOf (n : ocispec.Descriptor) : GoDesc :=
  { mediaType := n.MediaType, digest := n.Digest, size := n.Size, annotations := n.Annotations }

theorem contentEqual_eq (o n : ocispec.Descriptor) :
    content.Equal o n = (n.Size == o.Size && n.Digest == o.Digest && n.MediaType == o.MediaType) := by
  rw [Bool.eq_iff_iff]
  simp only [content.Equal, Bool.and_eq_true, beq_iff_eq]
  constructor <;> (rintro ⟨⟨a, b⟩, c⟩; exact ⟨⟨a.symm, b.symm⟩, c.symm⟩)

/-- `isDescriptorSubset`, translated from signer/plugin.go, is the model's `descValid`: the three
fields of `content.Equal`, then every original annotation present with its value - for every pair
of descriptors and every iteration order of the annotation map. -/
theorem source_isDescriptorSubset_refines_model (o n : ocispec.Descriptor) :
    signer.isDescriptorSubset o n = descValid (reqOf o) (goOf n) := by
  unfold signer.isDescriptorSubset
  simp only [Id.run, contentEqual_eq, descValid, reqOf, goOf]
  cases (n.Size == o.Size && n.Digest == o.Digest && n.MediaType == o.MediaType) with
  | false => rfl
  | true =>
    simp only [Bool.not_true, Bool.false_eq_true, if_false, Bool.true_and]
    -- the loop returns `false` at the first annotation of `o` that `n` does not carry under its value
    rw [GoLite.forIn_findReturn (fun a => if List.lookup a.1 n.Annotations == some a.2 then none else some false) _ ?h,
      GoLite.findSome?_if_none]
    case h =>
      intro a t
      simp only [GoLite.Map.lookup, GoLite.Map.get?_eq_lookup]
      cases List.lookup a.1 n.Annotations with
      | none => simp
      | some x => by_cases hx : a.2 = x <;> simp [hx, eq_comm (a := x)]
    cases o.Annotations.all _ <;> rfl

/-- `isPayloadDescriptorValid` is `descValid` too (`content.Equal` once more, then the subset test) -/
theorem source_isPayloadDescriptorValid_refines_model (o n : ocispec.Descriptor) :
    signer.isPayloadDescriptorValid o n = descValid (reqOf o) (goOf n) := by
  unfold signer.isPayloadDescriptorValid
  simp only [Id.run, pure, source_isDescriptorSubset_refines_model]
  rw [contentEqual_eq]
  simp only [descValid, reqOf, goOf]
  cases (n.Size == o.Size && n.Digest == o.Digest && n.MediaType == o.MediaType) <;> simp

example : signer.isPayloadDescriptorValid
    { MediaType := "m", Digest := "d", Size := 1, Annotations := [("a", "")] }
    { MediaType := "m", Digest := "d", Size := 1, Annotations := [] } = false := by decide +kernel
example : signer.isPayloadDescriptorValid
    { MediaType := "", Digest := "d", Size := 1, Annotations := [("a", "")] }
    { MediaType := "x", Digest := "d", Size := 1, Annotations := [("a", "")] } = false := by decide +kernel
example : signer.isPayloadDescriptorValid
    { MediaType := "m", Digest := "d", Size := 1, Annotations := [("a", "")] }
    { MediaType := "m", Digest := "d", Size := 1, Annotations := [("z", "1"), ("a", "")] } = true := by decide +kernel

-- `BEq.comm` / `bne_comm` at the constant side: the regenerated text may write a comparison either way round
set_option linter.unusedSimpArgs false in
/-- `ValidatePayloadContentType` (internal/envelope/envelope.go) accepts exactly the one literal
media type - no case folding, no parameters, no trimming -/
theorem source_ValidatePayloadContentType_refines_model (p : signature.Payload) :
    (envelope.ValidatePayloadContentType p).isNone = (p.ContentType == Facts.c18MediaTypePayloadV1) := by
  unfold envelope.ValidatePayloadContentType
  rw [show envelope.MediaTypePayloadV1 = Facts.c18MediaTypePayloadV1 from rfl]
  simp only [Id.run, BEq.comm (a := Facts.c18MediaTypePayloadV1)]
  cases p.ContentType == Facts.c18MediaTypePayloadV1 <;> rfl

example : (envelope.ValidatePayloadContentType ⟨"application/vnd.cncf.notary.payload.v1+json;version=2", ""⟩).isSome = true := by
  decide +kernel

def specOf (ks : signature.KeySpec) : Spec :=
  (match ks.«Type» with | .KeyTypeRSA => "RSA" | .KeyTypeEC => "EC" | .none => "", ks.Size.toNat)

/-- `proto.DecodeKeySpec k` and the regenerated table agree on `k`: same key spec, or both refuse -/
def decodeAgrees (k : String) : Bool :=
  match decodeKeySpec k with
  | some s => (proto.DecodeKeySpec k).2.isNone && specOf (proto.DecodeKeySpec k).1 == s
  | none => (proto.DecodeKeySpec k).2.isSome

set_option linter.unusedSimpArgs false in
/-- `proto.DecodeKeySpec` (plugin/proto/algorithm.go) decodes exactly the names of the regenerated
table, to the table's key spec; every other string - in particular a name wrapped in blanks - is an error -/
theorem source_DecodeKeySpec_refines_model (k : String) : decodeAgrees k = true := by
  cases hd : decodeKeySpec k with
  | some s =>
    have hall : ∀ p ∈ Facts.c18DecodeKeySpec, decodeAgrees p.1 = true := by decide +kernel
    exact hall (k, s) (lookup_mem _ _ _ hd)
  | none =>
    -- a string that is no name of the table fails every comparison of the translated text
    have hne := List.lookup_eq_none_iff.1 hd
    simp only [Facts.c18DecodeKeySpec, List.forall_mem_cons, bne, Bool.not_eq_true'] at hne
    obtain ⟨h1, h2, h3, h4, h5, h6, _⟩ := hne
    unfold decodeAgrees proto.DecodeKeySpec
    rw [hd]
    simp only [Id.run, plugin.KeySpecRSA2048, plugin.KeySpecRSA3072, plugin.KeySpecRSA4096, plugin.KeySpecEC256,
      plugin.KeySpecEC384, plugin.KeySpecEC521, BEq.comm (b := k), h1, h2, h3, h4, h5, h6, Bool.false_eq_true, if_false]
    rfl

example : (proto.DecodeKeySpec "EC-256\n").2.isSome = true := by decide +kernel

/-- `EncodeKeySpec` and `HashAlgorithmFromKeySpec` on the six key specs are the regenerated tables -/
theorem source_EncodeKeySpec_refines_model (k : KS) :
    ∃ ks, specOf ks = k.spec ∧ some (proto.EncodeKeySpec ks).1 = encodeKeySpec k.spec ∧
      (proto.EncodeKeySpec ks).2 = none ∧
      some (proto.HashAlgorithmFromKeySpec ks).1 = hashFromKeySpec k.spec ∧
      (proto.HashAlgorithmFromKeySpec ks).2 = none := by
  refine ⟨⟨if k.spec.1 == "RSA" then .KeyTypeRSA else .KeyTypeEC, k.spec.2⟩, ?_⟩
  cases k <;> decide +kernel

/-! #### the unknown-field scan -/

theorem foldl_keys {ν : Type} (l : List (String × ν)) (acc : List String) :
    l.foldl (fun s a => s ++ [a.1]) acc = acc ++ l.map (·.1) := by
  induction l generalizing acc with
  | nil => simp
  | cons a l ih => simp [ih]

theorem source_getKeySet_refines_model (m : GoLite.Map String signer.JAny) :
    signer.getKeySet m = m.map (·.1) := by
  unfold signer.getKeySet
  simp only [Id.run]
  rw [GoLite.forIn_yield_foldl _ (fun s a => s ++ [a.1]) ?h]
  case h => intro a s; obtain ⟨k, v⟩ := a; rfl
  simp only [pure_bind, foldl_keys, List.nil_append]
  rfl

/-- what the translated scan returns: with an object under `targetArtifact` its unknown names and the
other top-level names, else all top-level names -/
theorem areUnknown_eq (w : signer.World) (c : signer.Bytes) (m : GoLite.Map String signer.JAny)
    (hm : (w.UnmarshalMap c default).1 = m) :
    signer.areUnknownAttributesAdded w c =
      if (signer.JAny.asObj (GoLite.Map.get m "targetArtifact")).2 then
        ((signer.JAny.asObj (GoLite.Map.get m "targetArtifact")).1.map (·.1)).filter (fun k => !isKnownKey k) ++
          (m.map (·.1)).filter (· != "targetArtifact")
      else m.map (·.1) := by
  unfold signer.areUnknownAttributesAdded
  simp only [Id.run, source_getKeySet_refines_model, hm]
  cases (signer.JAny.asObj (GoLite.Map.get m "targetArtifact")).2 with
  | false => rfl
  | true =>
    -- the eight deletions are the fold of `delete` over the known keys
    have h : List.map (·.1) (List.foldl GoLite.Map.erase (signer.JAny.asObj (GoLite.Map.get m "targetArtifact")).1
          Facts.c18KnownDescriptorKeys) = _ := GoLite.Map.keys_foldl_erase _ _
    simp only [Facts.c18KnownDescriptorKeys, List.foldl_cons, List.foldl_nil] at h
    rw [if_neg (by decide), if_pos rfl, h, GoLite.Map.keys_erase]
    rfl

def keysAgree (a b : List String) : Prop := ∀ k, k ∈ a ↔ k ∈ b

theorem keysAgree.isEmpty {a b : List String} (h : keysAgree a b) : a.isEmpty = b.isEmpty := by
  cases a with
  | nil => cases b with
    | nil => rfl
    | cons y b => exact absurd ((h y).2 List.mem_cons_self) List.not_mem_nil
  | cons x a => cases b with
    | nil => exact absurd ((h x).1 List.mem_cons_self) List.not_mem_nil
    | cons y b => rfl

theorem keysAgree.filter {a b : List String} (p : String → Bool) (h : keysAgree a b) :
    keysAgree (a.filter p) (b.filter p) := fun k => by
  simp only [List.mem_filter, h k]

theorem keysAgree.append {a b c d : List String} (h : keysAgree a b) (h' : keysAgree c d) :
    keysAgree (a ++ c) (b ++ d) := fun k => by
  simp only [List.mem_append, h k, h' k]

/-- the CONTRACT of the oracle `json.Unmarshal(content, &map[string]interface{})` for a document `p`
(keys are exact and unique, the last member of a name wins, a non-object document leaves the map nil):
the map has the document's top-level names, and under `targetArtifact` it holds an object with the
names of the LAST such member's object - or something that is no object when that member is none -/
structure MapDecodes (m : GoLite.Map String signer.JAny) (p : JVal) : Prop where
  top : keysAgree (m.map (·.1)) (match p with | .obj kvs => keysOf kvs | _ => [])
  target : ∀ kvs, p = .obj kvs → ∀ v, lookupLast "targetArtifact" kvs = some v →
    match v with
    | .obj d => ∃ dm, GoLite.Map.get? m "targetArtifact" = some (.obj dm) ∧ keysAgree (dm.map (·.1)) (keysOf d)
    | _ => ∃ x, GoLite.Map.get? m "targetArtifact" = some x ∧ (signer.JAny.asObj x).2 = false

/-- for every document and every map the JSON oracle may yield for it (any key order), the translated
`areUnknownAttributesAdded` returns the names the model's scan reports, up to order and repetition -/
theorem areUnknown_agrees (w : signer.World) (c : signer.Bytes) (p : JVal)
    (h : MapDecodes (w.UnmarshalMap c default).1 p) :
    ∃ ks, scanUnknown true p = .unknown ks ∧ keysAgree (signer.areUnknownAttributesAdded w c) ks := by
  rw [areUnknown_eq w c _ rfl]
  generalize (w.UnmarshalMap c default).1 = m at h
  obtain ⟨htop, htarget⟩ := h
  -- no entry under the key: the assertion fails on the zero value
  have hno : "targetArtifact" ∉ m.map (·.1) →
      signer.JAny.asObj (GoLite.Map.get m "targetArtifact") = ([], false) := by
    intro hn
    have : List.lookup "targetArtifact" m = none :=
      List.lookup_eq_none_iff.2 fun p hp => bne_iff_ne.2 fun e => hn (List.mem_map.2 ⟨p, hp, e.symm⟩)
    simp only [GoLite.Map.get, GoLite.Map.lookup, GoLite.Map.get?_eq_lookup, this]
    rfl
  cases p with
  | obj kvs =>
    cases hl : lookupLast "targetArtifact" kvs with
    | none =>
      refine ⟨keysOf kvs, by simp only [scanUnknown, target_key_fact, hl, if_true], ?_⟩
      rw [hno fun hm => ?_]
      · exact htop
      · have hc := (lookupLast_eq_none_iff _ _).1 hl
        rw [List.contains_iff_mem.2 ((htop _).1 hm)] at hc
        cases hc
    | some v =>
      have ht := htarget kvs rfl v hl
      cases v with
      | obj d =>
        obtain ⟨dm, hget, hkd⟩ := ht
        refine ⟨(keysOf d).filter (fun k => !isKnownKey k) ++ (keysOf kvs).filter (· != "targetArtifact"),
          by simp only [scanUnknown, target_key_fact, hl], ?_⟩
        simp only [GoLite.Map.get, GoLite.Map.lookup, hget, signer.JAny.asObj, if_true]
        exact (hkd.filter _).append (htop.filter _)
      | null | bool _ | num _ | str _ | arr _ =>
        obtain ⟨x, hget, hx⟩ := ht
        refine ⟨keysOf kvs, by simp only [scanUnknown, target_key_fact, hl, if_true], ?_⟩
        simp only [GoLite.Map.get, GoLite.Map.lookup, hget, hx, Bool.false_eq_true, if_false]
        exact htop
  | null | bool _ | num _ | str _ | arr _ =>
    refine ⟨[], rfl, ?_⟩
    rw [hno fun hm => absurd ((htop _).1 hm) List.not_mem_nil]
    exact htop

theorem source_areUnknownAttributesAdded_refines_model (w : signer.World) (c : signer.Bytes) (p : JVal)
    (h : MapDecodes (w.UnmarshalMap c default).1 p) :
    (signer.areUnknownAttributesAdded w c).isEmpty = scanClean (scanUnknown true p) := by
  obtain ⟨ks, hs, hk⟩ := areUnknown_agrees w c p h
  rw [hs, hk.isEmpty]
  rfl

/-! #### the checks of generateSignatureEnvelope, composed -/

/-- the oracles answer as the scenario `i` says (the CONTRACT that links the abstract scenario to the
library calls of generateSignatureEnvelope). `dup`: `findDuplicateKey`'s token loop is an oracle; behind it
stand `scanner_computes_dupDeep` for its transcription `scanDup` and the correspondence run. -/
structure Consistent (w : signer.World) (i : Input) (desc : ocispec.Descriptor)
    (opts : «notation».SignerSignOptions) (req : plugin.GenerateEnvelopeRequest)
    (resp : plugin.GenerateEnvelopeResponse) (err : Option GoLite.Err) : Prop where
  request : reqOf desc = i.req
  pluginErr : err.isSome = (i.pluginErr == .generate)
  echo : (resp.SignatureEnvelopeType != req.SignatureEnvelopeType) = !i.echoOk
  parse : (w.ParseEnvelope opts.SignatureMediaType resp.SignatureEnvelope).2.isSome =
            (i.garbage || i.envFmt != i.format || !wrapParses i)
  verify : (w.ParseEnvelope opts.SignatureMediaType resp.SignatureEnvelope).1.Verify.2.isSome = !verifyOk i
  ctype : ((w.ParseEnvelope opts.SignatureMediaType resp.SignatureEnvelope).1.Verify.1.Payload.ContentType
            == Facts.c18MediaTypePayloadV1) = i.ctypeOk
  decode : (w.UnmarshalPayload (w.ParseEnvelope opts.SignatureMediaType resp.SignatureEnvelope).1.Verify.1.Payload.Content default).2.isSome
            = !(singleDocument i && (goDecodePayload i.payload).isSome)
  decoded : ∀ d, goDecodePayload i.payload = some d →
      goOf (w.UnmarshalPayload (w.ParseEnvelope opts.SignatureMediaType resp.SignatureEnvelope).1.Verify.1.Payload.Content default).1.TargetArtifact = d
  dup : (w.findDuplicateKey (w.ParseEnvelope opts.SignatureMediaType resp.SignatureEnvelope).1.Verify.1.Payload.Content).2 = i.payload.dupDeep
  map : MapDecodes (w.UnmarshalMap (w.ParseEnvelope opts.SignatureMediaType resp.SignatureEnvelope).1.Verify.1.Payload.Content default).1 i.payload

/-- `if c { return …, err }` in front of the remaining checks, for an error made on the spot … -/
theorem isNone_guard {α β : Type} (c : Bool) (a : α) (b : β) (e : GoLite.Err)
    (rest : Id (α × β × Option GoLite.Err)) :
    (if c = true then pure (a, b, some e) else rest).2.2.isNone = (!c && rest.2.2.isNone) := by
  cases c <;> rfl

/-- … and for an error handed on as it is -/
theorem isNone_guard_err {α β : Type} (a : α) (b : β) (o : Option GoLite.Err)
    (rest : Id (α × β × Option GoLite.Err)) :
    (if o.isSome = true then pure (a, b, o) else rest).2.2.isNone = (!o.isSome && rest.2.2.isNone) := by
  cases o <;> rfl

set_option linter.unusedSimpArgs false in
/-- the part of `generateSignatureEnvelope` after the plugin call (translated from signer/plugin.go as
`checkGeneratedEnvelope`: error of the call, type echo, ParseEnvelope, Verify, payload type, struct decode,
duplicate names, descriptor comparison, unknown-field scan) returns no error exactly when the model's
`envelopePath` answers with a signature - for every scenario and all oracles consistent with it -/
theorem source_generateSignatureEnvelope_refines_model (w : signer.World) (i : Input) (desc : ocispec.Descriptor)
    (opts : «notation».SignerSignOptions) (req : plugin.GenerateEnvelopeRequest)
    (resp : plugin.GenerateEnvelopeResponse) (err : Option GoLite.Err)
    (h : Consistent w i desc opts req resp err) :
    (signer.checkGeneratedEnvelope w desc opts req resp err).2.2.isNone = ((envelopePath i).outcome == .sig) := by
  obtain ⟨hreq, h0, h1, h2, h3, h4, h5, h5d, h6, h7⟩ := h
  have hscan := (source_areUnknownAttributesAdded_refines_model w _ _ h7).trans (scan_checked_iff _)
  have hlen : ∀ l : List String, (GoLite.len l != 0) = !l.isEmpty := fun l => congrArg not (GoLite.len_beq_zero l)
  rw [envelopePath_eq, Bool.eq_iff_iff.2 (beq_iff_eq.trans ite_obs_sig)]
  unfold signer.checkGeneratedEnvelope
  -- a chain of refusals: no error comes back exactly when every check passes
  simp only [Id.run, isNone_guard, isNone_guard_err]
  simp only [h0, h1, bne_comm (a := req.SignatureEnvelopeType), h2, h3, Option.not_isSome,
    source_ValidatePayloadContentType_refines_model, h4, h5, h6, hlen, bne_comm (a := (0 : Int)), hscan,
    source_isPayloadDescriptorValid_refines_model, hreq]
  cases hg : goDecodePayload i.payload with
  | none =>
    simp only [envChecks, sees, hg, Option.isSome_none, Bool.and_false, Bool.false_and, Bool.not_false, Bool.not_true]
  | some d =>
    rw [h5d d hg]
    simp only [envChecks, sees, hg, Option.isSome_some, Option.isNone_none, Bool.and_true, Bool.and_assoc, Bool.not_not,
      Bool.not_or, pure, bne]

/-- constant oracles: the map `m`, the decoded target `d`, a verifying envelope of the Notary payload type -/
def sampleWorld (m : GoLite.Map String signer.JAny) (d : ocispec.Descriptor) : signer.World :=
  { UnmarshalMap := fun _ _ => (m, none)
    UnmarshalPayload := fun _ _ => (⟨d⟩, none)
    ParseEnvelope := fun _ _ => (⟨(⟨⟨"application/vnd.cncf.notary.payload.v1+json", "{}"⟩, ⟨7⟩⟩, none)⟩, none)
    findDuplicateKey := fun _ => ("", false) }

def sampleDesc : ocispec.Descriptor := { MediaType := "", Digest := "sha256:00", Size := 7, Annotations := [] }

-- the translated checks run: a perfect answer passes; a wrong echo, an extra descriptor member or a changed
-- media type (requested: none) do not
example : (signer.checkGeneratedEnvelope
    (sampleWorld [("targetArtifact", .obj [("digest", .str "sha256:00"), ("size", .num 7)])] sampleDesc)
    sampleDesc ⟨"application/jose+json"⟩ ⟨"application/jose+json"⟩ ⟨"env", "application/jose+json", []⟩ none)
    = ("env", some ⟨7⟩, none) := by decide +kernel
example : (signer.checkGeneratedEnvelope
    (sampleWorld [("targetArtifact", .obj [("digest", .str "sha256:00"), ("size", .num 7)])] sampleDesc)
    sampleDesc ⟨"application/jose+json"⟩ ⟨"application/jose+json"⟩ ⟨"env", "application/cose", []⟩ none).2.2.isSome = true := by
  decide +kernel
example : (signer.checkGeneratedEnvelope
    (sampleWorld [("targetArtifact", .obj [("digest", .str "sha256:00"), ("Size", .num 7)])] sampleDesc)
    sampleDesc ⟨"application/jose+json"⟩ ⟨"application/jose+json"⟩ ⟨"env", "application/jose+json", []⟩ none).2.2.isSome = true := by
  decide +kernel
example : (signer.checkGeneratedEnvelope
    (sampleWorld [("targetArtifact", .obj [("digest", .str "sha256:00"), ("size", .num 7)])] { sampleDesc with MediaType := "text/x-shellscript" })
    sampleDesc ⟨"application/jose+json"⟩ ⟨"application/jose+json"⟩ ⟨"env", "application/jose+json", []⟩ none).2.2.isSome = true := by
  decide +kernel

end Tie

end NotationModel.C18
