/-
C10 - Registry verification stops at the first good signature, within the limit.
Property theorems and the tie to the translated `notation.Verify`; the model is in `Model/C10.lean`.
-/
import NotationModel.Model.C10
import NotationModel.Generated.SrcVerify

namespace NotationModel.C10

/-! ### the loop -/

theorem page_at_limit (max : Nat) (L : List Sig) (i n : Nat) (log : Log) (h : n ≥ max) :
    page max L i n log = (.error .exceeded, log) := by
  cases L <;> simp [page, h]

theorem page_ok_count (max : Nat) : ∀ (p : List Sig) (i n : Nat) (log log' : Log) (n' : Nat),
    page max p i n log = (.ok n', log') → n' = n + p.length ∧ n' < max := by
  intro p
  induction p with
  | nil =>
    intro i n log log' n' h
    simp only [page] at h
    split at h <;> simp_all <;> omega
  | cons s r ih =>
    intro i n log log' n' h
    simp only [page] at h
    split at h
    · simp at h
    · cases s <;> simp at h
      have := ih _ _ _ _ _ h
      simp only [List.length_cons]; omega

theorem page_append (max : Nat) : ∀ (p q : List Sig) (i n : Nat) (log : Log),
    page max (p ++ q) i n log =
      match page max p i n log with
      | (.ok n', log') => page max q (i + p.length) n' log'
      | r => r := by
  intro p
  induction p with
  | nil =>
    intro q i n log
    by_cases h : n ≥ max
    · simp [page, h, page_at_limit]
    · simp [page, h]
  | cons s r ih =>
    intro q i n log
    by_cases h : n ≥ max
    · simp [page_at_limit, h]
    · cases s with
      | unfetchable => simp [page, h]
      | good => simp [page, h]
      | bad =>
        simp only [List.cons_append, page, h, if_false, ih, List.length_cons]
        rw [show i + 1 + r.length = i + (r.length + 1) by omega]

/-- paging does not matter: below the limit the paged loop is the loop over the flattened listing
(at the limit `pages` on no page at all answers `ok`, where `page` answers `exceeded`) -/
theorem pages_flatten (max : Nat) : ∀ (ps : List (List Sig)) (i n : Nat) (log : Log), n < max →
    pages max ps i n log = page max ps.flatten i n log := by
  intro ps
  induction ps with
  | nil =>
    intro i n log h
    simp [pages, page, Nat.not_le.2 h]
  | cons p ps ih =>
    intro i n log h
    simp only [pages, List.flatten_cons, page_append]
    cases hp : page max p i n log with
    | mk r log' =>
      cases r with
      | ok n' => exact ih _ _ _ (page_ok_count max p i n log log' n' hp).2
      | error e => rfl

/-- the index whose outcome a stopped loop hands back -/
def succOf : Except Stop Nat → Option Nat
  | .error (.done j) => some j
  | _ => none

/-- the log after the first `m` signatures of the listing `K` were fetched, and verified unless
unfetchable -/
def Logged (K : Nat → Option Sig) (m : Nat) (log : Log) : Prop :=
  log.fetched = List.range m ∧ log.verified = (List.range m).filter (fun k => K k != some .unfetchable)

theorem Logged.fetch {K : Nat → Option Sig} {m : Nat} {log : Log} (h : Logged K m log)
    (hK : K m = some .unfetchable) : Logged K (m + 1) { log with fetched := log.fetched ++ [m] } := by
  simp [Logged, h.1, h.2, List.range_succ, List.filter_append, hK]

theorem Logged.fetch_verify {K : Nat → Option Sig} {m : Nat} {log : Log} (h : Logged K m log)
    (hK : K m ≠ some .unfetchable) :
    Logged K (m + 1) { fetched := log.fetched ++ [m], verified := log.verified ++ [m] } := by
  simp [Logged, h.1, h.2, List.range_succ, List.filter_append, hK]

/-- one pass over the rest `L` of a listing `K`, from a state where the first `i` signatures have
been processed: some `m ≤ max` signatures end up processed, the loop stops with `done` exactly at
the first good one among those the limit leaves, and then that one is the last processed -/
theorem page_post (max : Nat) (K : Nat → Option Sig) : ∀ (L : List Sig) (i : Nat) (log : Log),
    (∀ k, L[k]? = K (i + k)) → i ≤ max → Logged K i log →
    ∃ m, m ≤ max ∧ Logged K m (page max L i i log).2 ∧
      succOf (page max L i i log).1 = specFind (L.take (max - i)) i ∧
      ∀ j, succOf (page max L i i log).1 = some j → m = j + 1 := by
  intro L
  induction L with
  | nil =>
    intro i log _ hi hlog
    refine ⟨i, hi, hlog, ?_, ?_⟩ <;> simp only [page] <;> split <;> simp [succOf, specFind]
  | cons s r ih =>
    intro i log hK hi hlog
    by_cases h : i ≥ max
    · rw [page_at_limit max _ i i log h, show max - i = 0 by omega]
      exact ⟨i, hi, hlog, rfl, fun j hj => by cases hj⟩
    · have hK0 : K i = some s := by simpa using (hK 0).symm
      have hm : max - i = (max - (i + 1)) + 1 := by omega
      simp only [page, h, if_false, hm, List.take_succ_cons]
      cases s with
      | unfetchable => exact ⟨i + 1, by omega, hlog.fetch hK0, rfl, fun j hj => by cases hj⟩
      | good =>
        refine ⟨i + 1, by omega, hlog.fetch_verify (by simp [hK0]), rfl, fun j hj => ?_⟩
        cases hj; rfl
      | bad =>
        refine ih (i + 1) _ (fun k => ?_) (by omega) (hlog.fetch_verify (by simp [hK0]))
        rw [← List.getElem?_cons_succ (a := Sig.bad), hK (k + 1), Nat.add_assoc, Nat.add_comm 1 k]

theorem loop_post (max : Nat) (hmax : 0 < max) (ps : List (List Sig)) :
    ∃ m, m ≤ max ∧ Logged (ps.flatten[·]?) m (pages max ps 0 0 {}).2 ∧
      succOf (pages max ps 0 0 {}).1 = specFind (ps.flatten.take max) 0 ∧
      ∀ j, succOf (pages max ps 0 0 {}).1 = some j → m = j + 1 := by
  rw [pages_flatten max ps 0 0 {} hmax]
  exact page_post max (ps.flatten[·]?) ps.flatten 0 {} (fun k => by rw [Nat.zero_add]) (Nat.zero_le _) ⟨rfl, rfl⟩

/-- what the statements after the listing make of a stopped loop, for each of the three
repositories: the recorded `done` decides unless the listing is reported as failed -/
theorem tail_listRet (m : ListErr) (r : Except Stop Nat) (log : Log) :
    tail (listRet m r) r log =
      { success := if m = .replace then none else succOf r, skipped := false, resolved := true, listed := true,
        fetched := log.fetched, verified := log.verified,
        descOk := (if m = .replace then none else succOf r).isSome } := by
  cases m <;> rcases r with (_ | _ | _) | _ <;> rfl

theorem tail_success (ret : Ret) (r : Except Stop Nat) (log : Log) :
    (tail ret r log).success = if ret = .exceeded ∨ ret = .other then none else succOf r := by
  cases ret <;> rcases r with (_ | _ | _) | _ <;> rfl

theorem run_listing (i : Input) (hmax : ¬ i.max ≤ 0) (hs : i.skip = false) (hr : refOk i.ref = true) :
    run i = tail (listRet i.listErr (pages i.max.toNat i.pages 0 0 {}).1)
      (pages i.max.toNat i.pages 0 0 {}).1 (pages i.max.toNat i.pages 0 0 {}).2 := by
  cases href : i.ref <;> simp [refOk, href] at hr <;> simp [run, hmax, hs, href]

theorem run_bad_ref (i : Input) (hmax : ¬ i.max ≤ 0) (hs : i.skip = false) (hr : refOk i.ref = false) :
    run i = errObs (i.ref == .digestMismatch) false {} := by
  cases href : i.ref <;> simp [refOk, href] at hr <;> simp [run, hmax, hs, href] <;> rfl

/-! ### property theorems -/

/-- **C10, the whole property**: every clause of `Holds` is true of the model's behaviour. -/
theorem model_holds (i : Input) : Holds i (run i) = true := by
  by_cases hmax : i.max ≤ 0
  · have : ¬ (0 < i.max) := by omega
    simp [Holds, clauses, Clauses.holds, run, expected, hmax, errObs, this, limit]
  · have hpos : 0 < i.max := by omega
    cases hs : i.skip with
    | true => simp [Holds, clauses, Clauses.holds, run, expected, hmax, hs, hpos]
    | false =>
      cases hr : refOk i.ref with
      | false =>
        rw [run_bad_ref i hmax hs hr]
        simp [Holds, clauses, Clauses.holds, expected, hmax, hs, hr, errObs]
      | true =>
        obtain ⟨m, hm, ⟨hf, hv⟩, hsucc, hj⟩ := loop_post i.max.toNat (by omega) i.pages
        have hl : limit i = i.max.toNat := by simp [limit, hmax]
        rw [run_listing i hmax hs hr, tail_listRet]
        simp only [Holds, clauses, Clauses.holds_cons, Clauses.holds_nil, hf, hv, hsucc, expected, hl, hs, hr,
          kindAt]
        by_cases hle : i.listErr = .replace
        · simp [hle, hmax, hpos, hm]
        · cases hsp : specFind (List.take i.max.toNat i.pages.flatten) 0 with
          | none => simp [hle, hmax, hpos, hm]
          | some j =>
            obtain rfl := hj j (hsucc.trans hsp)
            simp [hle, hmax, hpos, hm]

/-- **C10, loop refinement.** The success index returned is `expected i`: none unless the limit is
positive, the reference usable, the level not skip and the listing not reported as failed; then
the first good signature among the first `max` of the flattened listing with nothing unfetchable
before it - for listings of any length, any paging, any limit. -/
theorem verify_refines_spec (i : Input) : (run i).success = expected i := by
  exact beq_iff_eq.1 (Clauses.holds_at (model_holds i) 0 "success_iff_first_good_within_limit" rfl)

/-- **C10, paging independence**: two pagings of the same listing give the same result. -/
theorem paging_independent (i₁ i₂ : Input) (hm : i₁.max = i₂.max) (hr : i₁.ref = i₂.ref)
    (hs : i₁.skip = i₂.skip) (hl : i₁.listErr = i₂.listErr) (hp : i₁.pages.flatten = i₂.pages.flatten) :
    (run i₁).success = (run i₂).success := by
  rw [verify_refines_spec, verify_refines_spec]
  simp [expected, limit, hm, hr, hs, hl, hp]

theorem never_more_than_limit (i : Input) : (run i).fetched.length ≤ limit i :=
  of_decide_eq_true (Clauses.holds_at (model_holds i) 4 "never_more_than_limit" rfl)

theorem nothing_after_success (i : Input) (j : Nat) (h : (run i).success = some j) :
    (run i).fetched = List.range (j+1) ∧ (run i).descOk = true := by
  have horder := beq_iff_eq.1 (Clauses.holds_at (model_holds i) 3 "fetch_in_listing_order" rfl)
  have hlast := Clauses.holds_at (model_holds i) 8 "nothing_after_success" rfl
  simp only [h, Bool.and_eq_true, beq_iff_eq] at hlast
  exact ⟨by rw [horder, hlast.1], hlast.2⟩

theorem errors (i : Input)
    (h : i.max ≤ 0 ∨ i.ref = .noRef ∨ i.ref = .digestMismatch ∨ i.pages.flatten = [] ∨ i.listErr = .replace) :
    (run i).success = none := by
  rw [verify_refines_spec]
  unfold expected
  rcases h with h | h | h | h | h
  · simp [h]
  · simp [h, refOk]
  · simp [h, refOk]
  · simp [h, specFind]
  · simp [h]

/-- **C10, the repository's handling of the stop request.** A repository that swallows the error by which
the callback stopped the listing (returns nil) is observed exactly like one that hands it back: the decision
rests on what the callback recorded, not on the error that comes back. -/
theorem swallowed_stop_changes_nothing (i : Input) :
    run { i with listErr := .swallow } = run { i with listErr := .forward } := by
  simp only [run, tail_listRet, reduceCtorEq, if_false]

/-- ... and what a repository does on a stop request can only matter when there is one: a listing that the
callback never stops (nothing verified, limit not reached) is observed identically for all three. -/
theorem no_stop_no_difference (i : Input) (m : ListErr) (n : Nat) (log : Log)
    (h : pages i.max.toNat i.pages 0 0 {} = (.ok n, log)) :
    run { i with listErr := m } = run i := by
  simp only [run, h, tail_listRet, succOf, ite_self]

/-- non-vacuity: a concrete run that succeeds on the second page within the limit -/
example : run { max := 3, pages := [[.bad], [.good, .bad]], ref := .tag, skip := false, listErr := .forward, refVariant := "", flavors := [], sameAs := [], wrap := 0, verifier := "skipper", policy := 0, userMetadata := 0, pluginConfig := 0 } =
    { success := some 1, skipped := false, resolved := true, listed := true,
      fetched := [0, 1], verified := [0, 1], descOk := true } := by decide +kernel

example : Holds { max := 3, pages := [[.bad], [.good, .bad]], ref := .tag, skip := false, listErr := .forward, refVariant := "", flavors := [], sameAs := [], wrap := 0, verifier := "skipper", policy := 0, userMetadata := 0, pluginConfig := 0 }
    { success := some 0, skipped := false, resolved := true, listed := true,
      fetched := [0], verified := [0], descOk := true } = false := by decide +kernel

/-- the same listing behind a repository that swallows the stop request succeeds alike; behind one that reports
the listing as failed it is an error, after the same two fetches -/
example : run { max := 3, pages := [[.bad], [.good, .bad]], ref := .tag, skip := false, listErr := .swallow, refVariant := "", flavors := [], sameAs := [], wrap := 0, verifier := "stub", policy := 0, userMetadata := 0, pluginConfig := 0 } =
    { success := some 1, skipped := false, resolved := true, listed := true,
      fetched := [0, 1], verified := [0, 1], descOk := true } := by decide +kernel

example : run { max := 3, pages := [[.bad], [.good, .bad]], ref := .tag, skip := false, listErr := .replace, refVariant := "", flavors := [], sameAs := [], wrap := 1, verifier := "stub", policy := 0, userMetadata := 0, pluginConfig := 0 } =
    { success := none, skipped := false, resolved := true, listed := true,
      fetched := [0, 1], verified := [0, 1], descOk := false } := by decide +kernel

/-- a failure reported although a signature verified (what a repository adding context to the "done" sentinel
gets from an identity comparison) is rejected by `Holds` -/
example : Holds { max := 3, pages := [[.good]], ref := .tag, skip := false, listErr := .forward, refVariant := "", flavors := [], sameAs := [], wrap := 1, verifier := "stub", policy := 0, userMetadata := 0, pluginConfig := 0 }
    { success := none, skipped := false, resolved := true, listed := true,
      fetched := [0], verified := [0], descOk := false } = false := by decide +kernel

/-- a skip-level statement under which the repository was accessed all the same (what a verifier that no
longer satisfies the optional skip interface gets) is rejected by `Holds` -/
example : Holds { max := 3, pages := [], ref := .digestMatch, skip := true, listErr := .forward, refVariant := "", flavors := [], sameAs := [], wrap := 0, verifier := "realNew", policy := 1, userMetadata := 2, pluginConfig := 2 }
    { success := none, skipped := false, resolved := true, listed := true,
      fetched := [], verified := [], descOk := false } = false := by decide +kernel

/-- how the reference is spelled, which error values failing attempts return, which context a forwarding
repository adds to the callback's error, which Verifier implementation decides, how its policy document is
laid out and which further options the caller passes (required user metadata, plugin configuration) are not
inputs of the decision - in particular a skip level is honoured whatever those options are: two inputs that differ only there are observed identically -/
theorem concretisation_irrelevant (i : Input) (v : String) (f : List Nat) (sa : List Int) (w : Nat)
    (vk : String) (pol um pc : Nat) :
    run { i with refVariant := v, flavors := f, sameAs := sa, wrap := w, verifier := vk, policy := pol,
                 userMetadata := um, pluginConfig := pc } = run i := by
  rfl

/-- **C10, skip is unconditional**: under a skip level and a positive limit nothing is touched, whatever user
metadata / plugin configuration the caller asks for, whatever the reference, the listing and the repository -/
theorem skip_whatever_the_options (i : Input) (um pc : Nat) (hs : i.skip = true) (hm : 0 < i.max) :
    run { i with userMetadata := um, pluginConfig := pc } =
      { success := none, skipped := true, resolved := false, listed := false, fetched := [], verified := [], descOk := false } := by
  have : ¬ i.max ≤ 0 := by omega
  simp [run, this, hs]

theorem skip_touches_nothing (i : Input) (hs : i.skip = true) (hm : 0 < i.max) :
    (run i).skipped = true ∧ (run i).resolved = false ∧ (run i).listed = false ∧
    (run i).fetched = [] ∧ (run i).verified = [] := by
  rw [show run i = _ from skip_whatever_the_options i i.userMetadata i.pluginConfig hs hm]
  exact ⟨rfl, rfl, rfl, rfl, rfl⟩

/-- ... and the property asks the same of them -/
theorem concretisation_irrelevant_spec (i : Input) (o : Obs) (v : String) (f : List Nat) (sa : List Int) (w : Nat)
    (vk : String) (pol um pc : Nat) :
    Holds { i with refVariant := v, flavors := f, sameAs := sa, wrap := w, verifier := vk, policy := pol,
                   userMetadata := um, pluginConfig := pc } o = Holds i o := by
  rfl

/-! ### tie to the translated source

`GoLite.errorf` / `errT` forget the message text: under `rfl` the translated error IS the short one written here. -/

namespace Tie
open NotationModel.Src NotationModel.Src.«notation»

/-- the oracles of one `notation.Verify` call: what the repository and the verifier answer -/
structure World where
  fetch : ocispec.Descriptor → SigBlob × ocispec.Descriptor × Option GoLite.Err
  verify : ocispec.Descriptor → SigBlob → VerifierVerifyOptions → Option VerificationOutcome × Option GoLite.Err
  art : ocispec.Descriptor
  ar : String                 -- opts.ArtifactReference, constant over the call

/-- the options the verifier sees for signature `d`: the media type fetched from the registry -/
def World.optsFor (w : World) (d : ocispec.Descriptor) : VerifierVerifyOptions :=
  { ArtifactReference := w.ar, SignatureMediaType := (w.fetch d).2.1.MediaType }

def World.answer (w : World) (d : ocispec.Descriptor) := w.verify w.art (w.fetch d).1 (w.optsFor d)

/-- the model's classification of a listed signature, read off the oracles -/
def World.kind (w : World) (d : ocispec.Descriptor) : Sig :=
  if (w.fetch d).2.2.isSome then .unfetchable
  else if (w.answer d).2.isNone then .good else .bad

/-- result of the callback on one page, abstractly -/
inductive PR
  | cont (n : Nat) (errs : List (Option GoLite.Err)) (smt : String)
  | done (n : Nat) (d : ocispec.Descriptor) (errs : List (Option GoLite.Err))
  | fetchErr (n : Nat) (errs : List (Option GoLite.Err)) (smt : String)
  | verifierBroken (n : Nat) (d : ocispec.Descriptor) (errs : List (Option GoLite.Err))  -- error with a nil outcome
  | exceeded (n : Nat) (errs : List (Option GoLite.Err)) (smt : String)

def pageSpec (w : World) (M : Nat) : List ocispec.Descriptor → Nat → List (Option GoLite.Err) → String → PR
  | [], n, errs, smt => if n ≥ M then .exceeded n errs smt else .cont n errs smt
  | d :: p, n, errs, smt =>
    if n ≥ M then .exceeded n errs smt
    else if (w.fetch d).2.2.isSome then .fetchErr (n + 1) errs smt
    else if (w.answer d).2.isSome then
      if (w.answer d).1.isNone then .verifierBroken (n + 1) d errs
      else pageSpec w M p (n + 1) (errs ++ [(GoLite.deref (w.answer d).1).Error]) (w.fetch d).2.1.MediaType
    else .done (n + 1) d errs

abbrev Res := Option GoLite.Err × Int × Bool × List (Option VerificationOutcome) × List (Option GoLite.Err) × VerifierVerifyOptions

def PR.toRes (w : World) (outs0 : List (Option VerificationOutcome)) (errExc : GoLite.Err) : PR → Res
  | .cont n errs smt => (none, n, false, outs0, errs, ⟨w.ar, smt⟩)
  | .done n d errs => (some errDoneVerification, n, true, [(w.answer d).1], errs, w.optsFor d)
  | .fetchErr n errs smt => (some (GoLite.errT "ErrorSignatureRetrievalFailed" ""), n, false, outs0, errs, ⟨w.ar, smt⟩)
  | .verifierBroken n d errs => ((w.answer d).2, n, false, outs0, errs, w.optsFor d)
  | .exceeded n errs smt => (some errExc, n, false, outs0, errs, ⟨w.ar, smt⟩)

abbrev St := Nat × List (Option GoLite.Err) × String

def step (w : World) (M : Nat) (t : St) (d : ocispec.Descriptor) : Except PR St :=
  if t.1 ≥ M then .error (.exceeded t.1 t.2.1 t.2.2)
  else if (w.fetch d).2.2.isSome then .error (.fetchErr (t.1 + 1) t.2.1 t.2.2)
  else if (w.answer d).2.isSome then
    if (w.answer d).1.isNone then .error (.verifierBroken (t.1 + 1) d t.2.1)
    else .ok (t.1 + 1, t.2.1 ++ [(GoLite.deref (w.answer d).1).Error], (w.fetch d).2.1.MediaType)
  else .error (.done (t.1 + 1) d t.2.1)

abbrev LoopSt := Option Res × Int × Bool × List (Option VerificationOutcome) × List (Option GoLite.Err) × VerifierVerifyOptions

abbrev absSt (w : World) (outs0 : List (Option VerificationOutcome)) (t : St) : LoopSt :=
  (none, (t.1 : Int), false, outs0, t.2.1, ⟨w.ar, t.2.2⟩)

/-- `break` at the limit leaves the state as it is and sets no result: the limit test after the loop
(`post`) returns "exceeded"; every other stop is a `return` -/
def stopSt (w : World) (outs0 : List (Option VerificationOutcome)) (errExc : GoLite.Err) (t : St) (e : PR) : LoopSt :=
  match e with
  | .exceeded _ _ _ => absSt w outs0 t
  | e => (some (e.toRes w outs0 errExc), (e.toRes w outs0 errExc).2)

/-- what follows the loop in the callback -/
def post (M : Nat) (errExc : GoLite.Err) (s : LoopSt) : Res :=
  match s.1 with
  | some r => r
  | none => if s.2.1 ≥ (M : Int) then (some errExc, s.2) else (none, s.2)

theorem post_foldE (w : World) (M : Nat) (errExc : GoLite.Err) (outs0 : List (Option VerificationOutcome))
    (p : List ocispec.Descriptor) (t : St) :
    post M errExc (match GoLite.foldE (step w M) p t with
      | .ok t' => absSt w outs0 t'
      | .error (t', e) => stopSt w outs0 errExc t' e) =
      (pageSpec w M p t.1 t.2.1 t.2.2).toRes w outs0 errExc := by
  induction p generalizing t with
  | nil =>
    simp only [GoLite.foldE, pageSpec, post, absSt]
    by_cases h : t.1 ≥ M
    · have : ((t.1 : Int) ≥ (M : Int)) := by omega
      simp [h, this, PR.toRes]
    · have : ¬ ((t.1 : Int) ≥ (M : Int)) := by omega
      simp [h, this, PR.toRes]
  | cons d p ih =>
    simp only [GoLite.foldE, pageSpec, step]
    by_cases h : t.1 ≥ M
    · have : ((t.1 : Int) ≥ (M : Int)) := by omega
      simp [h, this, post, stopSt, absSt, PR.toRes]
    · by_cases hf : (w.fetch d).2.2.isSome = true
      · simp [h, hf, post, stopSt, PR.toRes]
      · by_cases hv : (w.answer d).2.isSome = true
        · by_cases ho : (w.answer d).1.isNone = true
          · simp [h, hf, hv, ho, post, stopSt, PR.toRes]
          · simp only [h, hf, hv, ho, if_false, if_true, Bool.false_eq_true]
            exact ih (t.1 + 1, t.2.1 ++ [(GoLite.deref (w.answer d).1).Error], (w.fetch d).2.1.MediaType)
        · simp [h, hf, hv, post, stopSt, PR.toRes]

/-- TIE (translated source): the callback `notation.Verify` hands to `ListSignatures`, translated from
notation.go on every run (`Generated/SrcVerify.lean`, with the variables it shares with the
enclosing function as explicit state and the repository / verifier as oracles), computes on EVERY
page, from every state in which the callback can be called (no success recorded yet, the options
still carrying the artifact reference `w.ar`), exactly the abstract page result `pageSpec`: attempts
counted against the limit before each fetch, unfetchable -> retrieval error, verified -> done with
exactly that outcome, failed -> next, limit reached -> exceeded. `pageSpec_is_model_page` below relates
the KIND of that result to the model's `page` (not the index reported, not the call log). -/
theorem source_Verify_callback_refines_model (w : World) (M : Nat) (errExc : GoLite.Err) (outs0 : List (Option VerificationOutcome))
    (p : List ocispec.Descriptor) (n : Nat) (errs : List (Option GoLite.Err)) (smt : String) :
    verifyPage (M : Int) w.fetch w.verify w.art errExc (n : Int) false outs0 errs ⟨w.ar, smt⟩ p =
      (pageSpec w M p n errs smt).toRes w outs0 errExc := by
  unfold verifyPage
  simp only [Id.run]
  rw [GoLite.forIn_eq_foldE' _ (step w M) (absSt w outs0) (stopSt w outs0 errExc) ?h _ _ (n, errs, smt) rfl]
  case h =>
    -- the body and `step` are the same cascade of tests: decide each in turn, on both sides at once
    intro d t
    simp only [step, World.answer, World.optsFor, decide_eq_true_eq, ge_iff_le, Int.ofNat_le]
    by_cases h1 : M ≤ t.1
    · simp only [h1, if_true]; rfl
    by_cases h2 : (w.fetch d).2.2.isSome = true
    · simp only [h1, h2, if_true, if_false]; rfl
    by_cases h3 : (w.verify w.art (w.fetch d).1 ⟨w.ar, (w.fetch d).2.1.MediaType⟩).2.isSome = true
    · by_cases h4 : (w.verify w.art (w.fetch d).1 ⟨w.ar, (w.fetch d).2.1.MediaType⟩).1.isNone = true
      · simp only [h1, h2, h3, h4, if_true, if_false]; rfl
      · simp only [h1, h2, h3, h4, if_true, if_false]; rfl
    · simp only [h1, h2, h3, if_false]; rfl
  simp only [pure_bind, decide_eq_true_eq]
  rw [← post_foldE w M errExc outs0 p (n, errs, smt)]
  cases GoLite.foldE (step w M) p (n, errs, smt) with
  | ok t' => rfl
  | error pe => obtain ⟨t', e⟩ := pe; cases e <;> rfl

/-! #### the abstract page result stops as the model's `page` does -/

inductive K | cont (n : Nat) | done | fetchErr | exceeded | verifierBroken
  deriving DecidableEq, Repr

def PR.k : PR → K
  | .cont n _ _ => .cont n
  | .done _ _ _ => .done
  | .fetchErr _ _ _ => .fetchErr
  | .verifierBroken _ _ _ => .verifierBroken
  | .exceeded _ _ _ => .exceeded

def kOf : Except Stop Nat → K
  | .ok n => .cont n
  | .error (.done _) => .done
  | .error (.fetchErr _) => .fetchErr
  | .error .exceeded => .exceeded

theorem pageSpec_is_model_page (w : World) (M : Nat) (p : List ocispec.Descriptor)
    (hv : ∀ d ∈ p, (w.answer d).2.isSome = true → (w.answer d).1.isSome = true)
    (i n : Nat) (log : Log) (errs : List (Option GoLite.Err)) (smt : String) :
    (pageSpec w M p n errs smt).k = kOf (page M (p.map w.kind) i n log).1 := by
  induction p generalizing i n log errs smt with
  | nil =>
    by_cases h : n ≥ M <;> simp only [pageSpec, List.map_nil, page, h, if_true, if_false] <;> rfl
  | cons d p ih =>
    by_cases h : n ≥ M
    · simp only [pageSpec, List.map_cons, page, h, if_true]; rfl
    · have hd := hv d List.mem_cons_self
      simp only [pageSpec, List.map_cons, page, World.kind, h, if_false]
      rcases Bool.eq_false_or_eq_true (w.fetch d).2.2.isSome with hf | hf <;> simp only [hf, if_true, Bool.false_eq_true, if_false]
      · rfl
      · rcases Option.eq_none_or_eq_some (w.answer d).2 with ha | ⟨e, ha⟩ <;>
          simp only [ha, Option.isSome_none, Option.isSome_some, Option.isNone_none, Option.isNone_some, if_true, Bool.false_eq_true, if_false]
        · rfl
        · rcases Option.eq_none_or_eq_some (w.answer d).1 with ho | ⟨o, ho⟩
          · rw [ha, ho] at hd; cases hd rfl
          · simp only [ho, Option.isNone_some, Bool.false_eq_true, if_false]
            exact ih (fun d' hd' => hv d' (List.mem_cons_of_mem _ hd')) _ _ _ _ _

/-! #### the statements after the listing -/

/-- `notation.Verify` after `ListSignatures`: it succeeds exactly when the listing ended normally or
by the "done" sentinel, at least one signature was processed and one verified; it then returns the
RESOLVED descriptor and the outcomes collected by the callback. `herrs` is an assumption on the verifier
oracle: some `outcome.Error` the callback recorded is not nil (`errors.Join` of nils is nil). -/
theorem source_Verify_tail_refines_model (artifactRef : String) (art : ocispec.Descriptor) (errExc : GoLite.Err) (err : Option GoLite.Err)
    (num : Int) (succ : Bool) (outs : List (Option VerificationOutcome)) (errs : List (Option GoLite.Err))
    (herrs : (GoLite.errJoin errs).isSome = true) :
    let r := verifyTail artifactRef art errExc err num succ outs errs
    (r.2.2.isNone = ((err.isNone || err == some errDoneVerification) && num != 0 && succ)) ∧
    (r.2.2.isNone = true → r = (art, outs, none)) := by
  unfold verifyTail
  simp only [Id.run, GoLite.errIs]
  cases err with
  | none =>
    by_cases hn : num = 0
    · simp [hn, GoLite.idPure, GoLite.errT]
    · have hj : GoLite.errJoin errs ≠ none := by
        intro h; simp [h] at herrs
      -- `Ne.symm hn` is for the other spelling of the test, `0 == n`
      cases succ <;> simp [hn, Ne.symm hn, GoLite.idPure, herrs, hj]
  | some e =>
    by_cases hd : e = errDoneVerification
    · subst hd
      by_cases hn : num = 0
      · simp [hn, GoLite.idPure, GoLite.errT]
      · have hj : GoLite.errJoin errs ≠ none := by
          intro h; simp [h] at herrs
        cases succ <;> simp [hn, Ne.symm hn, GoLite.idPure, herrs, hj]
    · have : (some e == some errDoneVerification) = false := by simp [hd]
      by_cases hx : (some e == some errExc) = true <;> simp [this, hx, GoLite.idPure]

/-- how `Verify` classifies the error value it gets back from `ListSignatures` (`errors.Is`, "done" first) -/
def retOf (errExc : GoLite.Err) : Option GoLite.Err → Ret
  | none => .nil
  | some e => if e = errDoneVerification then .done else if e = errExc then .exceeded else .other

/-- TIE (translated source): the statements after the listing decide exactly like the model's `tail` on the
classified error - whatever the repository made of the callback's error (handed back, swallowed = `none`,
replaced = any other value) - given that the callback's flag `verificationSucceeded` says whether the loop stopped
with "done" (`hs`; in `PR.toRes` only the `done` result sets the flag), that something was processed then (`hn`) and
`herrs` as above.
(The translation reads `errors.Is` as equality of error values: context added around an error is not represented
there; that side is covered by the correspondence run, input field `wrap`.) -/
theorem source_Verify_tail_is_model_tail (artifactRef : String) (art : ocispec.Descriptor) (errExc : GoLite.Err) (err : Option GoLite.Err)
    (num : Int) (succ : Bool) (outs : List (Option VerificationOutcome)) (errs : List (Option GoLite.Err))
    (herrs : (GoLite.errJoin errs).isSome = true)
    (r : Except Stop Nat) (log : Log)
    (hs : succ = (match r with | .error (.done _) => true | _ => false))
    (hn : succ = true → num ≠ 0) :
    (verifyTail artifactRef art errExc err num succ outs errs).2.2.isNone =
      (tail (retOf errExc err) r log).success.isSome := by
  rw [(source_Verify_tail_refines_model artifactRef art errExc err num succ outs errs herrs).1, tail_success]
  have hsucc : (succOf r).isSome = succ := by
    subst hs; rcases r with (_ | _ | _) | _ <;> rfl
  have hnum : (num != 0 && succ) = succ := by
    cases succ with
    | false => simp
    | true => simp [hn rfl]
  cases err with
  | none => simp [retOf, hsucc, hnum]
  | some e =>
    by_cases hd : e = errDoneVerification
    · simp [retOf, hd, hsucc, hnum]
    · by_cases hx : e = errExc
      · subst hx; simp [retOf, hd]
      · simp [retOf, hd, hx]

/-- non-vacuity: the translated callback on a page [bad, good] with limit 3 stops at the second
signature with the done sentinel, two attempts counted -/
example :
    let w : World := { fetch := fun d => (⟨d.Size.toNat⟩, { d with MediaType := "application/jose+json" }, none),
                       verify := fun _ b _ => if b.id = 1 then (some ⟨1, none⟩, none) else (some ⟨b.id, some ⟨"bad"⟩⟩, some ⟨"bad"⟩),
                       art := default, ar := "r" }
    let d (k : Int) : ocispec.Descriptor := { MediaType := "m", Digest := "d", Size := k, Annotations := [] }
    ((verifyPage 3 w.fetch w.verify w.art ⟨"ErrorVerificationFailed"⟩ 0 false [] [] ⟨"r", ""⟩ [d 0, d 1]).1,
     (verifyPage 3 w.fetch w.verify w.art ⟨"ErrorVerificationFailed"⟩ 0 false [] [] ⟨"r", ""⟩ [d 0, d 1]).2.1) =
      (some errDoneVerification, 2) := by decide +kernel

end Tie

end NotationModel.C10
