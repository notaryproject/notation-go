/-
C18 - `(*pluginPrimitiveSigner).Sign` (signer/plugin.go), the one place where the raw signature of a
signature-generator plugin enters the library, translated on every run (Generated/SrcC18d.lean)
and tied for EVERY plugin behaviour (any response, any error), every key spec, payload and
configuration:

* the plugin is asked exactly once, with the caller's payload UNCHANGED, the signer's key id, the
  encoded key spec and its hash (the translated codecs of Generated/SrcC18c.lean, tied to the model in
  Props/C18.lean), the contract version and the signer's plugin configuration;
* an error of the codecs, of the plugin or of the certificate parser, and a response under ANOTHER
  key id, yield an error and neither signature nor certificates;
* otherwise the signature handed on is the response's, byte for byte - the signer converts nothing
  (which is what lets the envelope's own verification judge it: seeded C18-21 put a conversion here).
-/
import NotationModel.Generated.SrcC18d
import NotationModel.Generated.C17

namespace NotationModel.C18.TieP
open NotationModel.Src NotationModel.Src.c18d

abbrev Out := Option Bytes × Option (List Cert) × Option GoLite.Err

def refuse (e : GoLite.Err) : Out := (none, none, some e)

/-- the request the plugin receives -/
def requestOf (s : pluginPrimitiveSigner) (payload : Bytes) : plugin.GenerateSignatureRequest :=
  { ContractVersion := plugin.ContractVersion, KeyID := s.keyID,
    KeySpec := (proto.EncodeKeySpec s.keySpec).1, Hash := (proto.HashAlgorithmFromKeySpec s.keySpec).1,
    Payload := payload, PluginConfig := s.pluginConfig }

/-- the specification (what it amounts to: `spec_cases`) -/
def spec (s : pluginPrimitiveSigner) (payload : Bytes) : Out :=
  match (proto.EncodeKeySpec s.keySpec).2 with
  | some e => refuse e
  | none =>
    match (proto.HashAlgorithmFromKeySpec s.keySpec).2 with
    | some e => refuse e
    | none =>
      match s.generate (requestOf s payload) with
      | (_, some e) => refuse e
      | (resp, none) =>
        if s.keyID != (GoLite.deref resp).KeyID then refuse ⟨"error"⟩
        else
          match s.parse (GoLite.deref resp).CertificateChain with
          | (_, some e) => refuse e
          | (certs, none) => ((GoLite.deref resp).Signature, some certs, none)

-- one of `hk`, `hk2` below is idle, whichever way round the source compares the key ids
set_option linter.unusedSimpArgs false in
/-- **Tie.** The translated function is the specification, for every signer value (every plugin
and parser behaviour), and every payload. -/
theorem source_primitiveSign_refines_spec (s : pluginPrimitiveSigner) (payload : Bytes) :
    pluginPrimitiveSigner.Sign s payload = spec s payload := by
  unfold pluginPrimitiveSigner.Sign spec requestOf
  cases proto.EncodeKeySpec s.keySpec with
  | mk ks e1 =>
    cases e1 with
    | some e => simp [Id.run, GoLite.idPure, refuse]
    | none =>
      cases proto.HashAlgorithmFromKeySpec s.keySpec with
      | mk hs e2 =>
        cases e2 with
        | some e => simp [Id.run, GoLite.idPure, refuse]
        | none =>
          cases h3 : s.generate ⟨plugin.ContractVersion, s.keyID, ks, hs, payload, s.pluginConfig⟩ with
          | mk resp e3 =>
            cases e3 with
            | some e =>
              simp [Id.run, GoLite.idPure, refuse, h3, pluginPrimitiveSigner.GenerateSignature]
            | none =>
              by_cases hk : (GoLite.deref resp).KeyID = s.keyID
              · cases h4 : s.parse (GoLite.deref resp).CertificateChain with
                | mk certs e4 =>
                  cases e4 <;>
                    simp [Id.run, GoLite.idPure, refuse, h3, h4, hk,
                      pluginPrimitiveSigner.GenerateSignature, pluginPrimitiveSigner.parseCertChain]
              · have hk2 : ¬ s.keyID = (GoLite.deref resp).KeyID := fun e => hk e.symm
                simp [Id.run, GoLite.idPure, refuse, h3, hk, hk2, pluginPrimitiveSigner.GenerateSignature,
                  GoLite.errorf]

theorem spec_cases (s : pluginPrimitiveSigner) (payload : Bytes) :
    (∃ e, spec s payload = refuse e) ∨
    ∃ resp certs, s.generate (requestOf s payload) = (resp, none) ∧ (GoLite.deref resp).KeyID = s.keyID ∧
      s.parse (GoLite.deref resp).CertificateChain = (certs, none) ∧
      spec s payload = ((GoLite.deref resp).Signature, some certs, none) := by
  unfold spec
  split
  · exact .inl ⟨_, rfl⟩
  split
  · exact .inl ⟨_, rfl⟩
  split
  · exact .inl ⟨_, rfl⟩
  next resp hg =>
    by_cases hk : (GoLite.deref resp).KeyID = s.keyID
    · rw [if_neg (by simpa using hk.symm)]
      split
      · exact .inl ⟨_, rfl⟩
      next certs hp => exact .inr ⟨resp, certs, hg, hk, hp, rfl⟩
    · rw [if_pos (by simpa using fun e => hk e.symm)]
      exact .inl ⟨_, rfl⟩

/-- **The signature handed on is the plugin's, unchanged**, under the signer's own key id, with the
certificates the parser made of the response's chain; and the plugin was asked with the caller's
payload unchanged. -/
theorem source_primitiveSign_success (s : pluginPrimitiveSigner) (payload : Bytes)
    (h : (pluginPrimitiveSigner.Sign s payload).2.2 = none) :
    ∃ resp, s.generate (requestOf s payload) = (resp, none) ∧ (requestOf s payload).Payload = payload ∧
      (GoLite.deref resp).KeyID = s.keyID ∧
      (pluginPrimitiveSigner.Sign s payload).1 = (GoLite.deref resp).Signature ∧
      (s.parse (GoLite.deref resp).CertificateChain).2 = none ∧
      (pluginPrimitiveSigner.Sign s payload).2.1 = some (s.parse (GoLite.deref resp).CertificateChain).1 := by
  rw [source_primitiveSign_refines_spec] at *
  rcases spec_cases s payload with ⟨e, he⟩ | ⟨resp, certs, hg, hk, hp, he⟩ <;> rw [he] at h ⊢
  · cases h
  · exact ⟨resp, hg, rfl, hk, rfl, by rw [hp], by rw [hp]⟩

/-- **Every failure hands on nothing**: no signature and no certificates come with an error. -/
theorem source_primitiveSign_failure (s : pluginPrimitiveSigner) (payload : Bytes)
    (h : (pluginPrimitiveSigner.Sign s payload).2.2 ≠ none) :
    (pluginPrimitiveSigner.Sign s payload).1 = none ∧ (pluginPrimitiveSigner.Sign s payload).2.1 = none := by
  rw [source_primitiveSign_refines_spec] at *
  rcases spec_cases s payload with ⟨e, he⟩ | ⟨resp, certs, _, _, _, he⟩ <;> rw [he] at h ⊢
  · exact ⟨rfl, rfl⟩
  · exact absurd rfl h

/-- **A response under another key id is refused**, whatever else it carries. -/
theorem source_primitiveSign_other_key_refused (s : pluginPrimitiveSigner) (payload : Bytes)
    (resp : Option plugin.GenerateSignatureResponse)
    (hg : s.generate (requestOf s payload) = (resp, none)) (hk : (GoLite.deref resp).KeyID ≠ s.keyID) :
    (pluginPrimitiveSigner.Sign s payload).2.2.isSome := by
  rw [source_primitiveSign_refines_spec]
  rcases spec_cases s payload with ⟨e, he⟩ | ⟨resp', certs, hg', hk', _, _⟩
  · rw [he]
    rfl
  · rw [hg] at hg'
    cases hg'
    exact absurd hk' hk

/-- the contract version of Src/TypesC18d.lean is the one read from notation-plugin-framework-go this run
(`Generated/C17.lean`) -/
theorem contract_version_matches_source : plugin.ContractVersion = Facts.contractVersion := by decide

/-! non-vacuity -/

def exSigner (sig : Option Bytes) (kid : String) : pluginPrimitiveSigner :=
  { keyID := "k1", keySpec := ⟨.KeyTypeEC, 384⟩, pluginConfig := [("a", "b")],
    generate := fun req => (some { KeyID := kid, Signature := sig, SigningAlgorithm := "ECDSA-SHA-384",
                                   CertificateChain := [req.Payload] }, none),
    parse := fun ders => (ders.map (⟨·⟩), none) }

example : pluginPrimitiveSigner.Sign (exSigner (some [1, 2, 3]) "k1") [7, 7] = (some [1, 2, 3], some [⟨[7, 7]⟩], none) := by
  decide

example : (pluginPrimitiveSigner.Sign (exSigner (some [1, 2, 3]) "k2") [7, 7]).2.2.isSome = true := by decide

end NotationModel.C18.TieP
