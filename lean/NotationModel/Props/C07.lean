/-
C07 - What the library signs, it verifies - and it reports what was signed.
Theorems about `Model/C07.lean` (tables: the regenerated facts of `Generated/C07.lean`) and the closed forms they are
stated with: the signing API (`signModel_eq`), the two verifying APIs on what was signed (`verifyOCI_signed`,
`verifyBlob_signed`), the round trip (`runWith_eq`, `obsSpec`); then `model_holds`, the readable theorems, test vectors
and the tie to the translated source.
-/
import NotationModel.Model.C07
import NotationModel.Props.C11
import NotationModel.Generated.SrcC07
import NotationModel.Generated.SrcC07b
import NotationModel.Generated.SrcC07c
import NotationModel.Generated.SrcC07d
namespace NotationModel.C07
open NotationModel.Facts

/-! facts -/
theorem facts_sanitize : c07SanitizeFields = ["Annotations", "Digest", "MediaType", "Size"] ∧
    c07GenericSignSanitizes = true ∧ c07EnvelopePluginSanitizes = true := ⟨rfl, rfl, rfl⟩

theorem facts_guards : guardPresent "signOpts.ExpiryDuration<0" = true ∧
    guardPresent "signOpts.ExpiryDuration%time.Second!=0" = true ∧
    c07SignOCIFirstCall = "validateSignArguments" ∧ c07SignBlobFirstCall = "validateSignArguments" :=
  ⟨by decide +kernel, by decide +kernel, rfl, rfl⟩

theorem facts_reserved : c07ReservedPrefixes = ["io.cncf.notary"] := rfl

theorem facts_returns : c07UserMetadataReturns = "payload.TargetArtifact.Annotations" := rfl

def specAlg : KeySpec → String
  | .rsa2048 => "PS256" | .rsa3072 => "PS384" | .rsa4096 => "PS512"
  | .ec256 => "ES256" | .ec384 => "ES384" | .ec521 => "ES512"

/-- a fact about every key spec that mentions closed tables only is one evaluation over `KeySpec.all` -/
@[elab_as_elim]
theorem KeySpec.forall_of_all {P : KeySpec → Prop} (h : ∀ k ∈ KeySpec.all, P k) (k : KeySpec) : P k :=
  h k (by cases k <;> decide)

/-! ### codec round trips (regenerated tables of plugin/proto/algorithm.go) -/

theorem lookup_inverse {α β : Type} [BEq α] [LawfulBEq α] [BEq β] {l : List (α × β)} {m : List (β × α)}
    (h : ∀ p ∈ l, m.lookup p.2 = some p.1) {a : α} {b : β} (hl : l.lookup a = some b) : m.lookup b = some a := by
  induction l with
  | nil => cases hl
  | cons p l ih =>
    obtain ⟨k, v⟩ := p
    rw [List.lookup_cons] at hl
    split at hl
    · rename_i hk
      cases hl
      rw [eq_of_beq hk]
      exact h _ List.mem_cons_self
    · exact ih (fun p hp => h p (List.mem_cons_of_mem _ hp)) hl

theorem decodeKeySpec_encodeKeySpec (k : KeySpec) :
    c07ProtoEncodeKeySpec.lookup k.core = some k.protoName ∧
    c07ProtoDecodeKeySpec.lookup k.protoName = some k.core :=
  KeySpec.forall_of_all (by decide +kernel) k

theorem encodeKeySpec_decodeKeySpec (name : String) (ks : String × Nat)
    (h : c07ProtoDecodeKeySpec.lookup name = some ks) : c07ProtoEncodeKeySpec.lookup ks = some name :=
  lookup_inverse (by decide +kernel) h

theorem decodeKeySpec_encodeKeySpec_any (ks : String × Nat) (name : String)
    (h : c07ProtoEncodeKeySpec.lookup ks = some name) : c07ProtoDecodeKeySpec.lookup name = some ks :=
  lookup_inverse (by decide +kernel) h

theorem decodeSigAlg_encodeSigAlg (alg name : String)
    (h : c07ProtoEncodeSigAlg.lookup alg = some name) : c07ProtoDecodeSigAlg.lookup name = some alg :=
  lookup_inverse (by decide +kernel) h

theorem encodeSigAlg_decodeSigAlg (name alg : String)
    (h : c07ProtoDecodeSigAlg.lookup name = some alg) : c07ProtoEncodeSigAlg.lookup alg = some name :=
  lookup_inverse (by decide +kernel) h

theorem sigAlg_encodable (k : KeySpec) : (c07ProtoEncodeSigAlg.lookup (specAlg k)).isSome = true :=
  KeySpec.forall_of_all (by decide +kernel) k

/-! ### the algorithm tables, row by row -/

theorem coreSigAlg_core (k : KeySpec) : coreSigAlg k.core = some (specAlg k) :=
  KeySpec.forall_of_all (by decide +kernel) k

theorem coreHash_specAlg (k : KeySpec) : coreHash (specAlg k) = some (specDigestAlg k) :=
  KeySpec.forall_of_all (by decide +kernel) k

theorem signerDigestAlg_eq (k : KeySpec) : signerDigestAlg k.core = some (specDigestAlg k) :=
  KeySpec.forall_of_all (by decide +kernel) k

theorem verifierDigestAlg_eq (k : KeySpec) : verifierDigestAlg (specAlg k) = some (specDigestAlg k) :=
  KeySpec.forall_of_all (by decide +kernel) k

/-- only the plugin signers learn the key spec over the wire -/
theorem signerKeySpec_eq (s : SignerKind) (k : KeySpec) : signerKeySpec s k = some k.core := by
  cases s with
  | localKey | localFiles => rfl
  | pluginSignature | pluginEnvelope => exact (decodeKeySpec_encodeKeySpec k).2

theorem ociKeySpec_eq (s : SignerKind) (k : KeySpec) : ociKeySpec s k = some k.core := by
  cases s with
  | pluginSignature => exact signerKeySpec_eq .pluginSignature k
  | _ => rfl

theorem headerAlg_eq (s : SignerKind) (k : KeySpec) : headerAlg s k k.core = some (specAlg k) := by
  cases s <;> exact coreSigAlg_core k

/-- the raw-signature plugin hashes with what its own tables name for the key spec, everybody else with the hash
of the key's algorithm -/
theorem primitiveHash_eq (s : SignerKind) (k : KeySpec) : primitiveHash s k k.core = some (specDigestAlg k) := by
  cases s with
  | pluginSignature => exact KeySpec.forall_of_all (by decide +kernel) k
  | _ => simp [primitiveHash, coreSigAlg_core, coreHash_specAlg]

theorem digestUnder_spec (b : Blob) (k : KeySpec) : b.digestUnder (specDigestAlg k) = some (b.specDigest k) := by
  cases k <;> rfl

/-! ### readers: io.Copy hashes the whole byte sequence, however it is delivered -/

theorem delivered_replicate (k n : Nat) (xs : List (Nat × Bool)) :
    delivered (List.replicate k (n, false) ++ xs) = n * k + delivered xs := by
  induction k with
  | zero => simp
  | succ k ih =>
    simp only [List.replicate_succ, List.cons_append, delivered, ih, Bool.false_eq_true, if_false]
    rw [Nat.mul_succ]; omega

/-- **Reader behaviour does not matter**: for every script of reads - any chunk sizes, one byte
at a time, zero-length reads with a nil error, the last bytes arriving together with io.EOF or
before it, any number of reads - the copy loop hashes exactly the byte sequence the reader
stands for (unbounded: induction over the script). -/
theorem copyLoop_eq_represented (steps : List ReadStep) :
    copyLoop steps = delivered (expandReads steps) := by
  induction steps with
  | nil => rfl
  | cons s rest ih =>
    simp only [copyLoop, expandReads]
    cases s.times with
    | zero => simp [ih]
    | succ t =>
      cases s.eof
      · simp [delivered_replicate, delivered, ih, Nat.mul_succ]
        omega
      · simp [delivered_replicate, delivered, Nat.mul_succ]

theorem wf_blob (i : Input) (hwf : wf i = true) (hk : i.kind = .blob) :
    ((copyLoop i.signReader.steps : Nat) : Int) = i.blob.size ∧
    ((copyLoop i.verifyReader.steps : Nat) : Int) = i.blob.size := by
  simp only [wf, hk, Bool.or_eq_true, beq_iff_eq, Bool.and_eq_true, represented] at hwf
  rcases hwf with h | h
  · cases h
  · rw [copyLoop_eq_represented, copyLoop_eq_represented]
    exact ⟨of_decide_eq_true h.1, of_decide_eq_true h.2⟩

theorem digestOfFirst_all (b : Blob) (k : KeySpec) :
    b.digestOfFirst (specDigestAlg k) b.size = some (b.specDigest k) := by
  simp [Blob.digestOfFirst, digestUnder_spec]

theorem digestOfFirst_truncated (b : Blob) (k : KeySpec) (n : Int) (hn : n ≠ b.size) :
    b.digestOfFirst (specDigestAlg k) n = some ("truncated:" ++ b.specDigest k) := by
  simp [Blob.digestOfFirst, digestUnder_spec, hn]

/-! ### maps as association lists: insertion, the metadata merge, containment -/

/- `kvInsert` keeps a sorted list sorted, which is what is observed; no lemma below needs sortedness. -/
theorem kvLookup_insert (k v k' : String) (m : List KV) :
    kvLookup k' (kvInsert k v m) = if k = k' then some v else kvLookup k' m := by
  induction m with
  | nil => simp [kvInsert, kvLookup]
  | cons x xs ih =>
    simp only [kvInsert]
    split
    · simp [kvLookup]
    · split
      · rename_i h; subst h; simp only [kvLookup]; split <;> simp_all
      · rename_i h1 h2
        simp only [kvLookup, ih]
        by_cases h3 : x.k = k'
        · have : ¬ k = k' := by intro h; exact h2 (h ▸ h3)
          simp [h3, this]
        · simp [h3]

theorem kvHas_insert (k v k' : String) (m : List KV) :
    kvHas k' (kvInsert k v m) = (k' == k || kvHas k' m) := by
  unfold kvHas
  rw [kvLookup_insert]
  by_cases h : k' = k
  · simp [h]
  · simp [h, Ne.symm h]

theorem reserved_eq (k : String) : reserved k = specReserved k := by
  simp [reserved, specReserved, facts_reserved]

theorem mergeKV_cons (a : List KV) (m : KV) (ms : List KV) :
    mergeKV a (m :: ms) = mergeKV (kvInsert m.k m.v a) ms := rfl

theorem legalMetadata_insert (m : KV) (a ms : List KV) :
    legalMetadata (kvInsert m.k m.v a) ms = (legalMetadata a ms && !ms.any (fun x => x.k == m.k)) := by
  induction ms with
  | nil => rfl
  | cons x xs ih =>
    simp only [legalMetadata, ih, kvHas_insert, List.any_cons, Bool.not_or]
    ac_rfl

/-- `addUserMetadataToDescriptor` succeeds exactly on legal metadata, and then yields the merge -/
theorem addUserMetadata_eq (a ms : List KV) :
    addUserMetadata a ms = if legalMetadata a ms then some (mergeKV a ms) else none := by
  induction ms generalizing a with
  | nil => rfl
  | cons m ms ih =>
    rw [addUserMetadata, reserved_eq, ih, legalMetadata, legalMetadata_insert, mergeKV_cons]
    cases specReserved m.k <;> cases kvHas m.k a <;> cases legalMetadata a ms <;>
      cases (ms.any fun x => x.k == m.k) <;> rfl

theorem kvLookup_isSome (k : String) (l : List KV) : (kvLookup k l).isSome = l.any (fun x => x.k == k) := by
  induction l with
  | nil => rfl
  | cons x xs ih =>
    rw [kvLookup, List.any_cons, ← ih]
    split
    · rename_i h; rw [h, beq_self_eq_true]; rfl
    · rename_i h; rw [beq_false_of_ne h]; rfl

theorem mem_kvLookup_isSome (x : KV) (l : List KV) (h : x ∈ l) : (kvLookup x.k l).isSome = true := by
  rw [kvLookup_isSome]
  exact List.any_eq_true.mpr ⟨x, h, beq_self_eq_true _⟩

theorem kvLookup_merge (k : String) (a ms : List KV) (h : legalMetadata a ms = true) :
    kvLookup k (mergeKV a ms) = (kvLookup k ms).orElse (fun _ => kvLookup k a) := by
  induction ms generalizing a with
  | nil => simp [mergeKV, kvLookup]
  | cons m ms ih =>
    simp only [legalMetadata, Bool.and_eq_true, Bool.not_eq_true'] at h
    obtain ⟨⟨⟨h1, h2⟩, h3⟩, h4⟩ := h
    have hl : legalMetadata (kvInsert m.k m.v a) ms = true := by
      rw [legalMetadata_insert]; simp [h4, h3]
    rw [mergeKV_cons, ih _ hl, kvLookup_insert]
    by_cases hk : m.k = k
    · subst hk
      rw [← kvLookup_isSome, Option.isSome_eq_false_iff, Option.isNone_iff_eq_none] at h3
      simp [kvLookup, h3]
    · simp [kvLookup, hk]

theorem kvSubset_iff (w l : List KV) : kvSubset w l = true ↔ ∀ x ∈ w, kvLookup x.k l = kvLookup x.k w := by
  simp only [kvSubset, List.all_eq_true, beq_iff_eq]

theorem kvSubset_refl (a : List KV) : kvSubset a a = true :=
  (kvSubset_iff a a).mpr fun _ _ => rfl

theorem kvSubset_merge (a ms : List KV) (h : legalMetadata a ms = true) :
    kvSubset ms (mergeKV a ms) = true := by
  rw [kvSubset_iff]
  intro x hx
  rw [kvLookup_merge _ _ _ h]
  have := mem_kvLookup_isSome x ms hx
  cases hl : kvLookup x.k ms with
  | none => rw [hl] at this; cases this
  | some v => rfl

/-- writing `k ↦ v` into `l` would change what `l` answers under `k`; for the annotation an envelope plugin appends
this is `unfaithful .addAnnotation` -/
def overrides (k v : String) (l : List KV) : Bool :=
  match kvLookup k l with
  | none => false
  | some v' => v' != v

theorem unfaithful_addAnnotation (p : DescObs) :
    unfaithful .addAnnotation p = overrides pluginAddedKey pluginAddedValue p.annotations := rfl

theorem kvSubset_insert_of_subset (w l : List KV) (k v : String) (h : kvSubset w l = true)
    (hn : overrides k v l = false) : kvSubset w (kvInsert k v l) = true := by
  rw [kvSubset_iff] at h ⊢
  intro x hx
  have hp := mem_kvLookup_isSome x w hx
  rw [← h x hx] at hp ⊢
  rw [kvLookup_insert]
  split
  · -- the entry under `k` is there, and is `v` already
    rename_i hk
    subst hk
    unfold overrides at hn
    cases hl : kvLookup x.k l with
    | none => rw [hl] at hp; cases hp
    | some v' => rw [hl] at hn; rw [bne_eq_false_iff_eq.mp hn]
  · rfl

theorem kvSubset_insert (k v : String) (l : List KV) :
    kvSubset l (kvInsert k v l) = !overrides k v l := by
  cases ho : overrides k v l with
  | false => exact kvSubset_insert_of_subset l l k v (kvSubset_refl l) ho
  | true =>
    unfold overrides at ho
    cases hl : kvLookup k l with
    | none => rw [hl] at ho; cases ho
    | some v' =>
      rw [hl] at ho
      have hs : (kvLookup k l).isSome = true := by rw [hl]; rfl
      rw [kvLookup_isSome, List.any_eq_true] at hs
      obtain ⟨x, hx, hxk⟩ := hs
      simp only [kvSubset, Bool.not_true, List.all_eq_false, beq_iff_eq]
      refine ⟨x, hx, ?_⟩
      rw [eq_of_beq hxk, kvLookup_insert, hl, if_pos rfl]
      exact fun h => (bne_iff_ne.mp ho) (Option.some.inj h).symm
/-! ### the payload that is signed -/

def sanitised (d : FullDesc) : DescObs :=
  { mediaType := d.mediaType, digest := d.digest, size := d.size, annotations := d.annotations, extraKeys := [] }

theorem payloadOf_sanitised (d : FullDesc) : payloadOf true d = sanitised d := by
  have hk : keep "MediaType" = true ∧ keep "Digest" = true ∧ keep "Size" = true ∧ keep "Annotations" = true ∧
      keep "ArtifactType" = false ∧ keep "Data" = false ∧ keep "Platform" = false ∧ keep "URLs" = false := by
    decide +kernel
  simp [payloadOf, project, sanitised, hk]

/-! ### envelope-generator plugins: only a faithful payload is accepted -/

theorem otherThan_ne (v a b : String) (hab : a ≠ b) : otherThan v a b ≠ v := by
  unfold otherThan
  split
  · rename_i h; rw [h]; exact fun e => hab e.symm
  · rename_i h; exact fun e => h e.symm

theorem kvLookup_filter_ne (k : String) (l : List KV) : kvLookup k (l.filter (fun x => x.k != k)) = none := by
  rw [← Option.isNone_iff_eq_none, ← Option.isSome_eq_false_iff, kvLookup_isSome]
  simp [List.any_filter]

theorem kvLookup_map_changed (k : String) (f : String → String) (l : List KV) :
    kvLookup k (l.map (fun x => if x.k = k then ⟨x.k, f x.v⟩ else x)) = (kvLookup k l).map f := by
  induction l with
  | nil => rfl
  | cons x xs ih =>
    simp only [List.map_cons, kvLookup]
    by_cases h : x.k = k
    · simp [h]
    · simp [h, ih]

theorem tolerated_unknown : c07PluginPayloadTolerated.contains "c07Unknown" = false := by decide +kernel

theorem kvSubset_cons_false (a : KV) (rest l : List KV) (h : kvLookup a.k l ≠ some a.v) :
    kvSubset (a :: rest) l = false := by
  simp only [kvSubset, List.all_eq_false, beq_iff_eq]
  exact ⟨a, List.mem_cons_self, by simpa [kvLookup] using h⟩

theorem plugin_check_annotations (d : FullDesc) (p : DescObs) (h1 : p.mediaType = d.mediaType)
    (h2 : p.digest = d.digest) (h3 : p.size = d.size) (h4 : p.extraKeys = []) :
    (payloadDescriptorValid d p && !unknownAttributesAdded p) = kvSubset d.annotations p.annotations := by
  simp [payloadDescriptorValid, unknownAttributesAdded, h1, h2, h3, h4]

/-- **The envelope-plugin check, characterised**: the payload a plugin returns is accepted
exactly when the plugin was faithful to the requested payload (an appended annotation that
overrides nothing is allowed), for descriptors with any annotations -/
theorem plugin_check_eq (t : Tamper) (d : FullDesc) :
    (payloadDescriptorValid d (tamperPayload t (sanitised d)) &&
      !unknownAttributesAdded (tamperPayload t (sanitised d))) = !unfaithful t (sanitised d) := by
  obtain ⟨mt, dg, sz, ann, urls, pf, data, aty⟩ := d
  cases t with
  | faithful | reserialised => exact (plugin_check_annotations _ _ rfl rfl rfl rfl).trans (kvSubset_refl _)
  | dropAnnotation =>
    cases ann with
    | nil => exact plugin_check_annotations _ _ rfl rfl rfl rfl
    | cons a rest =>
      refine (plugin_check_annotations _ _ rfl rfl rfl rfl).trans (kvSubset_cons_false a rest _ ?_)
      show kvLookup a.k ((a :: rest).filter (fun x => x.k != a.k)) ≠ some a.v
      rw [kvLookup_filter_ne a.k]
      exact nofun
  | addAnnotation =>
    exact (plugin_check_annotations _ _ rfl rfl rfl rfl).trans (kvSubset_insert _ _ _)
  | changeAnnotation =>
    cases ann with
    | nil => exact plugin_check_annotations _ _ rfl rfl rfl rfl
    | cons a rest =>
      refine (plugin_check_annotations _ _ rfl rfl rfl rfl).trans (kvSubset_cons_false a rest _ ?_)
      show kvLookup a.k ((a :: rest).map fun x =>
        if x.k = a.k then ⟨x.k, otherThan x.v "c07-changed" "c07-changed-2"⟩ else x) ≠ some a.v
      rw [kvLookup_map_changed a.k (fun v => otherThan v "c07-changed" "c07-changed-2")]
      simp only [kvLookup, if_true, Option.map_some]
      exact fun h => otherThan_ne _ _ _ (by decide) (Option.some.inj h)
  | changeMediaType =>
    have : (mt == otherThan mt "application/x-c07-changed" "application/x-c07-changed-2") = false :=
      beq_false_of_ne fun h => otherThan_ne _ _ _ (by decide) h.symm
    simp [tamperPayload, unfaithful, payloadDescriptorValid, sanitised, this]
  | changeSize =>
    have : (sz == sz + 1) = false := beq_false_of_ne (by omega)
    simp [tamperPayload, unfaithful, payloadDescriptorValid, sanitised, this]
  | addUnknownField =>
    simp only [tamperPayload, unfaithful, unknownAttributesAdded, sanitised, List.nil_append, List.any_cons, List.any_nil,
      tolerated_unknown]
    simp

theorem tamperPayload_of_faithful (t : Tamper) (p : DescObs) (h : unfaithful t p = false) :
    tamperPayload t p =
      if t = .addAnnotation then { p with annotations := kvInsert pluginAddedKey pluginAddedValue p.annotations }
      else p := by
  cases t with
  | faithful | reserialised | addAnnotation => rfl
  | changeMediaType | changeSize | addUnknownField => cases h
  | dropAnnotation | changeAnnotation =>
    -- faithful only where there is no annotation to lose or change
    have hn : p.annotations = [] := by simpa [unfaithful] using h
    simp [tamperPayload, hn]

/-! ### the signing API in closed form -/

/-- with a whole number of seconds the expiry is the (truncated) signing time plus the duration,
whatever the sub-second part of the clock and whoever computes it -/
theorem protectedAttrs_eq (alg : String) (p : DescObs) (ep : Bool) (d nowNs : Int) (x : ExtAttrs)
    (hd : d % 1000000000 = 0) :
    protectedAttrs alg p ep d nowNs x =
      { alg := alg, payloadType := payloadTypeV1, payload := p, signingTime := nowNs / 1000000000,
        expiry := if d ≠ 0 then some (nowNs / 1000000000 + d / 1000000000) else none,
        ext := if ep then x else .none } := by
  have h1 : (d / 1000000000) * 1000000000 = d := by omega
  have h2 : (nowNs + d) / 1000000000 = nowNs / 1000000000 + d / 1000000000 := by omega
  cases ep <;> simp [protectedAttrs, h1, h2]

def envelopeOf (C : Crypto) (key : C.Key) (i : Input) (attrs : Protected) : Envelope C :=
  { format := i.format, attrs := attrs, agent := i.agent, signer := C.pub key,
    sig := C.sign key ⟨specDigestAlg i.keySpec, attrs⟩ }

/-- notation-core-go verifies what it has just signed: with the hash of the key's algorithm that succeeds -/
theorem integrity_signed (C : Crypto) (key : C.Key) (k : KeySpec) (f : Format) (agent : String) (a : Protected)
    (h : a.alg = specAlg k) :
    Envelope.integrity (C := C) { format := f, attrs := a, agent := agent, signer := C.pub key, sig := C.sign key ⟨specDigestAlg k, a⟩ } = true := by
  simp [Envelope.integrity, h, coreHash_specAlg, C.correct]

theorem integrity_envelopeOf (C : Crypto) (key : C.Key) (i : Input) (attrs : Protected)
    (h : attrs.alg = specAlg i.keySpec) : (envelopeOf C key i attrs).integrity = true :=
  integrity_signed C key i.keySpec i.format i.agent attrs h

theorem signArgsOk_eq (d : Int) : signArgsOk d = (decide (0 ≤ d) && decide (d % 1000000000 = 0)) := by
  simp only [signArgsOk, facts_guards.1, facts_guards.2.1, Bool.true_and, ← decide_not, Int.not_lt, Decidable.not_not]

def expectedAttrs (i : Input) (nowNs : Int) : Protected :=
  { alg := specAlg i.keySpec, payloadType := payloadTypeV1, payload := expectedPayload i,
    signingTime := nowNs / 1000000000,
    expiry := if i.durationNs ≠ 0 then some (nowNs / 1000000000 + i.durationNs / 1000000000) else none,
    ext := effectiveExt i }

theorem envelopeOf_attrs (C : Crypto) (key : C.Key) (i : Input) (a : Protected) : (envelopeOf C key i a).attrs = a := rfl
theorem expectedAttrs_alg (i : Input) (nowNs : Int) : (expectedAttrs i nowNs).alg = specAlg i.keySpec := rfl
theorem expectedAttrs_payload (i : Input) (nowNs : Int) : (expectedAttrs i nowNs).payload = expectedPayload i := rfl
theorem expectedAttrs_signingTime (i : Input) (nowNs : Int) :
    (expectedAttrs i nowNs).signingTime = nowNs / 1000000000 := rfl

/-- `Signer.Sign` on a descriptor whose sanitised form is the requested payload: the envelope plugin's answer is
checked (`plugin_check_eq`), everybody else signs what was asked; the envelope passes its own verification -/
theorem signDesc_requested (C : Crypto) (key : C.Key) (i : Input) (nowNs : Int) (d : FullDesc)
    (h1 : i.durationNs % 1000000000 = 0) (hreq : sanitised d = requestedPayload i) :
    signDesc C key i i.keySpec.core nowNs d =
      if unfaithful (effectiveTamper i) (requestedPayload i) then none
      else some (envelopeOf C key i (expectedAttrs i nowNs)) := by
  unfold signDesc
  -- both signing paths sanitise (regenerated facts)
  simp only [headerAlg_eq, primitiveHash_eq, facts_sanitize.2.1, facts_sanitize.2.2, ite_self, payloadOf_sanitised, hreq,
    protectedAttrs_eq _ _ _ _ _ _ h1]
  simp only [integrity_signed, bne_self_eq_false, Bool.not_true, Bool.false_eq_true, if_false]
  cases hs : (i.signer == SignerKind.pluginEnvelope)
  · -- no envelope plugin: nothing more is checked, and what is signed is what was asked
    have ht : effectiveTamper i = .faithful := by rw [effectiveTamper, hs]; rfl
    simp [ht, hs, unfaithful, envelopeOf, expectedAttrs, expectedPayload, effectiveExt]
  · -- an envelope plugin: its two guards together are `plugin_check_eq`
    have ht : effectiveTamper i = i.tamper := by rw [effectiveTamper, hs]; rfl
    have hc := plugin_check_eq i.tamper d
    rw [hreq] at hc
    rw [ht]
    simp only [Bool.true_and, if_true]
    cases hu : unfaithful i.tamper (requestedPayload i) <;> rw [hu] at hc
    · -- both guards pass, and what the plugin signed is what verification must report
      simp only [Bool.not_false, Bool.and_eq_true, Bool.not_eq_true'] at hc
      have hp : tamperPayload i.tamper (requestedPayload i) = expectedPayload i := by
        rw [tamperPayload_of_faithful _ _ hu, expectedPayload, ht]
      rw [hc.1, hc.2, hp]
      simp [envelopeOf, expectedAttrs, effectiveExt, hs]
    · -- one of the two fires
      simp only [Bool.not_true, Bool.and_eq_false_iff, Bool.not_eq_false'] at hc
      rcases hc with hc | hc <;> simp [hc]

theorem requestedPayload_oci (i : Input) (hk : i.kind = .oci) :
    requestedPayload i =
      { mediaType := i.desc.mediaType, digest := i.desc.digest, size := i.desc.size,
        annotations := mergeKV i.desc.annotations i.metadata, extraKeys := [] } := by
  simp [requestedPayload, hk]

theorem requestedPayload_blob (i : Input) (hk : i.kind = .blob) :
    requestedPayload i =
      { mediaType := i.contentMediaType, digest := i.blob.specDigest i.keySpec,
        size := i.blob.size, annotations := mergeKV [] i.metadata, extraKeys := [] } := by
  simp [requestedPayload, hk]

/-- **the signing API, characterised**: it refuses exactly the illegal arguments, and for legal
ones the envelope protects the sanitised descriptor with the metadata merged in, the truncated
signing time and signing time + duration - for every key spec, format, signer and crypto scheme -/
theorem signModel_eq (C : Crypto) (key : C.Key) (i : Input) (nowNs : Int) (hwf : wf i = true) :
    signModel C key i nowNs =
      if legal i then some (envelopeOf C key i (expectedAttrs i nowNs)) else none := by
  unfold signModel legal
  rw [signArgsOk_eq]
  cases hd : (decide (0 ≤ i.durationNs) && decide (i.durationNs % 1000000000 = 0))
  · rfl
  have h1 : i.durationNs % 1000000000 = 0 := by simp at hd; exact hd.2
  cases hk : i.kind with
  | oci =>
    have hreq : sanitised { i.desc with annotations := mergeKV i.desc.annotations i.metadata } = requestedPayload i :=
      (requestedPayload_oci i hk).symm
    simp only [ociKeySpec_eq, addUserMetadata_eq]
    cases legalMetadata i.desc.annotations i.metadata
    · rfl
    · simp only [Bool.not_true, Bool.false_eq_true, if_false, if_true, signDesc_requested C key i nowNs _ h1 hreq, Bool.true_and]
      cases unfaithful (effectiveTamper i) (requestedPayload i) <;> rfl
  | blob =>
    have hreq : sanitised (blobDescriptor i (i.blob.specDigest i.keySpec) i.blob.size (mergeKV [] i.metadata)) =
        requestedPayload i := (requestedPayload_blob i hk).symm
    simp only [signerKeySpec_eq, signerDigestAlg_eq, (wf_blob i hwf hk).1, digestOfFirst_all, addUserMetadata_eq]
    by_cases hm : i.contentMediaType = ""
    · simp [hm]
    cases hv : i.mediaTypeValid
    · simp [hm]
    cases hl : legalMetadata [] i.metadata
    · simp [hm]
    · simp only [if_true, signDesc_requested C key i nowNs _ h1 hreq]
      cases unfaithful (effectiveTamper i) (requestedPayload i) <;> simp [hm]

/-! ### the verifying side on what the signing side produced -/

/-- processSignature refuses the library's own signature: it has expired, or it carries a critical extended
attribute nobody processes -/
def blocked (i : Input) : Bool := expiredAtVerify i || unprocessedCritical i

theorem processSignature_signed (C : Crypto) (key : C.Key) (trust : C.Pub → Bool) (ht : trust (C.pub key) = true)
    (nowNs : Int) (i : Input) :
    processSignature trust (nowNs / 1000000000 + (i.lagSec : Int)) (envelopeOf C key i (expectedAttrs i nowNs)) =
      !blocked i := by
  rw [processSignature, integrity_envelopeOf C key i _ rfl]
  simp only [envelopeOf, expectedAttrs, ht, blocked, expiredAtVerify, unprocessedCritical, beq_self_eq_true, Bool.true_and,
    Bool.not_or]
  -- what is left is the expiry: with a duration, `s + lag < s + d / 1e9` says that `d / 1e9 ≤ lag` fails
  congr 1
  by_cases hd : i.durationNs = 0
  · simp [hd]
  · simp only [hd, ne_eq, not_false_eq_true, if_true, decide_true, Bool.true_and, ← Int.not_le, decide_not,
      Int.add_le_add_iff_left]

theorem expectedPayload_fields (i : Input) :
    (expectedPayload i).mediaType = (requestedPayload i).mediaType ∧
    (expectedPayload i).digest = (requestedPayload i).digest ∧
    (expectedPayload i).size = (requestedPayload i).size ∧
    (expectedPayload i).extraKeys = (requestedPayload i).extraKeys := by
  unfold expectedPayload; split <;> simp

theorem requestedPayload_annotations (i : Input) :
    (requestedPayload i).annotations =
      mergeKV (match i.kind with | .oci => i.desc.annotations | .blob => []) i.metadata := by
  unfold requestedPayload
  cases i.kind <;> rfl

theorem legalMetadata_of_legal (i : Input) (hl : legal i = true) :
    legalMetadata (match i.kind with | .oci => i.desc.annotations | .blob => []) i.metadata = true := by
  simp only [legal, Bool.and_eq_true] at hl
  cases hk : i.kind <;> simp only [hk, Bool.and_eq_true] at hl ⊢
  · exact hl.1.2
  · exact hl.1.2.2

theorem kvLookup_requested (i : Input) (hl : legal i = true) (k : String) :
    kvLookup k (requestedPayload i).annotations =
      (kvLookup k i.metadata).orElse
        (fun _ => kvLookup k (match i.kind with | .oci => i.desc.annotations | .blob => [])) := by
  rw [requestedPayload_annotations, kvLookup_merge _ _ _ (legalMetadata_of_legal i hl)]

theorem kvSubset_expected (i : Input) (w : List KV) (hl : legal i = true)
    (h : kvSubset w (requestedPayload i).annotations = true) :
    kvSubset w (expectedPayload i).annotations = true := by
  unfold expectedPayload
  split
  · -- the plugin's annotation overrides nothing, or the signing call would not have been legal
    rename_i ht
    simp only [legal, Bool.and_eq_true, Bool.not_eq_true'] at hl
    have hu := hl.2
    rw [ht, unfaithful_addAnnotation] at hu
    exact kvSubset_insert_of_subset _ _ _ _ h hu
  · exact h

/-- what the verification API answers on the envelope of a legal signing call -/
def verifySpec (i : Input) : Bool :=
  !blocked i &&
  (match i.kind with
   | .oci => kvSubset (wantedMetadata i) (expectedPayload i).annotations
   | .blob =>
     (addUserMetadata [] (wantedMetadata i)).isSome &&
     (statedMediaType i == "" || statedMediaType i == i.contentMediaType) &&
     kvSubset (wantedMetadata i) (expectedPayload i).annotations)

/-- ... under the applicable policy statement: one that demands a timestamp rejects the un-timestamped signature -/
def verifySpecP (i : Input) : Bool := !timestampDemanded i && verifySpec i

theorem kvSubset_nil (a : List KV) : kvSubset [] a = true := rfl

theorem kvSubset_wanted (i : Input) (hl : legal i = true) (hmd : i.verifyMetadata ≠ .wrong) :
    kvSubset (wantedMetadata i) (expectedPayload i).annotations = true := by
  apply kvSubset_expected i _ hl
  rw [requestedPayload_annotations]
  unfold wantedMetadata
  cases hv : i.verifyMetadata with
  | nothing => rfl
  | all => exact kvSubset_merge _ _ (legalMetadata_of_legal i hl)
  | wrong => exact absurd hv hmd

theorem verifySpec_of_consistent (i : Input) (hl : legal i = true) (hc : consistentVerify i = true)
    (he : blocked i = false) : verifySpec i = true := by
  simp only [consistentVerify, Bool.and_eq_true, bne_iff_ne, ne_eq, Bool.or_eq_true, beq_iff_eq] at hc
  simp only [verifySpec, he, kvSubset_wanted i hl hc.1, Bool.not_false, Bool.true_and, Bool.and_true]
  cases hk : i.kind with
  | oci => rfl
  | blob =>
    have hlm := legalMetadata_of_legal i hl
    rw [hk] at hlm
    have hadd : (addUserMetadata [] (wantedMetadata i)).isSome = true := by
      unfold wantedMetadata
      cases hv : i.verifyMetadata with
      | nothing => rfl
      | all => simp [addUserMetadata_eq, hlm]
      | wrong => exact absurd hv hc.1
    have hst : (statedMediaType i == "" || statedMediaType i == i.contentMediaType) = true := by
      unfold statedMediaType
      cases hv : i.verifyMediaType with
      | same => simp
      | unstated => rfl
      | other =>
        rcases hc.2 with h | h
        · rw [hk] at h; cases h
        · exact absurd hv h
    simp [hadd, hst]

theorem verifySpecP_of_consistent (i : Input) (hl : legal i = true) (hc : consistentVerify i = true)
    (he : blocked i = false) (hts : timestampDemanded i = false) : verifySpecP i = true := by
  simp [verifySpecP, hts, verifySpec_of_consistent i hl hc he]

theorem verifySpecP_of_critical (i : Input) (h : unprocessedCritical i = true) : verifySpecP i = false := by
  simp [verifySpecP, verifySpec, blocked, h]

def obsSpec (i : Input) : Obs :=
  if legal i then
    { signed := true, verified := verifySpecP i, payload := some (expectedPayload i),
      expirySec := if i.durationNs ≠ 0 then some (i.durationNs / 1000000000) else none,
      returned := if verifySpecP i then
          some (match i.kind with | .blob => expectedPayload i | .oci => fullObs i.desc) else none,
      userMetadata := if verifySpecP i then some (expectedPayload i).annotations else none }
  else noSignature

theorem userMetadataOf_eq (p : DescObs) : userMetadataOf p = p.annotations := by
  simp [userMetadataOf, facts_returns]

/-- verifier.Verify on the envelope of a legal signing call -/
theorem verifyOCI_signed (C : Crypto) (key : C.Key) (trust : C.Pub → Bool) (ht : trust (C.pub key) = true)
    (nowNs : Int) (i : Input) (hk : i.kind = .oci) :
    verifyOCI trust (nowNs / 1000000000 + (i.lagSec : Int)) i.desc (wantedMetadata i)
      (envelopeOf C key i (expectedAttrs i nowNs)) = verifySpec i := by
  have hf := expectedPayload_fields i
  rw [requestedPayload_oci i hk] at hf
  simp [verifyOCI, processSignature_signed C key trust ht, verifySpec, hk, envelopeOf_attrs, expectedAttrs_payload, hf.1,
    hf.2.1, hf.2.2.1]

/-- verifier.VerifyBlob + notation.VerifyBlob on the envelope of a legal signing call, the reader standing for the blob -/
theorem verifyBlob_signed (C : Crypto) (key : C.Key) (trust : C.Pub → Bool) (ht : trust (C.pub key) = true)
    (nowNs : Int) (i : Input) (hwf : wf i = true) (hk : i.kind = .blob) :
    verifyBlob trust (nowNs / 1000000000 + (i.lagSec : Int)) i.blob (copyLoop i.verifyReader.steps)
      (statedMediaType i) (wantedMetadata i) (envelopeOf C key i (expectedAttrs i nowNs)) =
      if verifySpec i then some (expectedPayload i) else none := by
  have hf := expectedPayload_fields i
  rw [requestedPayload_blob i hk] at hf
  simp only [verifyBlob, processSignature_signed C key trust ht, verifySpec, hk, envelopeOf_attrs, expectedAttrs_payload,
    expectedAttrs_alg, (wf_blob i hwf hk).2,
    verifierDigestAlg_eq, digestOfFirst_all, hf.1, hf.2.1, hf.2.2.1, bne_self_eq_false, Bool.false_or]
  by_cases hb : blocked i = true
  · simp [hb]
  cases hm : addUserMetadata [] (wantedMetadata i)
  · simp
  by_cases h3 : kvSubset (wantedMetadata i) (expectedPayload i).annotations = true <;>
    by_cases h1 : statedMediaType i = "" <;> by_cases h2 : statedMediaType i = i.contentMediaType <;>
    simp [hb, h1, h2, h3]

theorem runWith_eq (C : Crypto) (key : C.Key) (trust : C.Pub → Bool) (ht : trust (C.pub key) = true)
    (nowNs : Int) (i : Input) (hwf : wf i = true) : runWith C key trust nowNs i = obsSpec i := by
  unfold runWith obsSpec
  rw [signModel_eq C key i nowNs hwf]
  cases legal i
  · rfl
  have hexp : Option.map (fun x => x - nowNs / 1000000000) (expectedAttrs i nowNs).expiry =
      if i.durationNs ≠ 0 then some (i.durationNs / 1000000000) else none := by
    unfold expectedAttrs
    by_cases hd : i.durationNs = 0
    · simp [hd]
    · simp [hd] <;> omega
  simp only [if_true, envelopeOf_attrs, expectedAttrs_signingTime, expectedAttrs_payload, hexp, userMetadataOf_eq,
    verifySpecP]
  cases hk : i.kind with
  | oci => simp [verifyOCI_signed C key trust ht nowNs i hk]
  | blob =>
    simp only [verifyBlob_signed C key trust ht nowNs i hwf hk]
    by_cases hts : timestampDemanded i = true <;> by_cases hv : verifySpec i = true <;> simp [hts, hv]

/-! ### property theorems -/

theorem run_eq (i : Input) (hwf : wf i = true) : run i = obsSpec i := by
  unfold run
  apply runWith_eq _ _ _ _ _ _ hwf
  simp [toyTrust, toy]

/-- **C07, the whole property**: every clause of `Holds` is true of the model's behaviour, for
every well-formed input. `wf` is explicit and decidable: in a blob case both readers stand for
exactly the blob (the harness builds every reader script from the blob and checks it; the clause
`input_well_formed` makes the driver reject anything else). -/
theorem model_holds (i : Input) (hwf : wf i = true) : Holds i (run i) = true := by
  rw [run_eq i hwf]
  unfold Holds clauses obsSpec
  simp only [Clauses.holds_cons, Clauses.holds_nil, Bool.and_true, hwf, Bool.true_and]
  cases hl : legal i
  · simp [noSignature]
  simp only [if_true, Bool.true_and, beq_self_eq_true, Bool.and_true]
  -- three clauses need an argument; the others compare `obsSpec i` with itself
  have c3 : (!(consistentVerify i && !expiredAtVerify i && !unprocessedCritical i && !timestampDemanded i) ||
      verifySpecP i) = true := by
    cases h : (consistentVerify i && !expiredAtVerify i && !unprocessedCritical i && !timestampDemanded i)
    · rfl
    · simp only [Bool.and_eq_true, Bool.not_eq_true'] at h
      rw [verifySpecP_of_consistent i hl h.1.1.1 (by simp [blocked, h.1.1.2, h.1.2]) h.2]
      rfl
  have c4 : (!unprocessedCritical i || !verifySpecP i) = true := by
    cases h : unprocessedCritical i
    · rfl
    · rw [verifySpecP_of_critical i h]
      rfl
  rw [c3, c4]
  cases hk : i.kind
  · simp
  · simp [(expectedPayload_fields i).2.1, requestedPayload_blob i hk]

/-- **What the library signs, it verifies**: for every crypto scheme, key, key spec, format,
signer kind, descriptor or blob, legal user metadata, legal duration, signing agent and clock,
the signature the signing API produces is accepted by the verification API under a policy
that trusts the signer, when the caller asks for what was signed before the expiry. -/
theorem sign_then_verify_ok (C : Crypto) (key : C.Key) (trust : C.Pub → Bool)
    (ht : trust (C.pub key) = true) (nowNs : Int) (i : Input)
    (hwf : wf i = true) (hl : legal i = true) (hc : consistentVerify i = true) (he : blocked i = false)
    (hts : timestampDemanded i = false) :
    (runWith C key trust nowNs i).signed = true ∧ (runWith C key trust nowNs i).verified = true := by
  rw [runWith_eq C key trust ht nowNs i hwf]
  simp [obsSpec, hl, verifySpecP_of_consistent i hl hc he hts]

-- `hts` is not needed: neither API looks at the policy statement (only `runWith` does)
set_option linter.unusedVariables false in
/-- the same at the level of the two APIs: the envelope exists and the verifier accepts it -/
theorem sign_then_verify_ok_api (C : Crypto) (key : C.Key) (trust : C.Pub → Bool)
    (ht : trust (C.pub key) = true) (nowNs : Int) (i : Input)
    (hwf : wf i = true) (hl : legal i = true) (hc : consistentVerify i = true) (he : blocked i = false)
    (hts : timestampDemanded i = false) :
    ∃ e, signModel C key i nowNs = some e ∧
      (i.kind = .oci → verifyOCI trust (e.attrs.signingTime + (i.lagSec : Int)) i.desc (wantedMetadata i) e = true) ∧
      (i.kind = .blob → verifyBlob trust (e.attrs.signingTime + (i.lagSec : Int)) i.blob
          (copyLoop i.verifyReader.steps) (statedMediaType i) (wantedMetadata i) e = some (expectedPayload i)) := by
  have hv := verifySpec_of_consistent i hl hc he
  refine ⟨envelopeOf C key i (expectedAttrs i nowNs), by rw [signModel_eq C key i nowNs hwf, hl]; rfl, ?_, ?_⟩
  · exact fun hk => (verifyOCI_signed C key trust ht nowNs i hk).trans hv
  · exact fun hk => (verifyBlob_signed C key trust ht nowNs i hwf hk).trans (if_pos hv)

theorem illegal_is_refused (C : Crypto) (key : C.Key) (nowNs : Int) (i : Input) (hwf : wf i = true)
    (hl : legal i = false) : signModel C key i nowNs = none := by
  simp [signModel_eq C key i nowNs hwf, hl]

theorem expectedPayload_of_not_added (i : Input) (hn : effectiveTamper i ≠ .addAnnotation) :
    expectedPayload i = requestedPayload i := by
  unfold expectedPayload; simp [hn]

theorem signModel_some (C : Crypto) (key : C.Key) (nowNs : Int) (i : Input) (e : Envelope C) (hwf : wf i = true)
    (h : signModel C key i nowNs = some e) : legal i = true ∧ e = envelopeOf C key i (expectedAttrs i nowNs) := by
  rw [signModel_eq C key i nowNs hwf] at h
  cases hl : legal i <;> rw [hl] at h
  · cases h
  · exact ⟨rfl, (Option.some.inj h).symm⟩

/-- **The signed payload is the sanitised descriptor**: media type, digest, size and the
annotations with the user metadata merged in - nothing else (no urls, platform, data, artifact
type), for descriptors with any extra fields and whatever an envelope plugin tried: unless the
plugin appended an annotation of its own (which the plugin contract allows), the signed payload
is exactly the requested one. -/
theorem payload_is_sanitised_desc (C : Crypto) (key : C.Key) (nowNs : Int) (i : Input) (e : Envelope C)
    (hwf : wf i = true) (h : signModel C key i nowNs = some e) :
    e.attrs.payload = expectedPayload i ∧ e.attrs.payload.extraKeys = [] ∧
    e.attrs.payload.mediaType = (requestedPayload i).mediaType ∧
    e.attrs.payload.digest = (requestedPayload i).digest ∧
    e.attrs.payload.size = (requestedPayload i).size ∧
    (effectiveTamper i ≠ .addAnnotation → e.attrs.payload = requestedPayload i) ∧
    (i.kind = .oci → effectiveTamper i ≠ .addAnnotation →
        ∀ k, kvLookup k e.attrs.payload.annotations =
          (kvLookup k i.metadata).orElse (fun _ => kvLookup k i.desc.annotations)) := by
  obtain ⟨hl, rfl⟩ := signModel_some C key nowNs i e hwf h
  have hf := expectedPayload_fields i
  rw [envelopeOf_attrs, expectedAttrs_payload]
  have hx : (requestedPayload i).extraKeys = [] := by unfold requestedPayload; cases i.kind <;> rfl
  refine ⟨rfl, hf.2.2.2.trans hx, hf.1, hf.2.1, hf.2.2.1,
    expectedPayload_of_not_added i, fun hk hn k => ?_⟩
  rw [expectedPayload_of_not_added i hn, kvLookup_requested i hl, hk]

/-- **Expiry is exact**: the protected signing time is the clock truncated to seconds and the
protected expiry is that signing time plus the requested duration - `none` for a zero
duration -, whatever the sub-second part of the clock, and whether the library or an envelope
plugin computes it. It rests on the guard of `validateSignArguments` (whole seconds). -/
theorem expiry_exact (C : Crypto) (key : C.Key) (nowNs : Int) (i : Input) (e : Envelope C)
    (hwf : wf i = true) (h : signModel C key i nowNs = some e) :
    i.durationNs % 1000000000 = 0 ∧ 0 ≤ i.durationNs ∧
    e.attrs.signingTime = nowNs / 1000000000 ∧
    e.attrs.expiry = if i.durationNs = 0 then none else some (e.attrs.signingTime + i.durationNs / 1000000000) := by
  obtain ⟨hl, rfl⟩ := signModel_some C key nowNs i e hwf h
  simp only [legal, Bool.and_eq_true, decide_eq_true_eq] at hl
  refine ⟨hl.1.1.2, hl.1.1.1, rfl, ?_⟩
  simp only [envelopeOf, expectedAttrs]
  by_cases hd : i.durationNs = 0 <;> simp [hd]

/-- the guard is needed: with 1500 ms the truncated expiry would depend on the clock's
sub-second part (1 s after a signing time of xx.4, 2 s after xx.6) -/
theorem expiry_without_guard_depends_on_clock (p : DescObs) :
    (protectedAttrs "ES256" p false 1500000000 400000000 .none).expiry = some 1 ∧
    (protectedAttrs "ES256" p false 1500000000 600000000 .none).expiry = some 2 ∧
    signArgsOk 1500000000 = false :=
  ⟨rfl, rfl, by decide +kernel⟩

theorem clock_independent (C : Crypto) (key : C.Key) (trust : C.Pub → Bool) (ht : trust (C.pub key) = true)
    (n₁ n₂ : Int) (i : Input) (hwf : wf i = true) : runWith C key trust n₁ i = runWith C key trust n₂ i := by
  rw [runWith_eq C key trust ht n₁ i hwf, runWith_eq C key trust ht n₂ i hwf]

/-- **The blob digest uses the hash bound to the key, on both sides** (regenerated tables):
for all six key specs and all four signers, the digest algorithm the signer derives from the
key spec is the one the verifier derives from the envelope's signature algorithm, and it is
the one the Notary specification binds to the key. -/
theorem blob_hash_consistent (k : KeySpec) (s : SignerKind) :
    (signerKeySpec s k).bind signerDigestAlg = some (specDigestAlg k) ∧
    (headerAlg s k k.core).bind verifierDigestAlg = some (specDigestAlg k) := by
  rw [signerKeySpec_eq, headerAlg_eq]
  exact ⟨signerDigestAlg_eq k, verifierDigestAlg_eq k⟩

/-- the raw-signature plugin is asked to hash with the hash the envelope is verified with -/
theorem plugin_hash_consistent (k : KeySpec) (s : SignerKind) :
    primitiveHash s k k.core = (headerAlg s k k.core).bind coreHash := by
  rw [primitiveHash_eq, headerAlg_eq]
  exact (coreHash_specAlg k).symm

theorem obsSpec_verified (i : Input) (hv : (obsSpec i).verified = true) :
    legal i = true ∧ (obsSpec i).payload = some (expectedPayload i) ∧
    (obsSpec i).returned = some (match i.kind with | .blob => expectedPayload i | .oci => fullObs i.desc) ∧
    (obsSpec i).userMetadata = some (expectedPayload i).annotations := by
  unfold obsSpec at hv ⊢
  cases hl : legal i <;> simp only [hl, if_true] at hv ⊢
  · cases hv
  · simp [hv]

/-- **Successful blob verification returns the descriptor of the blob that was verified**:
the content media type that was signed, the digest of the blob under the hash bound to the
key, its size, and exactly the signed metadata (plus the annotation an envelope plugin was
allowed to append, if it did). -/
theorem blob_returns_verified_descriptor (C : Crypto) (key : C.Key) (trust : C.Pub → Bool)
    (ht : trust (C.pub key) = true) (nowNs : Int) (i : Input) (hwf : wf i = true) (hk : i.kind = .blob)
    (hv : (runWith C key trust nowNs i).verified = true) :
    (runWith C key trust nowNs i).returned = (runWith C key trust nowNs i).payload ∧
    (runWith C key trust nowNs i).returned = some (expectedPayload i) ∧
    (expectedPayload i).mediaType = i.contentMediaType ∧
    (expectedPayload i).digest = i.blob.specDigest i.keySpec ∧
    (expectedPayload i).size = i.blob.size ∧
    (effectiveTamper i ≠ .addAnnotation → (expectedPayload i).annotations = mergeKV [] i.metadata) := by
  rw [runWith_eq C key trust ht nowNs i hwf] at hv ⊢
  obtain ⟨_, hp, hr, _⟩ := obsSpec_verified i hv
  rw [hk] at hr
  have hf := expectedPayload_fields i
  rw [requestedPayload_blob i hk] at hf
  refine ⟨hr.trans hp.symm, hr, hf.1, hf.2.1, hf.2.2.1, fun hn => ?_⟩
  rw [expectedPayload_of_not_added i hn, requestedPayload_blob i hk]

/-- **The metadata read back is the metadata that was signed**: `UserMetadata()` of a
successful outcome returns the payload's annotations. For a blob that is exactly the signed
user metadata (as a map); for an OCI artifact it is the artifact's own annotations together
with the user metadata (the two are disjoint - colliding keys are refused at signing). An
envelope plugin that dropped or changed any of it was refused at signing (`legal`); one that
appended an annotation of its own contributes that one key and nothing else. -/
theorem metadata_read_back (C : Crypto) (key : C.Key) (trust : C.Pub → Bool)
    (ht : trust (C.pub key) = true) (nowNs : Int) (i : Input) (hwf : wf i = true)
    (hv : (runWith C key trust nowNs i).verified = true) :
    ∃ um, (runWith C key trust nowNs i).userMetadata = some um ∧
      ∀ k, (effectiveTamper i = .addAnnotation → k ≠ pluginAddedKey) →
        kvLookup k um =
        match i.kind with
        | .blob => kvLookup k i.metadata
        | .oci => (kvLookup k i.metadata).orElse (fun _ => kvLookup k i.desc.annotations) := by
  rw [runWith_eq C key trust ht nowNs i hwf] at hv ⊢
  obtain ⟨hl, _, _, hu⟩ := obsSpec_verified i hv
  refine ⟨_, hu, fun k hkey => ?_⟩
  have hreq : kvLookup k (expectedPayload i).annotations = kvLookup k (requestedPayload i).annotations := by
    unfold expectedPayload
    split
    · rename_i ht
      exact (kvLookup_insert _ _ _ _).trans (if_neg fun h => hkey ht h.symm)
    · rfl
  rw [hreq, kvLookup_requested i hl]
  cases i.kind
  · rfl
  · cases kvLookup k i.metadata <;> rfl

/-- **An unfaithful envelope plugin is refused at signing**: whatever it lost or changed of the
requested payload (an annotation dropped or changed, another media type or size, a member that
is not a descriptor field, an appended annotation that overrides a requested one), the signing
API returns no signature - for descriptors and metadata of any size. -/
theorem unfaithful_plugin_is_refused (C : Crypto) (key : C.Key) (nowNs : Int) (i : Input) (hwf : wf i = true)
    (hu : unfaithful (effectiveTamper i) (requestedPayload i) = true) : signModel C key i nowNs = none := by
  apply illegal_is_refused C key nowNs i hwf
  simp [legal, hu]

theorem other_signers_are_faithful (i : Input) (hs : i.signer ≠ .pluginEnvelope) :
    effectiveTamper i = .faithful := by
  unfold effectiveTamper; simp [hs]

/-- a re-serialised payload (other member order, other white space) is the same payload -/
theorem reserialised_is_faithful (p : DescObs) :
    tamperPayload .reserialised p = p ∧ unfaithful .reserialised p = false := ⟨rfl, rfl⟩

/-- The model never reads these fields of the input (the harness varies them). The input is taken apart first so
that the two records differ in constructor arguments only, which keeps the evaluation of both sides cheap. -/
theorem runWith_unread_fields (C : Crypto) (key : C.Key) (trust : C.Pub → Bool) (nowNs : Int) (i : Input)
    {h : History} {z : String} {l : IdentityList} {x : OtherSignature} {w : CertWindow} {f : InFlight}
    {b : Option Nat} {nl : Bool} :
    runWith C key trust nowNs { i with history := h, timeZone := z, identities := l, otherSignature := x, certWindow := w,
                                       inFlight := f, envelopeLastByte := b, trailingNewline := nl } =
      runWith C key trust nowNs i := by
  cases i; rfl

theorem Holds_unread_fields (i : Input) (o : Obs) {h : History} {z : String} {l : IdentityList} {x : OtherSignature}
    {w : CertWindow} {f : InFlight} :
    Holds { i with history := h, timeZone := z, identities := l, otherSignature := x, certWindow := w,
                   inFlight := f } o = Holds i o := by
  cases i; rfl

/-- **The time zone of the signing process does not matter**: the stored expiry is the signing instant plus the
requested duration, as instants (`expiry_exact`); nothing is computed on the calendar. -/
theorem time_zone_irrelevant (i : Input) (z : String) : run { i with timeZone := z } = run i :=
  runWith_unread_fields _ _ _ _ i

theorem time_zone_irrelevant_holds (i : Input) (z : String) (o : Obs) :
    Holds { i with timeZone := z } o = Holds i o :=
  Holds_unread_fields i o

/-- non-critical extended attributes an envelope plugin adds do not stand in the way of verification; only a
critical one nobody processes does, and then verification fails -/
theorem noncritical_attributes_do_not_block (i : Input)
    (h : i.extAttrs = .none ∨ i.extAttrs = .nonCritical ∨ i.extAttrs = .severalNonCritical) :
    unprocessedCritical i = false := by
  unfold unprocessedCritical effectiveExt
  rcases h with h | h | h <;> rw [h] <;> split <;> rfl

theorem other_signers_add_no_attributes (i : Input) (hs : i.signer ≠ .pluginEnvelope) :
    unprocessedCritical i = false := by
  unfold unprocessedCritical effectiveExt; simp [hs]; rfl

theorem critical_attribute_blocks_verification (i : Input) (hwf : wf i = true) (h : unprocessedCritical i = true) :
    (run i).verified = false := by
  rw [run_eq i hwf]
  unfold obsSpec
  split
  · exact verifySpecP_of_critical i h
  · rfl

theorem timestamp_not_demanded (p : Policy) (h : p.tsaStore = false ∨ p.verifyTimestamp = .afterCertExpiry)
    (i : Input) : timestampDemanded { i with policy := p } = false := by
  unfold timestampDemanded
  rcases h with h | h <;> simp [h]

/-- **Which trusting statement applies does not matter** - wildcard, scoped, global or named, with or without a tsa
store - as long as it does not demand a timestamp. -/
theorem policy_shape_irrelevant (i : Input) (p : Policy) (hwf : wf i = true)
    (h1 : timestampDemanded i = false) (h2 : timestampDemanded { i with policy := p } = false) :
    run { i with policy := p } = run i := by
  have hwf' : wf { i with policy := p } = true := hwf
  rw [run_eq _ hwf', run_eq _ hwf]
  -- `obsSpec` looks at the policy through `timestampDemanded` only
  unfold obsSpec verifySpecP
  rw [h1, h2]
  rfl

/-- **Where plugin-defined identities stand in the list, a stranger's signature on the same artifact (before or after,
same or other envelope format), and the validity bounds of a signing-authority certificate minted at signing time do
not matter** -/
theorem identity_list_irrelevant (i : Input) (l : IdentityList) : run { i with identities := l } = run i :=
  runWith_unread_fields _ _ _ _ i
theorem other_signature_irrelevant (i : Input) (x : OtherSignature) : run { i with otherSignature := x } = run i :=
  runWith_unread_fields _ _ _ _ i
theorem cert_window_irrelevant (i : Input) (w : CertWindow) : run { i with certWindow := w } = run i :=
  runWith_unread_fields _ _ _ _ i
theorem these_irrelevant_holds (i : Input) (l : IdentityList) (x : OtherSignature) (w : CertWindow) (o : Obs) :
    Holds { i with identities := l, otherSignature := x, certWindow := w } o = Holds i o :=
  Holds_unread_fields i o

theorem signingAuthority_needs_no_timestamp (i : Input) (h : effectiveScheme i = .signingAuthority) :
    timestampDemanded i = false := by
  simp [timestampDemanded, h]

/-- **Other calls in flight do not matter**: a round trip observes the same alone, interleaved with another blob
call in either role, or among many goroutines. -/
theorem in_flight_irrelevant (i : Input) (f : InFlight) : run { i with inFlight := f } = run i :=
  runWith_unread_fields _ _ _ _ i

theorem in_flight_irrelevant_holds (i : Input) (f : InFlight) (o : Obs) :
    Holds { i with inFlight := f } o = Holds i o :=
  Holds_unread_fields i o

theorem envelope_bytes_irrelevant (i : Input) (b : Option Nat) (nl : Bool) :
    run { i with envelopeLastByte := b, trailingNewline := nl } = run i :=
  runWith_unread_fields _ _ _ _ i

/-- **The payload's digest and size are those of the full byte sequence, regardless of reader
behaviour**: two well-formed inputs that differ only in how the readers deliver the blob (on
the signing side, the verifying side, or both) observe the same round trip. -/
theorem reader_behaviour_irrelevant (i : Input) (r₁ r₂ : Reader) (hwf : wf i = true)
    (hwf' : wf { i with signReader := r₁, verifyReader := r₂ } = true) :
    run { i with signReader := r₁, verifyReader := r₂ } = run i := by
  -- `obsSpec` mentions no reader
  rw [run_eq _ hwf', run_eq _ hwf]
  rfl

theorem blob_payload_covers_whole_stream (C : Crypto) (key : C.Key) (nowNs : Int) (i : Input) (e : Envelope C)
    (hwf : wf i = true) (hk : i.kind = .blob) (h : signModel C key i nowNs = some e) :
    e.attrs.payload.size = (represented i.signReader : Int) ∧
    e.attrs.payload.digest = i.blob.specDigest i.keySpec := by
  have hp := payload_is_sanitised_desc C key nowNs i e hwf h
  have hs := (wf_blob i hwf hk).1
  rw [copyLoop_eq_represented] at hs
  rw [hp.2.2.2.2.1, hp.2.2.2.1, requestedPayload_blob i hk]
  exact ⟨hs.symm, rfl⟩

/-! ### reused signer and verifier objects: the history does not matter -/

/-- the only thing a signer object remembers between calls is the plugin's manifest annotations
(regenerated: every write to a receiver field in signer/signer.go and signer/plugin.go) - in
particular no key spec, hash or descriptor is cached -/
theorem facts_signer_state :
    c07SignerFieldWrites = [("PluginSigner", "generateSignatureEnvelope", "manifestAnnotations")] := rfl

/-- **The history is irrelevant**: whatever was signed before on the same signer object (other
key behind the same key id, other key spec, OCI or blob, other format, any number of calls) and
however the key was selected, the round trip observes the same. -/
theorem history_irrelevant (C : Crypto) (key : C.Key) (trust : C.Pub → Bool) (nowNs : Int) (i : Input)
    (h : History) : runWith C key trust nowNs { i with history := h } = runWith C key trust nowNs i :=
  runWith_unread_fields _ _ _ _ i

theorem history_irrelevant_run (i : Input) (h : History) : run { i with history := h } = run i :=
  history_irrelevant _ _ _ _ i h

theorem history_irrelevant_holds (i : Input) (h : History) (o : Obs) :
    Holds { i with history := h } o = Holds i o :=
  Holds_unread_fields i o

theorem runSeq_eq_map (C : Crypto) (key : KeySpec → C.Key) (trust : C.Pub → Bool) (st : ObjState)
    (xs : List (Int × Input)) :
    runSeqWith C key trust st xs = xs.map (fun x => runWith C (key x.2.keySpec) trust x.1 x.2) := by
  induction xs generalizing st with
  | nil => rfl
  | cons x rest ih =>
    obtain ⟨n, i⟩ := x
    simp only [runSeqWith, stepWith, List.map_cons, ih]

/-- **The sequence position does not matter**: under a policy that trusts every key the objects
sign with, the observation of a round trip at any position of any sequence, from any object
state and with any clocks, is `obsSpec` of its own input - so every legal round trip still
verifies and reports exactly what was signed (`model_holds`). -/
theorem sequence_position_irrelevant (C : Crypto) (key : KeySpec → C.Key) (trust : C.Pub → Bool)
    (ht : ∀ k, trust (C.pub (key k)) = true) (st : ObjState) (pre post : List (Int × Input))
    (nowNs : Int) (i : Input) (hwf : wf i = true) :
    (runSeqWith C key trust st (pre ++ (nowNs, i) :: post))[pre.length]? = some (obsSpec i) := by
  rw [runSeq_eq_map]
  simp [runWith_eq C (key i.keySpec) trust (ht i.keySpec) nowNs i hwf]

theorem sequence_holds (C : Crypto) (key : KeySpec → C.Key) (trust : C.Pub → Bool)
    (ht : ∀ k, trust (C.pub (key k)) = true) (st : ObjState) (xs : List (Int × Input))
    (hwf : ∀ x ∈ xs, wf x.2 = true) :
    ∀ p ∈ (xs.map (·.2)).zip (runSeqWith C key trust st xs), Holds p.1 p.2 = true := by
  rw [runSeq_eq_map, List.zip_map']
  intro p hp
  obtain ⟨x, hx, rfl⟩ := List.mem_map.mp hp
  dsimp only
  rw [runWith_eq C (key x.2.keySpec) trust (ht x.2.keySpec) x.1 x.2 (hwf x hx), ← run_eq x.2 (hwf x hx)]
  exact model_holds x.2 (hwf x hx)

/-! ### non-vacuity: test vectors -/

/-- the toy scheme is a scheme in which forgery fails: another key's signature is rejected -/
example (m : ToSign) :
    toy.verify (toy.pub (toyKey .rsa2048)) m (toy.sign (toyKey .rsa3072) m) = false := by
  simp [toy, toyKey]

def exampleBlob : Input :=
  { kind := .blob, keySpec := .ec384, format := .cose, signer := .pluginSignature,
    desc := { mediaType := "", digest := "", size := 0, annotations := [], urls := [], platform := false,
              data := "", artifactType := "" },
    blob := { size := 3, sha256 := "sha256:aa", sha384 := "sha384:bb", sha512 := "sha512:cc" },
    -- signing: a zero-length read, one byte, then two bytes together with io.EOF; verifying: one byte at a time
    signReader := { direct := false, steps := [⟨0, 2, false⟩, ⟨1, 1, false⟩, ⟨2, 1, true⟩] },
    verifyReader := { direct := false, steps := [⟨1, 3, false⟩] },
    contentMediaType := "text/plain", mediaTypeValid := true,
    metadata := [⟨"commit", "1"⟩, ⟨"buildId", "7"⟩], durationNs := 2000000000, nowFracNs := 999999999,
    agent := "", verifyMediaType := .same, verifyMetadata := .all, lagSec := 1, exactIdentity := false, byTag := false,
    history := { position := 7, prevKeySpec := some .rsa2048, prevKind := some .oci, prevFormat := some .jws,
                 keyVia := .rotated },
    tamper := .reserialised, envelopeLastByte := some 32, trailingNewline := false,
    extAttrs := .nonCritical, timeZone := "Australia/Lord_Howe",
    policy := { tsaStore := true, verifyTimestamp := .afterCertExpiry, named := true }, inFlight := .pinnedFirst,
    identities := .foreignBefore, otherSignature := .strangerBeforeOtherFormat, scheme := .signingAuthority,
    certWindow := .notBeforeIsSigningTime }

/-- a concrete successful round trip (legal, verified, SHA-384 digest for an EC-384 key, 2 s expiry) -/
example : obsSpec exampleBlob =
    { signed := true, verified := true,
      payload := some { mediaType := "text/plain", digest := "sha384:bb", size := 3,
                        annotations := [⟨"buildId", "7"⟩, ⟨"commit", "1"⟩], extraKeys := [] },
      expirySec := some 2,
      returned := some { mediaType := "text/plain", digest := "sha384:bb", size := 3,
                         annotations := [⟨"buildId", "7"⟩, ⟨"commit", "1"⟩], extraKeys := [] },
      userMetadata := some [⟨"buildId", "7"⟩, ⟨"commit", "1"⟩] } := by decide +kernel

/-- the example's readers are well-formed, and the copy loop takes the bytes that come with io.EOF -/
example : wf exampleBlob = true := by decide +kernel
example : copyLoop exampleBlob.signReader.steps = 3 ∧ copyLoop exampleBlob.verifyReader.steps = 3 := by decide +kernel
/-- a reader that stands for fewer bytes than the blob is not well-formed -/
example : wf { exampleBlob with signReader := { direct := false, steps := [⟨1, 1, true⟩] } } = false := by decide +kernel
/-- `Holds` is false of a payload that describes a truncated blob (what a loop that drops the
bytes arriving with io.EOF would sign) -/
example : Holds exampleBlob { (obsSpec exampleBlob) with
    payload := some { mediaType := "text/plain", digest := "sha384:prefix", size := 1,
                      annotations := [⟨"buildId", "7"⟩, ⟨"commit", "1"⟩], extraKeys := [] } } = false := by decide +kernel

/-- an envelope plugin that drops or changes signed metadata is refused; one that appends an
annotation is accepted and the annotation is reported; other signers never see the payload -/
example : obsSpec { exampleBlob with signer := .pluginEnvelope, tamper := .dropAnnotation } = noSignature := by decide +kernel
example : obsSpec { exampleBlob with signer := .pluginEnvelope, tamper := .changeAnnotation } = noSignature := by decide +kernel
example : obsSpec { exampleBlob with signer := .pluginEnvelope, tamper := .changeMediaType } = noSignature := by decide +kernel
example : (obsSpec { exampleBlob with signer := .pluginEnvelope, tamper := .addAnnotation }).userMetadata =
    some [⟨"buildId", "7"⟩, ⟨"c07.plugin.added", "x"⟩, ⟨"commit", "1"⟩] := by decide +kernel
example : (obsSpec { exampleBlob with signer := .localKey, tamper := .dropAnnotation }).signed = true := by decide +kernel
/-- a non-critical extended attribute of an envelope plugin: signed and verified; a critical one: signed, not verified;
`Holds` is false if the non-critical one made verification fail -/
example : (obsSpec { exampleBlob with signer := .pluginEnvelope, extAttrs := .severalNonCritical }).verified = true := by decide +kernel
example : (obsSpec { exampleBlob with signer := .pluginEnvelope, extAttrs := .critical }).signed = true ∧
    (obsSpec { exampleBlob with signer := .pluginEnvelope, extAttrs := .critical }).verified = false := by decide +kernel
example : Holds { exampleBlob with signer := .pluginEnvelope, extAttrs := .nonCritical }
    { (obsSpec { exampleBlob with signer := .pluginEnvelope, extAttrs := .nonCritical }) with
      verified := false, returned := none, userMetadata := none } = false := by decide +kernel
/-- `Holds` is false of an expiry that is off by an hour (a validity that crossed a daylight-saving change on the calendar) -/
example : Holds { exampleBlob with durationNs := 8640000000000000 }
    { (obsSpec { exampleBlob with durationNs := 8640000000000000 }) with expirySec := some (8640000 + 3600) } = false := by decide +kernel

/-- tsa store + afterCertExpiry: verified; tsa store + always / unset: the un-timestamped signature is rejected;
`Holds` is false if afterCertExpiry behaved like always -/
example : (obsSpec exampleBlob).verified = true := by decide +kernel
example : (obsSpec { exampleBlob with policy := ⟨true, .always, false⟩ }).verified = false ∧
    (obsSpec { exampleBlob with policy := ⟨true, .unset, true⟩ }).verified = false ∧
    (obsSpec { exampleBlob with policy := ⟨false, .always, true⟩ }).verified = true := by decide +kernel
example : Holds exampleBlob { (obsSpec exampleBlob) with verified := false, returned := none, userMetadata := none } = false := by
  decide +kernel
/-- keys with white space at either end are keys like any other: signed, read back with the caller's spelling -/
example : (obsSpec { exampleBlob with metadata := [⟨" commit", "1"⟩, ⟨"build ", "7"⟩] }).userMetadata =
    some [⟨" commit", "1"⟩, ⟨"build ", "7"⟩] := by decide +kernel

/-- `Holds` is false when a plugin's dropped annotation goes unnoticed: signed, verified, metadata lost -/
example : Holds { exampleBlob with signer := .pluginEnvelope, tamper := .dropAnnotation, verifyMetadata := .nothing }
    { signed := true, verified := true,
      payload := some { mediaType := "text/plain", digest := "sha384:bb", size := 3,
                        annotations := [⟨"commit", "1"⟩], extraKeys := [] },
      expirySec := some 2,
      returned := some { mediaType := "text/plain", digest := "sha384:bb", size := 3,
                         annotations := [⟨"commit", "1"⟩], extraKeys := [] },
      userMetadata := some [⟨"commit", "1"⟩] } = false := by decide +kernel

/-- a reserved key, and a duration that is not a whole number of seconds, are refused -/
example : obsSpec { exampleBlob with metadata := [⟨"io.cncf.notary.x", "1"⟩] } = noSignature := by decide +kernel
example : obsSpec { exampleBlob with durationNs := 1500000000 } = noSignature := by decide +kernel

/-- verification after the expiry fails -/
example : (obsSpec { exampleBlob with lagSec := 2 }).verified = false := by decide +kernel

/-- `Holds` is false of wrong observations: a zero returned descriptor (the defect repaired by
d14a4b1), a digest under the wrong hash, lost metadata -/
example : Holds exampleBlob { (obsSpec exampleBlob) with returned := some zeroDesc } = false := by decide +kernel
example : Holds exampleBlob { (obsSpec exampleBlob) with
    payload := some { mediaType := "text/plain", digest := "sha256:aa", size := 3,
                      annotations := [⟨"buildId", "7"⟩, ⟨"commit", "1"⟩], extraKeys := [] } } = false := by decide +kernel
example : Holds exampleBlob { (obsSpec exampleBlob) with userMetadata := some [] } = false := by decide +kernel
example : Holds exampleBlob { (obsSpec exampleBlob) with verified := false, returned := none, userMetadata := none } = false := by
  decide +kernel

/-! ### tie to the translated source (docs/TIE_BRIEF.md)

`Generated/SrcC07*.lean` are translated from the Go source on every run (`extract/go2lean_c07.go`). The theorems
below say, for ALL inputs and EVERY choice of the oracles (Src/TypesC07.lean), that the translated functions accept
exactly the arguments the model accepts and compute the descriptor / digest algorithm the model computes.
`validateSignArguments` / `validateSigMediaType` are C11's translations and theorems (imported). -/

namespace Tie
open NotationModel.Src NotationModel.Src.«notation»

/-! #### `validateContentMediaType` -/

theorem source_validateContentMediaType_refines_model (env : BlobEnv) (s : String) :
    (validateContentMediaType env s).isNone = (s == "" || (env.parseMediaType s).isNone) := by
  unfold validateContentMediaType
  by_cases hs : s = ""
  · subst hs; rfl
  · cases hp : env.parseMediaType s <;> simp [Id.run, BlobEnv.ParseMediaType, GoLite.idPure, hs, hp]

/-! #### `SignBlob`: argument checks and what is handed to the signer -/

/-- what notation.SignBlob demands of its arguments, written out (`argsValid` is C11's characterisation of
`validateSignArguments`: signer not nil, expiry a non-negative whole number of seconds, one of the two envelope types) -/
def signBlobArgsLegal (env : BlobEnv) (signer : Option Signer) (reader : Option io.Reader) (o : SignBlobOptions) : Bool :=
  C11.Tie.argsValid signer o.SignerSignOptions && reader.isSome && o.ContentMediaType != "" &&
  (env.parseMediaType o.ContentMediaType).isNone

-- the fact about `"" == x` serves a source that writes the test that way round
set_option linter.unusedSimpArgs false in
/-- TIE (translated source): for EVERY signer, reader, options and oracles, notation.SignBlob either refuses
(no signature, no signer info, an error - and the signer is not asked) or returns exactly what the signer's SignBlob
returns for the descriptor generator built from THIS reader, media type and metadata and for the embedded signer
options; it refuses exactly the illegal arguments. -/
theorem source_SignBlob_refines_model (env : BlobEnv) (signer : Option Signer) (reader : Option io.Reader)
    (o : SignBlobOptions) :
    (signBlobArgsLegal env signer reader o = true →
      SignBlob env signer reader o =
        env.signerSignBlob (getDescriptorFunc env reader o.ContentMediaType o.UserMetadata) o.SignerSignOptions) ∧
    (signBlobArgsLegal env signer reader o = false →
      (SignBlob env signer reader o).1 = none ∧ (SignBlob env signer reader o).2.1 = none ∧
      (SignBlob env signer reader o).2.2.isSome = true) := by
  have hv := C11.Tie.source_validateSignArguments_refines_model signer o.SignerSignOptions
  have hc := source_validateContentMediaType_refines_model env o.ContentMediaType
  unfold SignBlob signBlobArgsLegal
  simp only [Id.run, GoLite.idPure, ← hv]
  clear hv
  -- a table over the four guards, in whatever order the source asks them: where one fires, the arguments are illegal
  -- (the conjunction evaluates to `false`) and what is returned is a refusal; where none does, the signer is called
  by_cases hm : o.ContentMediaType = ""
  · rw [hm]
    cases validateSignArguments signer o.SignerSignOptions <;> cases reader <;>
      exact ⟨nofun, fun _ => ⟨rfl, rfl, rfl⟩⟩
  simp only [beq_false_of_ne hm, Bool.false_or] at hc
  simp only [bne, beq_false_of_ne hm, beq_false_of_ne (Ne.symm hm), ← hc, Bool.false_eq_true, if_false]
  cases validateSignArguments signer o.SignerSignOptions <;> cases reader <;>
    cases validateContentMediaType env o.ContentMediaType
  case none.some.none => exact ⟨fun _ => rfl, nofun⟩
  all_goals exact ⟨nofun, fun _ => ⟨rfl, rfl, rfl⟩⟩

/-- the options notation.SignBlob is called with in the model's round trip -/
def formatMediaType : Format → String
  | .jws => jws.MediaTypeEnvelope
  | .cose => cose.MediaTypeEnvelope

def kvPairs (m : List KV) : GoLite.Map String String := m.map (fun x => (x.k, x.v))

def signOptsOf (i : Input) : SignBlobOptions :=
  { SignerSignOptions := { SignatureMediaType := formatMediaType i.format, ExpiryDuration := i.durationNs },
    ContentMediaType := i.contentMediaType, UserMetadata := kvPairs i.metadata }

def modelBlobArgsLegal (i : Input) : Bool :=
  signArgsOk i.durationNs && i.contentMediaType != "" && i.mediaTypeValid

/-- **The translated SignBlob accepts exactly the arguments the model accepts**: with a signer and a reader at
hand and `mime.ParseMediaType` answering what the input says (`mediaTypeValid`), for every input. -/
theorem source_SignBlob_accepts_iff_model (env : BlobEnv) (s : Signer) (r : io.Reader) (i : Input)
    (henv : (env.parseMediaType i.contentMediaType).isNone = i.mediaTypeValid) :
    signBlobArgsLegal env (some s) (some r) (signOptsOf i) = modelBlobArgsLegal i := by
  unfold signBlobArgsLegal modelBlobArgsLegal C11.Tie.argsValid signOptsOf
  rw [signArgsOk_eq]
  have hf : (formatMediaType i.format == jws.MediaTypeEnvelope || formatMediaType i.format == cose.MediaTypeEnvelope) = true := by
    cases i.format <;> decide
  simp only [henv, hf, Option.isSome_some, Bool.true_and, Bool.and_true, time.Second]
  -- Go's `%` truncates (`Int.tmod`), the model's `%` is `Int.emod`: they agree where the first test has passed
  by_cases h0 : 0 ≤ i.durationNs
  · simp [h0, Int.tmod_eq_emod_of_nonneg h0]
  · simp [h0]

/-- and the model refuses what fails these checks (so both refuse the same calls) -/
theorem model_refuses_illegal_blob_args (C : Crypto) (key : C.Key) (i : Input) (nowNs : Int) (hk : i.kind = .blob)
    (h : modelBlobArgsLegal i = false) : signModel C key i nowNs = none := by
  unfold signModel
  simp only [modelBlobArgsLegal, Bool.and_eq_false_iff, bne_eq_false_iff_eq] at h
  rcases h with (h | h) | h <;> simp [h, hk]

/-! #### the descriptor generator `getDescriptorFunc` returns -/

/-- TIE (translated source): for EVERY reader, media type, metadata, digest algorithm and oracles: if copying the
reader into the digester fails, that error comes back; otherwise the descriptor handed to
`addUserMetadataToDescriptor` (C11's translation) has the stated media type, the digester's digest, the number of
bytes `io.Copy` reports as its size, and NO annotations - and what the merge returns is returned. -/
theorem source_getDescriptorFunc_refines_model (env : BlobEnv) (reader : Option io.Reader) (cmt : String)
    (md : GoLite.Map String String) (alg : digest.Algorithm) :
    getDescriptorFunc env reader cmt md alg =
      if (env.Copy alg reader).2.isSome then (default, (env.Copy alg reader).2)
      else
        ((addUserMetadataToDescriptor
            { MediaType := cmt, Digest := env.digest alg reader, Size := (env.Copy alg reader).1, Annotations := [] } md).1,
         (addUserMetadataToDescriptor
            { MediaType := cmt, Digest := env.digest alg reader, Size := (env.Copy alg reader).1, Annotations := [] } md).2.1) := rfl

theorem copy_results (env : BlobEnv) (alg : digest.Algorithm) (reader : Option io.Reader) :
    env.Copy alg reader = match env.copy alg reader with
      | .ok n => (n, none)
      | .error e => (0, some e) := rfl

theorem model_blobDescriptor_matches (i : Input) (dg : String) (n : Int) :
    let d := blobDescriptor i dg n []
    (d.mediaType, d.digest, d.size, d.annotations, d.urls, d.platform, d.data, d.artifactType) =
      (i.contentMediaType, dg, n, [], [], false, "", "") := rfl

/-! #### `notation.VerifyBlob`: argument checks, mapping of the options, what is returned -/

def verifyBlobArgsLegal (env : BlobEnv) (v : Option BlobVerifier) (reader : Option io.Reader) (sig : Bytes)
    (o : VerifyBlobOptions) : Bool :=
  v.isSome && reader.isSome && sig != [] &&
  (o.ContentMediaType == "" || (env.parseMediaType o.ContentMediaType).isNone) &&
  (o.SignatureMediaType == jws.MediaTypeEnvelope || o.SignatureMediaType == cose.MediaTypeEnvelope)

/-- what notation.VerifyBlob makes of the verifier's answer: an error is handed on; an outcome without envelope
content (verification skipped) comes back with the zero descriptor; otherwise the payload of the VERIFIED envelope is
decoded and its `TargetArtifact` is the descriptor returned (the repair d14a4b1) -/
def verifyBlobResult (env : BlobEnv) (r : Option BlobOutcome × Option GoLite.Err) :
    ocispec.Descriptor × Option BlobOutcome × Option GoLite.Err :=
  if r.2.isSome then (default, none, r.2)
  else if (GoLite.deref r.1).EnvelopeContent.isNone then (default, r.1, none)
  else
    let content := (GoLite.deref (GoLite.deref r.1).EnvelopeContent).Payload.Content
    if (env.unmarshalPayload content default).2.isSome then (default, none, (env.unmarshalPayload content default).2)
    else ((env.unmarshalPayload content default).1.TargetArtifact, r.1, none)

/-- TIE (translated source): for EVERY verifier, reader, signature, options and oracles, notation.VerifyBlob refuses
exactly the illegal arguments (without asking the verifier); otherwise it asks the verifier with the descriptor
generator built from THIS reader, the caller's content media type and required metadata, the signature and the embedded
verifier options, and returns `verifyBlobResult` of its answer. -/
theorem source_VerifyBlob_refines_model (env : BlobEnv) (v : Option BlobVerifier) (reader : Option io.Reader)
    (sig : Bytes) (o : VerifyBlobOptions) :
    (verifyBlobArgsLegal env v reader sig o = true →
      VerifyBlob env v reader sig o =
        verifyBlobResult env (env.verifierVerifyBlob
          (getDescriptorFunc env reader o.ContentMediaType o.BlobVerifierVerifyOptions.UserMetadata) sig
          o.BlobVerifierVerifyOptions)) ∧
    (verifyBlobArgsLegal env v reader sig o = false →
      (VerifyBlob env v reader sig o).1 = default ∧ (VerifyBlob env v reader sig o).2.1 = none ∧
      (VerifyBlob env v reader sig o).2.2.isSome = true) := by
  have hc := source_validateContentMediaType_refines_model env o.ContentMediaType
  have hs := C11.Tie.source_validateSigMediaType_refines_model o.SignatureMediaType
  unfold VerifyBlob verifyBlobArgsLegal
  simp only [Id.run, GoLite.idPure, ← hc, ← hs]
  clear hc hs
  -- a table over the five guards as for `SignBlob`; where none fires, the rest of the function is `verifyBlobResult`
  cases v <;> cases reader <;> cases sig <;> cases validateContentMediaType env o.ContentMediaType <;>
    cases validateSigMediaType o.SignatureMediaType
  case some.some.cons.none.none => exact ⟨fun _ => rfl, nofun⟩
  all_goals exact ⟨nofun, fun _ => ⟨rfl, rfl, rfl⟩⟩

/-- the model's blob verification returns the verified payload's descriptor too -/
theorem model_verifyBlob_returns_payload {C : Crypto} (trust : C.Pub → Bool) (nowSec : Int) (b : Blob) (n : Int)
    (stated : String) (want : List KV) (e : Envelope C) (r : DescObs)
    (h : verifyBlob trust nowSec b n stated want e = some r) : r = e.attrs.payload := by
  dsimp only [verifyBlob] at h
  split at h
  · cases h
  split at h
  · cases h
  split at h
  · cases h
  split at h
  · cases h
  split at h
  · cases h
  split at h
  · cases h
  exact (Option.some.inj h).symm

/-! #### `envelope.SanitizeTargetArtifact` -/

/-- TIE (translated source): for EVERY descriptor exactly media type, digest, size and annotations survive. (The
result type has no other field: a version that copied `URLs`, `Data`, `Platform` or `ArtifactType`, or dropped one of
the four, does not even translate.) -/
theorem source_SanitizeTargetArtifact_refines_model (d : ocispec.FullDescriptor) :
    envelope.SanitizeTargetArtifact d =
      { MediaType := d.MediaType, Digest := d.Digest, Size := d.Size, Annotations := d.Annotations } := by
  unfold envelope.SanitizeTargetArtifact
  simp only [Id.run, GoLite.idPure]

def kvOfPairs (m : GoLite.Map String String) : List KV := m.map (fun p => ⟨p.1, p.2⟩)
def fullDescOf (d : ocispec.FullDescriptor) : FullDesc :=
  { mediaType := d.MediaType, digest := d.Digest, size := d.Size, annotations := kvOfPairs d.Annotations,
    urls := d.URLs, platform := d.Platform.isSome, data := d.Data, artifactType := d.ArtifactType }
def descObsOf (d : ocispec.Descriptor) : DescObs :=
  { mediaType := d.MediaType, digest := d.Digest, size := d.Size, annotations := kvOfPairs d.Annotations, extraKeys := [] }

/-- **the translated sanitiser computes the model's payload** (`payloadOf` over the regenerated field list), for
every descriptor whatever its extra fields -/
theorem source_SanitizeTargetArtifact_matches_model (d : ocispec.FullDescriptor) :
    descObsOf (envelope.SanitizeTargetArtifact d) = payloadOf Facts.c07GenericSignSanitizes (fullDescOf d) := by
  rw [source_SanitizeTargetArtifact_refines_model, facts_sanitize.2.1]
  exact (payloadOf_sanitised (fullDescOf d)).symm

/-! #### digest algorithm from the key spec (signer) and from the signature algorithm (verifier) -/

def keyTypeName : signature.KeyType → String
  | .KeyTypeRSA => "RSA" | .KeyTypeEC => "EC" | .zero => ""
def algName : signature.Algorithm → String
  | .AlgorithmPS256 => "PS256" | .AlgorithmPS384 => "PS384" | .AlgorithmPS512 => "PS512"
  | .AlgorithmES256 => "ES256" | .AlgorithmES384 => "ES384" | .AlgorithmES512 => "ES512" | .zero => ""
def digestName : digest.Algorithm → String
  | .SHA256 => "SHA256" | .SHA384 => "SHA384" | .SHA512 => "SHA512" | .unknown => ""

def srcKeySpec (k : KeySpec) : signature.KeySpec :=
  match k with
  | .rsa2048 => ⟨.KeyTypeRSA, 2048⟩ | .rsa3072 => ⟨.KeyTypeRSA, 3072⟩ | .rsa4096 => ⟨.KeyTypeRSA, 4096⟩
  | .ec256 => ⟨.KeyTypeEC, 256⟩ | .ec384 => ⟨.KeyTypeEC, 384⟩ | .ec521 => ⟨.KeyTypeEC, 521⟩

theorem algName_srcKeySpec (k : KeySpec) : algName (srcKeySpec k).SignatureAlgorithm = specAlg k := by
  cases k <;> rfl

/-- the hand-written copies of notation-core-go's tables agree with the tables regenerated from the module's
source, on the six supported key specs and all their algorithms -/
theorem core_tables_agree (k : KeySpec) :
    coreSigAlg k.core = some (algName (srcKeySpec k).SignatureAlgorithm) ∧
    coreHash (algName (srcKeySpec k).SignatureAlgorithm) = some (specDigestAlg k) ∧
    (keyTypeName (srcKeySpec k).«Type», (srcKeySpec k).Size.toNat) = k.core := by
  rw [algName_srcKeySpec]
  exact ⟨coreSigAlg_core k, coreHash_specAlg k, by cases k <;> rfl⟩

/-- TIE (translated source): signer.getDescriptor looks the hash of the key spec's signature algorithm up in
`algorithms` and hands the digest algorithm to the generator; an unavailable hash is an error and the generator is not
asked - for EVERY key spec (supported or not) and generator. -/
theorem source_getDescriptor_refines_model (ks : signature.KeySpec)
    (gen : digest.Algorithm → ocispec.Descriptor × Option GoLite.Err) :
    signer.getDescriptor ks gen =
      if (GoLite.Map.lookup signer.algorithms ks.SignatureAlgorithm.Hash).2
      then gen (GoLite.Map.lookup signer.algorithms ks.SignatureAlgorithm.Hash).1
      else (default, some ⟨"error"⟩) := by
  unfold signer.getDescriptor
  simp only [Id.run, GoLite.idPure]
  cases (GoLite.Map.lookup signer.algorithms ks.SignatureAlgorithm.Hash).2 <;> rfl

/-- **the translated table lookup is the model's**: for each of the six key specs the digest algorithm the
translated signer derives is the one the model derives from the regenerated tables, which is the hash bound to the key -/
theorem source_signer_digest_matches_model (k : KeySpec) :
    (GoLite.Map.lookup signer.algorithms (srcKeySpec k).SignatureAlgorithm.Hash).2 = true ∧
    some (digestName (GoLite.Map.lookup signer.algorithms (srcKeySpec k).SignatureAlgorithm.Hash).1) = signerDigestAlg k.core ∧
    signerDigestAlg k.core = some (specDigestAlg k) := by
  rw [signerDigestAlg_eq]
  exact ⟨by cases k <;> rfl, by cases k <;> rfl, rfl⟩

/-- an unsupported key spec has no signature algorithm, hence no hash, hence no digest algorithm: signing a blob is refused -/
theorem source_getDescriptor_unsupported (ks : signature.KeySpec) (gen : digest.Algorithm → ocispec.Descriptor × Option GoLite.Err)
    (h : ks.SignatureAlgorithm = .zero) : (signer.getDescriptor ks gen).2.isSome = true := by
  rw [source_getDescriptor_refines_model, h]
  have : (GoLite.Map.lookup signer.algorithms signature.Algorithm.zero.Hash).2 = false := by decide
  simp [this]

/-- what the tail of verifier.VerifyBlob demands, written out -/
def tailAccepts (env : verifier.VEnv) (gen : digest.Algorithm → ocispec.Descriptor × Option GoLite.Err)
    (md : GoLite.Map String String) (alg : signature.Algorithm) (p : envelope.Payload) : Bool :=
  match GoLite.Map.get? verifier.algorithms alg.Hash with
  | none => false
  | some da =>
    (gen da).2.isNone &&
    !((gen da).1.Digest != p.TargetArtifact.Digest || (gen da).1.Size != p.TargetArtifact.Size ||
      ((gen da).1.MediaType != "" && (gen da).1.MediaType != p.TargetArtifact.MediaType)) &&
    (md.length == 0 || (env.verifyUserMetadata p md).isNone)

set_option linter.unusedSimpArgs false in
/-- TIE (translated source): after a successful processSignature and payload decoding, verifier.VerifyBlob accepts
exactly when the hash of the envelope's signature algorithm is available in `algorithms`, the generator yields a
descriptor for that digest algorithm, its digest and size equal the payload's, its media type - if the caller stated one -
equals the payload's, and the required metadata (if any) is verified; the returned error is the outcome's error.
For EVERY generator, options, outcome and payload. -/
theorem source_verifyBlobTail_refines_model (env : verifier.VEnv)
    (gen : digest.Algorithm → ocispec.Descriptor × Option GoLite.Err) (opts : verifier.BlobVerifierVerifyOptions)
    (outcome : verifier.BlobOutcome) (p : envelope.Payload) (h0 : outcome.Error = none) :
    (verifier.verifyBlobTail env gen opts none outcome p).2.isNone =
      tailAccepts env gen opts.UserMetadata outcome.EnvelopeContent.SignerInfo.SignatureAlgorithm p ∧
    (verifier.verifyBlobTail env gen opts none outcome p).1.Error = (verifier.verifyBlobTail env gen opts none outcome p).2 := by
  obtain ⟨content, _⟩ := outcome
  obtain ⟨md⟩ := opts
  cases h0
  unfold verifier.verifyBlobTail tailAccepts
  simp only [Id.run, GoLite.idPure, GoLite.Map.lookup, GoLite.len_pos]
  cases verifier.algorithms.get? content.SignerInfo.SignatureAlgorithm.Hash with
  | none => exact ⟨rfl, rfl⟩
  | some da =>
  cases hg : (gen da).2 with
  | some _ => simp only [hg]; exact ⟨rfl, rfl⟩
  | none =>
  -- no return is left: the two remaining tests only set the outcome's error, and three Booleans say which
  -- (the `bne_comm` instances turn a comparison back should the source write it the other way round)
  simp only [hg, bne_comm (a := p.TargetArtifact.Digest), bne_comm (a := p.TargetArtifact.Size),
    bne_comm (a := p.TargetArtifact.MediaType), bne_comm (a := "")]
  generalize ((gen da).1.Digest != p.TargetArtifact.Digest || (gen da).1.Size != p.TargetArtifact.Size ||
    ((gen da).1.MediaType != "" && (gen da).1.MediaType != p.TargetArtifact.MediaType)) = mismatch
  cases md <;> cases env.verifyUserMetadata p _ <;> cases mismatch <;> simp

/-- **the translated table lookup is the model's** (verifier side): for every signature algorithm the digest
algorithm is the one the model derives from the regenerated tables -/
theorem source_verifier_digest_matches_model (k : KeySpec) :
    (GoLite.Map.get? verifier.algorithms (srcKeySpec k).SignatureAlgorithm.Hash).map digestName =
      verifierDigestAlg (algName (srcKeySpec k).SignatureAlgorithm) ∧
    verifierDigestAlg (algName (srcKeySpec k).SignatureAlgorithm) = some (specDigestAlg k) := by
  rw [algName_srcKeySpec, verifierDigestAlg_eq]
  exact ⟨by cases k <;> rfl, rfl⟩

/-- the availability guard: the zero algorithm (an envelope whose algorithm notation-core-go does not know) is refused -/
theorem source_verifyBlobTail_unknown_algorithm (env : verifier.VEnv)
    (gen : digest.Algorithm → ocispec.Descriptor × Option GoLite.Err) (md : GoLite.Map String String) (p : envelope.Payload) :
    tailAccepts env gen md .zero p = false := by
  have : GoLite.Map.get? verifier.algorithms signature.Algorithm.zero.Hash = none := by decide
  simp [tailAccepts, this]

/-! #### non-vacuity: the translated functions run -/

def exEnv : BlobEnv :=
  { parseMediaType := fun s => if s == "text/plain" then none else some ⟨"error"⟩,
    copy := fun _ _ => .ok 3, digest := fun a _ => digestName a ++ ":abc",
    signerSignBlob := fun gen _ => (some [1], none, (gen .SHA384).2),
    verifierVerifyBlob := fun _ _ _ => (some ⟨1, some ⟨⟨"payload"⟩, ⟨.AlgorithmES384⟩⟩⟩, none),
    unmarshalPayload := fun _ _ => (⟨⟨"text/plain", "SHA384:abc", 3, [("k", "v")]⟩⟩, none) }

example : getDescriptorFunc exEnv (some ⟨0⟩) "text/plain" [("k", "v")] .SHA384 =
    (⟨"text/plain", "SHA384:abc", 3, [("k", "v")]⟩, none) := by decide +kernel
example : (getDescriptorFunc exEnv (some ⟨0⟩) "text/plain" [("io.cncf.notary.x", "v")] .SHA384).2.isSome = true := by decide +kernel
example : SignBlob exEnv (some ⟨⟩) (some ⟨0⟩)
    ⟨⟨"application/cose", 2000000000⟩, "text/plain", [("k", "v")]⟩ = (some [1], none, none) := by decide +kernel
example : (SignBlob exEnv (some ⟨⟩) (some ⟨0⟩) ⟨⟨"application/cose", 1500000000⟩, "text/plain", []⟩).2.2.isSome = true := by decide +kernel
example : (SignBlob exEnv (some ⟨⟩) (some ⟨0⟩) ⟨⟨"application/cose", 0⟩, "application/", []⟩).2.2.isSome = true := by decide +kernel
example : VerifyBlob exEnv (some ⟨⟩) (some ⟨0⟩) [1] ⟨⟨"application/cose", [], ""⟩, ""⟩ =
    (⟨"text/plain", "SHA384:abc", 3, [("k", "v")]⟩, some ⟨1, some ⟨⟨"payload"⟩, ⟨.AlgorithmES384⟩⟩⟩, none) := by decide +kernel
example : (VerifyBlob exEnv (some ⟨⟩) (some ⟨0⟩) [] ⟨⟨"application/cose", [], ""⟩, ""⟩).2.2.isSome = true := by decide +kernel
example : envelope.SanitizeTargetArtifact ⟨"m", "d", 7, [("a", "b")], ["u"], "data", some "linux", "t"⟩ =
    ⟨"m", "d", 7, [("a", "b")]⟩ := by decide +kernel
example : signer.getDescriptor ⟨.KeyTypeEC, 384⟩ (fun a => (⟨"", digestName a, 0, []⟩, none)) =
    (⟨"", "SHA384", 0, []⟩, none) := by decide +kernel
example : (signer.getDescriptor ⟨.KeyTypeEC, 512⟩ (fun a => (⟨"", digestName a, 0, []⟩, none))).2.isSome = true := by decide +kernel
example : (verifier.verifyBlobTail ⟨fun _ _ => none⟩ (fun a => (⟨"", digestName a, 3, []⟩, none)) ⟨[]⟩ none
    ⟨⟨⟨"c"⟩, ⟨.AlgorithmPS512⟩⟩, none⟩ ⟨⟨"text/plain", "SHA512", 3, []⟩⟩).2 = none := by decide +kernel
example : (verifier.verifyBlobTail ⟨fun _ _ => none⟩ (fun a => (⟨"", digestName a, 2, []⟩, none)) ⟨[]⟩ none
    ⟨⟨⟨"c"⟩, ⟨.AlgorithmPS512⟩⟩, none⟩ ⟨⟨"text/plain", "SHA512", 3, []⟩⟩).2.isSome = true := by decide +kernel

end Tie
end NotationModel.C07
