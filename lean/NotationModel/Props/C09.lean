/-
C09 - Only well-formed trust policy documents are accepted.
Theorems about the model of `Model/C09.lean`; then (namespace `Tie`) the translated Go functions decide as the model.

Main results
* `validate_iff_wellformed`  : Validate() accepts a document (OCI or blob) iff `WellFormed` - the
  property's rule list as a conjunction of quantified rules, no order of checks.
* `accepted_enforces_integrity` : every statement of an accepted document yields a level; unless
  the statement is skip the level says integrity = enforce (and nothing else about integrity).
* `scopes_unique_of_valid`   : valid OCI document: no scope twice, one wildcard statement at most,
  the wildcard alone in its statement.
* `newVerifier_iff`          : the constructor route (NewVerifierWithOptions and the deprecated New /
  NewWithOptions, which call it): a verifier is built iff there is a trust store, at least one
  document, and EVERY document given - OCI and blob - is well-formed.

Rules that `WellFormed` contains because the code enforces them although the statement's list
does not spell them out: an identity is the wildcard or reads `prefix:value`; every statement of
an OCI document has at least one scope. Mandatory attributes must have a non-empty value.
-/
import NotationModel.Model.C09
import NotationModel.Generated.SrcLevels
import NotationModel.Generated.SrcC09

namespace NotationModel.C09
open NotationModel

/-! ### facts about the regenerated tables (re-checked whenever the source changes) -/

/-- the syntax trees the matcher runs on print exactly the expression texts of the source -/
theorem domainRx_pinned : domainRx.anchored = Facts.domainRegex ∧ domainRx.wf = true := by decide +kernel
theorem repositoryRx_pinned : repositoryRx.anchored = Facts.repositoryRegex ∧ repositoryRx.wf = true := by decide +kernel
theorem fileNameRx_pinned : fileNameRx.anchored = Facts.fileNameRegex ∧ fileNameRx.wf = true := by decide +kernel

/-- the literals of `Spec` are the constants of the source -/
theorem constants_pinned :
    Facts.wildcard = Spec.wildcard ∧ Facts.x509Subject = Spec.x509Subject ∧
    Facts.mandatoryDNFields = Spec.mandatoryDNFields ∧ Facts.fileNameRefused = Spec.fileNameRefused := by
  decide +kernel

/-- the fact extractor found the three regular expressions (wherever the source defines them) -/
theorem regex_readers_ok : Facts.regexReaderProblems = [] := by decide +kernel

theorem level_names_nodup : (Facts.levels.map (·.1)).Nodup := by decide +kernel
theorem empty_not_level : "" ∉ Facts.levels.map (·.1) := by decide +kernel
theorem skip_is_level : Facts.levelSkipName ∈ Facts.levels.map (·.1) := by decide +kernel
theorem empty_not_type : "" ∉ Facts.validationTypes := by decide +kernel
theorem empty_not_action : "" ∉ Facts.validationActions := by decide +kernel
theorem skip_literal : Facts.policyCoreSkipLiteral = Facts.levelSkipName := by decide +kernel
theorem custom_not_skip : Facts.customLevelName ≠ Facts.levelSkipName := by decide +kernel
theorem wildcard_no_colon : cut ':' Spec.wildcard = none := by decide +kernel
theorem wildcard_nonempty : Spec.wildcard ≠ [] := by decide +kernel
theorem empty_not_version (k : Kind) : "" ∉ supportedVersions k := by cases k <;> decide +kernel

/-- integrity = enforce is in the map and is the only thing the map says about integrity -/
def EnfIntegrity (e : Enf) : Prop :=
  (Facts.typeIntegrity, Facts.actionEnforce) ∈ e ∧ ∀ p ∈ e, p.1 = Facts.typeIntegrity → p.2 = Facts.actionEnforce

instance (e : Enf) : Decidable (EnfIntegrity e) := by unfold EnfIntegrity; infer_instance

theorem table_enforces_integrity : ∀ l ∈ Facts.levels, l.1 ≠ Facts.levelSkipName → EnfIntegrity l.2 := by decide +kernel
theorem table_skip_skips_integrity : ∀ l ∈ Facts.levels, l.1 = Facts.levelSkipName → ¬ EnfIntegrity l.2 := by decide +kernel

/-! ### a guard in front of a check; two searches in lists -/

theorem ite_error_eq_ok {ε α : Type} {c : Prop} [Decidable c] (m : ε) (x : Except ε α) (a : α) :
    (if c then .error m else x) = .ok a ↔ ¬ c ∧ x = .ok a := by
  by_cases h : c <;> simp [h]

theorem foldl_lastMatch {α : Type} (p : α → Bool) (L : List α) (acc : Option α) :
    L.foldl (fun acc l => if p l then some l else acc) acc = (L.reverse.find? p).or acc := by
  induction L generalizing acc with
  | nil => rfl
  | cons h t ih =>
    rw [List.foldl_cons, ih, List.reverse_cons, List.find?_append, Option.or_assoc]
    cases hp : p h <;> simp [hp]

theorem find?_beq_getD {α : Type} [BEq α] [LawfulBEq α] (L : List α) (k d : α) :
    (L.find? (· == k)).getD d = if L.contains k then k else d := by
  induction L with
  | nil => rfl
  | cons a r ih =>
    by_cases h : a = k
    · subst h; simp
    · have h1 : (a == k) = false := beq_false_of_ne h
      have h2 : (k == a) = false := beq_false_of_ne (Ne.symm h)
      simp only [List.find?_cons, h1, ih, List.contains_cons, h2, Bool.false_or]

/-! ### GetVerificationLevel -/

theorem baseLevel_eq (lvl : String) : baseLevel lvl = Facts.levels.reverse.find? (·.1 == lvl) := by
  unfold baseLevel
  rw [foldl_lastMatch (fun l : String × Enf => l.1 == lvl), Option.or_none]

theorem baseLevel_exists (lvl : String) : (∃ b, baseLevel lvl = some b) ↔ lvl ∈ Facts.levels.map (·.1) := by
  simp [baseLevel_eq, ← Option.isSome_iff_exists, List.find?_isSome]

theorem baseLevel_some (lvl : String) (b : String × Enf) (h : baseLevel lvl = some b) :
    b ∈ Facts.levels ∧ b.1 = lvl := by
  rw [baseLevel_eq] at h
  exact ⟨List.mem_reverse.1 (List.mem_of_find?_eq_some h), by simpa using List.find?_some h⟩

theorem find?_getD_eq_empty (L : List String) (k : String) (h : "" ∉ L) :
    ((L.find? (· == k)).getD "" == "") = !L.contains k := by
  rw [find?_beq_getD]
  cases hc : L.contains k
  · simp
  · have : k ≠ "" := fun e => h (e ▸ List.contains_iff_mem.1 hc)
    simpa using this

theorem applyOverride_ok (kv : KV) (e e' : Enf) :
    applyOverride kv e = .ok e' ↔ OverrideOk kv ∧ e' = setKey kv.key kv.val e := by
  unfold applyOverride OverrideOk
  rw [find?_getD_eq_empty _ _ empty_not_type, find?_getD_eq_empty _ _ empty_not_action, ite_error_eq_ok,
    ite_error_eq_ok, ite_error_eq_ok, ite_error_eq_ok, and_assoc, and_assoc, and_assoc]
  refine and_congr (by simp) (and_congr (by simp) (and_congr (by simp) (and_congr ?_ (by simp [eq_comm]))))
  simp only [Bool.and_eq_true, bne_iff_ne, ne_eq, beq_iff_eq]
  exact ⟨fun h hv => Decidable.not_not.1 fun hk => h ⟨hk, hv⟩, fun h ⟨hk, hv⟩ => hk (h hv)⟩

theorem applyOverrides_ok (ov : List KV) (e : Enf) :
    (∃ e', applyOverrides ov e = .ok e') ↔ ∀ kv ∈ ov, OverrideOk kv := by
  induction ov generalizing e with
  | nil => simp [applyOverrides]
  | cons kv r ih =>
    rw [applyOverrides, List.forall_mem_cons]
    cases h : applyOverride kv e with
    | error m =>
      have : ¬ OverrideOk kv := fun hk => by simp [(applyOverride_ok kv e _).2 ⟨hk, rfl⟩] at h
      simp [this]
    | ok e1 => simp [ih, ((applyOverride_ok kv e e1).1 h).1]

theorem setKey_mem_of_ne (k v : String) (p : String × String) (hk : p.1 ≠ k) :
    ∀ e : Enf, p ∈ e → p ∈ setKey k v e := by
  intro e hp
  unfold setKey
  split
  · refine List.mem_map.2 ⟨p, hp, ?_⟩
    have : (p.1 == k) = false := by simpa using hk
    simp [this]
  · exact List.mem_append_left _ hp

theorem setKey_mem (k v : String) (p : String × String) :
    ∀ e : Enf, p ∈ setKey k v e → p ∈ e ∨ p = (k, v) := by
  intro e hp
  unfold setKey at hp
  split at hp
  · obtain ⟨q, hq, rfl⟩ := List.mem_map.1 hp
    by_cases hqk : (q.1 == k) = true
    · right; simp [hqk]
    · left
      have : (q.1 == k) = false := by simpa using hqk
      simpa [this] using hq
  · rcases List.mem_append.1 hp with h | h
    · exact Or.inl h
    · right; simpa using h

theorem setKey_integrity (k v : String) (e : Enf) (hk : k ≠ Facts.typeIntegrity) (h : EnfIntegrity e) :
    EnfIntegrity (setKey k v e) := by
  obtain ⟨h1, h2⟩ := h
  refine ⟨setKey_mem_of_ne k v _ (fun h => hk h.symm) e h1, ?_⟩
  intro p hp hpi
  rcases setKey_mem k v p e hp with h | h
  · exact h2 p h hpi
  · subst h; exact absurd hpi hk

theorem applyOverrides_integrity (ov : List KV) (e e' : Enf) (h : applyOverrides ov e = .ok e')
    (hi : EnfIntegrity e) : EnfIntegrity e' := by
  induction ov generalizing e with
  | nil => cases h; exact hi
  | cons kv r ih =>
    rw [applyOverrides] at h
    cases h1 : applyOverride kv e with
    | error m => rw [h1] at h; cases h
    | ok e1 =>
      rw [h1] at h
      obtain ⟨hok, rfl⟩ := (applyOverride_ok kv e e1).1 h1
      exact ih _ h (setKey_integrity _ _ _ hok.2.2.1 hi)

theorem effective_ok (lvl : String) (ov : List KV) (lv : String × Enf) :
    effective lvl ov = .ok lv ↔ ∃ b, baseLevel lvl = some b ∧
      if ov = [] then lv = b
      else lvl ≠ Facts.levelSkipName ∧ ∃ e, applyOverrides ov b.2 = .ok e ∧ lv = (Facts.customLevelName, e) := by
  unfold effective
  rw [ite_error_eq_ok]
  cases hb : baseLevel lvl with
  | none => simp
  | some b =>
    obtain ⟨hm, hb1⟩ := baseLevel_some lvl b hb
    have h0 : lvl ≠ "" := fun e => empty_not_level (e ▸ hb1 ▸ List.mem_map_of_mem hm)
    simp only [Option.some.injEq, exists_eq_left', beq_iff_eq, h0, not_false_eq_true, true_and, hb1]
    cases ov with
    | nil => simp [eq_comm]
    | cons kv r =>
      simp only [List.isEmpty_cons, Bool.false_eq_true, if_false, ite_error_eq_ok, reduceCtorEq]
      cases applyOverrides (kv :: r) b.2 <;> simp [eq_comm]

theorem effective_ok_iff (lvl : String) (ov : List KV) :
    (∃ lv, effective lvl ov = .ok lv) ↔
      lvl ∈ Facts.levels.map (·.1) ∧ (lvl = Facts.levelSkipName → ov = []) ∧ ∀ kv ∈ ov, OverrideOk kv := by
  simp only [effective_ok, ← baseLevel_exists]
  by_cases ho : ov = []
  · simp [ho]
  · simp only [ho, if_false]
    constructor
    · rintro ⟨_, b, hb, hs, e, he, _⟩
      exact ⟨⟨b, hb⟩, fun h => absurd h hs, (applyOverrides_ok ov b.2).1 ⟨e, he⟩⟩
    · rintro ⟨⟨b, hb⟩, hs, he⟩
      obtain ⟨e, he⟩ := (applyOverrides_ok ov b.2).2 he
      exact ⟨_, b, hb, hs, e, he, rfl⟩

theorem effective_level (lvl : String) (ov : List KV) (lv : String × Enf) (h : effective lvl ov = .ok lv) :
    (lv.1 = Facts.policyCoreSkipLiteral ↔ lvl = Facts.levelSkipName) ∧
      (lvl ≠ Facts.levelSkipName → EnfIntegrity lv.2) := by
  obtain ⟨b, hb, h⟩ := (effective_ok lvl ov lv).1 h
  obtain ⟨hm, rfl⟩ := baseLevel_some _ b hb
  rw [skip_literal]
  by_cases ho : ov = []
  · rw [if_pos ho] at h; subst h
    exact ⟨Iff.rfl, table_enforces_integrity lv hm⟩
  · rw [if_neg ho] at h
    obtain ⟨hs, e, he, rfl⟩ := h
    exact ⟨⟨fun h => absurd h custom_not_skip, fun h => absurd h hs⟩,
      fun _ => applyOverrides_integrity _ _ _ he (table_enforces_integrity b hm hs)⟩

/-! ### validateTrustStore -/

theorem validateTrustStore_ok : ∀ ts : List Text,
    validateTrustStore ts = .ok () ↔ ∀ t ∈ ts, storeOk t = true
  | [] => by simp [validateTrustStore]
  | t :: r => by
    rw [validateTrustStore, List.forall_mem_cons, ← validateTrustStore_ok r, storeOk]
    cases cut ':' t with
    | none => simp
    | some p => simp only [ite_error_eq_ok, Bool.not_eq_true', Bool.not_eq_false, Bool.and_eq_true, and_assoc]

/-! ### pkix.ParseDistinguishedName -/

def attrPair (a : Attr) : String × String := (aliasType a.typ, a.val)

theorem dnPairs_eq (rdns : List (List Attr)) : dnPairs rdns = rdns.flatten.map attrPair := rfl

theorem lookup_isSome (k : String) (m : DNMap) : (m.lookup k).isSome = true ↔ k ∈ m.map (·.1) := by
  simp only [List.lookup_isSome_iff, beq_iff_eq, List.mem_map]
  exact ⟨fun ⟨p, hp, e⟩ => ⟨p, hp, e.symm⟩, fun ⟨p, hp, e⟩ => ⟨p, hp, e.symm⟩⟩

theorem lookup_eq_some (k v : String) : ∀ m : DNMap, (m.map (·.1)).Nodup →
    (m.lookup k = some v ↔ (k, v) ∈ m)
  | [], _ => by simp
  | (k', v') :: t, hn => by
    rw [List.map_cons, List.nodup_cons] at hn
    by_cases hk : k = k'
    · subst hk
      have : (k, v) ∉ t := fun h => hn.1 (List.mem_map_of_mem (f := (·.1)) h)
      simp [this, eq_comm]
    · simp [List.lookup_cons, beq_false_of_ne hk, hk, lookup_eq_some k v t hn.2]

theorem dnAttrs_ok : ∀ (as : List Attr) (m m' : DNMap), (m.map (·.1)).Nodup →
    (dnAttrs as m = .ok m' ↔ m' = m ++ as.map attrPair ∧ (m'.map (·.1)).Nodup)
  | [], m, m', hm => by
    simp only [dnAttrs, Except.ok.injEq, List.map_nil, List.append_nil]
    exact ⟨fun h => h ▸ ⟨rfl, hm⟩, fun h => h.1.symm⟩
  | a :: r, m, m', hm => by
    rw [dnAttrs, dnAttr]
    by_cases hk : aliasType a.typ ∈ m.map (·.1)
    · simp only [(lookup_isSome _ m).2 hk, if_true, reduceCtorEq, false_iff, not_and]
      rintro rfl hn
      simp only [List.map_append, List.map_cons, List.nodup_append, List.mem_cons, attrPair] at hn
      exact hn.2.2 _ hk _ (Or.inl rfl) rfl
    · have hl : (m.lookup (aliasType a.typ)).isSome = false :=
        Bool.eq_false_iff.2 fun h => hk ((lookup_isSome _ m).1 h)
      have hm' : ((m ++ [attrPair a]).map (·.1)).Nodup := by
        rw [List.map_append, List.nodup_append]
        exact ⟨hm, by simp, fun x hx y hy e => hk (by
          rw [List.map_cons, List.map_nil, List.mem_singleton] at hy
          exact (e.trans hy : x = aliasType a.typ) ▸ hx)⟩
      simp only [hl, Bool.false_eq_true, if_false]
      rw [show (aliasType a.typ, a.val) = attrPair a from rfl, dnAttrs_ok r _ m' hm', List.append_assoc]
      rfl

theorem dnAttrs_append : ∀ (a b : List Attr) (m m' : DNMap),
    dnAttrs (a ++ b) m = .ok m' ↔ ∃ m1, dnAttrs a m = .ok m1 ∧ dnAttrs b m1 = .ok m'
  | [], b, m, m' => by simp [dnAttrs]
  | x :: r, b, m, m' => by
    rw [List.cons_append, dnAttrs, dnAttrs]
    cases dnAttr m x with
    | error e => simp
    | ok m1 => exact dnAttrs_append r b m1 m'

theorem dnRdns_ok : ∀ (rdns : List (List Attr)) (m m' : DNMap),
    dnRdns rdns m = .ok m' ↔ (∀ r ∈ rdns, r.length ≤ 1) ∧ dnAttrs rdns.flatten m = .ok m'
  | [], m, m' => by simp [dnRdns, dnAttrs]
  | rdn :: r, m, m' => by
    rw [dnRdns, ite_error_eq_ok, List.forall_mem_cons, List.flatten_cons, dnAttrs_append, Nat.not_lt, and_assoc]
    refine and_congr Iff.rfl ?_
    cases dnAttrs rdn m <;> simp [dnRdns_ok r]

/-- `v ∈ m.map (·.2)` follows from `(f, v) ∈ m`; `DNOk` has it for decidability -/
theorem hasMandatory_iff (m : DNMap) (hn : (m.map (·.1)).Nodup) :
    hasMandatory m = true ↔ ∀ f ∈ Spec.mandatoryDNFields, ∃ v ∈ m.map (·.2), (f, v) ∈ m ∧ v ≠ "" := by
  unfold hasMandatory
  rw [List.all_eq_true]
  constructor
  · intro h f hf
    have := h f hf
    cases hl : m.lookup f with
    | none => simp [hl] at this
    | some v =>
      simp only [hl, Option.getD_some, bne_iff_ne, ne_eq] at this
      have hm := (lookup_eq_some f v m hn).1 hl
      exact ⟨v, List.mem_map.2 ⟨(f, v), hm, rfl⟩, hm, this⟩
  · intro h f hf
    obtain ⟨v, _, hm, hv⟩ := h f hf
    have hl := (lookup_eq_some f v m hn).2 hm
    simp [hl, hv]

theorem dnRdns_nil_ok (rdns : List (List Attr)) (m : DNMap) :
    dnRdns rdns [] = .ok m ↔
      (∀ r ∈ rdns, r.length ≤ 1) ∧ m = dnPairs rdns ∧ ((dnPairs rdns).map (·.1)).Nodup := by
  rw [dnRdns_ok, dnAttrs_ok _ [] _ List.nodup_nil, dnPairs_eq,
    List.nil_append]
  exact and_congr Iff.rfl ⟨fun ⟨h, hn⟩ => ⟨h, h ▸ hn⟩, fun ⟨h, hn⟩ => ⟨h, h ▸ hn⟩⟩

theorem parseDN_ok (value : Text) (ldap : Option (List (List Attr))) (m : DNMap) :
    parseDN value ldap = .ok m ↔
      hasInfix Facts.dnRefusedInfix value = false ∧ ldap.isSome = true ∧
      (∀ r ∈ ldap.getD [], r.length ≤ 1) ∧ m = dnPairs (ldap.getD []) ∧
      ((dnPairs (ldap.getD [])).map (·.1)).Nodup ∧
      (∀ f ∈ Spec.mandatoryDNFields, ∃ v ∈ (dnPairs (ldap.getD [])).map (·.2),
          (f, v) ∈ dnPairs (ldap.getD []) ∧ v ≠ "") := by
  unfold parseDN
  rw [ite_error_eq_ok]
  refine and_congr (by simp) ?_
  cases ldap with
  | none => simp
  | some rdns =>
    simp only [Option.isSome_some, Option.getD_some, true_and]
    have h := dnRdns_nil_ok rdns
    cases hr : dnRdns rdns [] with
    | error e =>
      simp only [hr, reduceCtorEq, false_iff, not_and] at h ⊢
      exact fun h1 hm h3 => (h _ h1 rfl h3).elim
    | ok m1 =>
      obtain ⟨h1, rfl, h3⟩ := (h m1).1 hr
      rw [and_iff_right h1, and_iff_right h3, ← hasMandatory_iff _ h3]
      by_cases hm : hasMandatory (dnPairs rdns) = true <;> simp [hm, eq_comm (a := m)]

/-! ### validateTrustedIdentities -/

/-- what the code demands of a single identity -/
def IdOk (id : Identity) : Prop :=
  id.raw ≠ [] ∧ (id.raw ≠ Spec.wildcard → (cut ':' id.raw).isSome = true) ∧ (isX509 id = true → DNOk id)

theorem identitiesOk_iff (ids : List Identity) : IdentitiesOk ids ↔
    (Spec.wildcard ∈ ids.map (·.raw) → ids.length ≤ 1) ∧ (∀ id ∈ ids, IdOk id) ∧
      NoOverlap ((ids.filter isX509).map dnMapOf) := Iff.rfl

theorem DNOk.value_ne {id : Identity} (h : DNOk id) : idValue id ≠ [] := h.1
theorem DNOk.keys_nodup {id : Identity} (h : DNOk id) : ((dnMapOf id).map (·.1)).Nodup := h.2.2.2.2.1

theorem parseDN_DNOk (id : Identity) (m : DNMap) :
    idValue id ≠ [] ∧ parseDN (idValue id) id.dn = .ok m ↔ DNOk id ∧ m = dnMapOf id := by
  rw [parseDN_ok]
  unfold DNOk dnMapOf rdnsOf
  exact ⟨fun ⟨hne, hinfix, hsome, hsingle, hmap, hkeys, hmand⟩ => ⟨⟨hne, hinfix, hsome, hsingle, hkeys, hmand⟩, hmap⟩,
    fun ⟨⟨hne, hinfix, hsome, hsingle, hkeys, hmand⟩, hmap⟩ => ⟨hne, hinfix, hsome, hsingle, hmap, hkeys, hmand⟩⟩

theorem wildcard_not_x509 (id : Identity) (h : id.raw = Spec.wildcard) : isX509 id = false := by
  simp [isX509, idPrefix, h, wildcard_no_colon]

theorem collectDNs_cons (id : Identity) (r : List Identity) (acc ms : List DNMap) :
    collectDNs (id :: r) acc = .ok ms ↔
      IdOk id ∧ collectDNs r (acc ++ if isX509 id then [dnMapOf id] else []) = .ok ms := by
  rw [collectDNs, ite_error_eq_ok, IdOk, and_assoc]
  refine and_congr (by cases id.raw <;> simp) ?_
  by_cases hw : id.raw = Spec.wildcard
  · simp [hw, wildcard_not_x509 id hw]
  · simp only [beq_iff_eq, ne_eq, hw, if_false, not_false_eq_true, true_implies]
    cases hc : cut ':' id.raw with
    | none => simp
    | some p =>
      have hv : idValue id = p.2 := by simp [idValue, hc]
      by_cases hp : p.1 = Spec.x509Subject
      · have hx : isX509 id = true := by simp [isX509, idPrefix, hc, hp]
        have h := parseDN_DNOk id
        rw [hv] at h
        simp only [hp, if_true, ite_error_eq_ok, hx, Option.isSome_some, true_and, true_implies]
        cases hpd : parseDN p.2 id.dn with
        | error e =>
          have : ¬ DNOk id := fun hd => by simpa [hpd] using ((h _).2 ⟨hd, rfl⟩).2
          simp [this]
        | ok m =>
          by_cases hv0 : p.2 = []
          · have : ¬ DNOk id := fun hd => hd.value_ne (hv.trans hv0)
            simp [hv0, this]
          · obtain ⟨hd, rfl⟩ := (h m).1 ⟨hv0, hpd⟩
            simp [hv0, hd]
      · simp [isX509, idPrefix, hc, hp]

theorem collectDNs_ok : ∀ (ids : List Identity) (acc ms : List DNMap),
    collectDNs ids acc = .ok ms ↔
      (∀ id ∈ ids, IdOk id) ∧ ms = acc ++ (ids.filter isX509).map dnMapOf
  | [], acc, ms => by simp [collectDNs, eq_comm]
  | id :: r, acc, ms => by
    rw [collectDNs_cons, collectDNs_ok r, List.forall_mem_cons, and_assoc, List.filter_cons]
    cases isX509 id <;> simp

theorem overlapping_false (ms : List DNMap) : overlapping ms = false ↔ NoOverlap ms := by
  unfold overlapping NoOverlap
  simp only [List.any_eq_false, List.mem_range, Bool.and_eq_true, bne_iff_ne, ne_eq, not_and,
    Bool.not_eq_true]

theorem validateTrustedIdentities_ok (ids : List Identity) :
    validateTrustedIdentities ids = .ok () ↔ IdentitiesOk ids := by
  unfold validateTrustedIdentities
  rw [identitiesOk_iff]
  rw [ite_error_eq_ok]
  refine and_congr (by
    simp only [Bool.and_eq_true, decide_eq_true_eq, List.contains_iff_mem, not_and', gt_iff_lt, Nat.not_lt]) ?_
  have h := collectDNs_ok ids []
  cases hc : collectDNs ids [] with
  | error e =>
    simp only [hc, reduceCtorEq, false_iff, not_and] at h ⊢
    exact fun hall _ => h _ hall rfl
  | ok ms =>
    obtain ⟨hall, rfl⟩ := (h ms).1 hc
    simp only [ite_error_eq_ok, List.nil_append, Bool.not_eq_true, overlapping_false, and_true]
    exact ⟨fun hn => ⟨hall, hn⟩, fun hn => hn.2⟩

/-! ### validatePolicyCore -/

theorem length_pos_false {α : Type} (l : List α) : decide (l.length > 0) = false ↔ l = [] := by
  cases l <;> simp

theorem validatePolicyCore_ok (s : Statement) : validatePolicyCore s = .ok () ↔ StatementOk s := by
  unfold validatePolicyCore StatementOk IsSkip
  rw [ite_error_eq_ok]
  refine and_congr (by simp) ?_
  have heff := effective_ok_iff s.level s.override
  cases he : effective s.level s.override with
  | error e =>
    simp only [he, reduceCtorEq, exists_false, false_iff, not_and] at heff ⊢
    exact fun h1 h2 h3 => (heff h1 h2 h3).elim
  | ok lv =>
    obtain ⟨h1, h2, h3⟩ := heff.1 ⟨lv, he⟩
    -- the code asks the level it got back for its name, the rules speak of the statement's level: the
    -- name is "skip" exactly for the level skip, a customised level being called "custom"
    have hskip : (lv.1 == Facts.policyCoreSkipLiteral) = true ↔ s.level = Facts.levelSkipName :=
      beq_iff_eq.trans (effective_level _ _ _ he).1
    rw [and_iff_right h1, and_iff_right h2, and_iff_right h3, ite_error_eq_ok]
    refine and_congr (by simp [Decidable.or_iff_not_imp_left]) ?_
    by_cases hs : s.level = Facts.levelSkipName
    · rw [if_pos (hskip.2 hs), ite_error_eq_ok]
      simp [hs, List.length_pos_iff]
    · rw [if_neg (mt hskip.1 hs), ite_error_eq_ok, ← validateTrustStore_ok, ← validateTrustedIdentities_ok]
      cases validateTrustStore s.trustStores <;> simp [hs, and_assoc]

/-! ### the statement loops and the scope rules -/

theorem names_cons (n : String) (ns seen : List String) :
    (∀ a ∈ n :: ns, a ∉ seen) ∧ (n :: ns).Nodup ↔ n ∉ seen ∧ (∀ a ∈ ns, a ∉ n :: seen) ∧ ns.Nodup := by
  simp only [List.mem_cons, forall_eq_or_imp, not_or, List.nodup_cons]
  exact ⟨fun ⟨⟨h1, h2⟩, h3, h4⟩ => ⟨h1, fun a ha => ⟨fun e => h3 (e ▸ ha), h2 a ha⟩, h4⟩,
    fun ⟨h1, h2, h3⟩ => ⟨⟨h1, fun a ha => (h2 a ha).2⟩, fun hm => (h2 n hm).1 rfl, h3⟩⟩

theorem validateStatementsOCI_ok : ∀ (ss : List Statement) (seen : List String),
    validateStatementsOCI ss seen = .ok () ↔
      (∀ s ∈ ss, StatementOk s) ∧ (∀ n ∈ ss.map (·.name), n ∉ seen) ∧ (ss.map (·.name)).Nodup
  | [], _ => by simp [validateStatementsOCI]
  | s :: r, seen => by
    rw [validateStatementsOCI, ite_error_eq_ok, List.map_cons, names_cons, List.forall_mem_cons,
      ← validatePolicyCore_ok]
    cases validatePolicyCore s with
    | error e => simp
    | ok u =>
      simp only [validateStatementsOCI_ok r, List.contains_iff_mem, true_and]
      exact ⟨fun ⟨hfresh, hok, hnames⟩ => ⟨hok, hfresh, hnames⟩, fun ⟨hok, hfresh, hnames⟩ => ⟨hfresh, hok, hnames⟩⟩

theorem checkScopes_ok : ∀ l : List Text,
    checkScopes l = .ok () ↔ ∀ sc ∈ l, sc = Spec.wildcard ∨ validScopeFormat sc = true
  | [] => by simp [checkScopes]
  | sc :: r => by
    rw [checkScopes, ite_error_eq_ok, checkScopes_ok r, List.forall_mem_cons]
    exact and_congr (by simp [Decidable.or_iff_not_imp_left]) Iff.rfl

/-- what the code demands of the scope list of one statement -/
def StmtScopesOk (s : Statement) : Prop :=
  s.scopes ≠ [] ∧ (Spec.wildcard ∈ s.scopes → s.scopes.length ≤ 1) ∧
    ∀ sc ∈ s.scopes, sc = Spec.wildcard ∨ validScopeFormat sc = true

theorem scopesOk_iff (d : Doc) : ScopesOk d ↔
    (∀ s ∈ d.statements, StmtScopesOk s) ∧ (d.statements.flatMap (·.scopes)).Nodup := Iff.rfl

theorem scanScopes_ok : ∀ (ss : List Statement) (acc all : List Text),
    scanScopes ss acc = .ok all ↔
      (∀ s ∈ ss, StmtScopesOk s) ∧ all = acc ++ ss.flatMap (·.scopes)
  | [], acc, all => by simp [scanScopes, eq_comm]
  | s :: r, acc, all => by
    rw [scanScopes, ite_error_eq_ok, ite_error_eq_ok, List.forall_mem_cons, StmtScopesOk, ← checkScopes_ok]
    simp only [and_assoc]
    refine and_congr (by cases s.scopes <;> simp) (and_congr ?_ ?_)
    · simp only [Bool.and_eq_true, decide_eq_true_eq, List.contains_iff_mem, not_and', gt_iff_lt, Nat.not_lt]
    · cases checkScopes s.scopes <;> simp [scanScopes_ok r]

theorem count_check (l : List Text) : l.any (fun k => l.count k > 1) = false ↔ l.Nodup := by
  rw [List.nodup_iff_count]
  simp only [List.any_eq_false, gt_iff_lt, decide_eq_true_eq, Nat.not_lt]
  constructor
  · intro h a
    by_cases ha : a ∈ l
    · exact h a ha
    · rw [List.count_eq_zero.2 ha]; omega
  · intro h a _; exact h a

theorem validateRegistryScopes_ok (ss : List Statement) :
    validateRegistryScopes ss = .ok () ↔
      (∀ s ∈ ss, StmtScopesOk s) ∧ (ss.flatMap (·.scopes)).Nodup := by
  unfold validateRegistryScopes
  have h := scanScopes_ok ss []
  cases hs : scanScopes ss [] with
  | error e =>
    simp only [hs, reduceCtorEq, false_iff, not_and] at h ⊢
    exact fun hall _ => h _ hall rfl
  | ok all =>
    obtain ⟨hall, rfl⟩ := (h all).1 hs
    simp only [ite_error_eq_ok, List.nil_append, Bool.not_eq_true, count_check, and_true]
    exact ⟨fun hn => ⟨hall, hn⟩, fun hn => hn.2⟩

/-- the blob loop from any state: `found` counts as one more global statement -/
theorem validateStatementsBlob_ok : ∀ (ss : List Statement) (seen : List String) (found : Bool),
    validateStatementsBlob ss seen found = .ok () ↔
      (∀ s ∈ ss, StatementOk s) ∧ ((∀ n ∈ ss.map (·.name), n ∉ seen) ∧ (ss.map (·.name)).Nodup) ∧
      (ss.filter (·.isGlobal)).length + (if found then 1 else 0) ≤ 1 ∧
      (∀ s ∈ ss, s.isGlobal = true → ¬ IsSkip s)
  | [], _, found => by cases found <;> simp [validateStatementsBlob]
  | s :: r, seen, found => by
    rw [validateStatementsBlob, ite_error_eq_ok, List.map_cons, names_cons, List.forall_mem_cons,
      List.forall_mem_cons, ← validatePolicyCore_ok, List.filter_cons]
    cases validatePolicyCore s with
    | error e => simp
    | ok u =>
      cases hg : s.isGlobal with
      | false =>
        simp only [validateStatementsBlob_ok r, List.contains_iff_mem, true_and, Bool.false_eq_true, if_false,
          false_implies]
        exact ⟨fun ⟨hfresh, hok, ⟨havoid, hnames⟩, hglob⟩ => ⟨hok, ⟨hfresh, havoid, hnames⟩, hglob⟩,
          fun ⟨hok, ⟨hfresh, havoid, hnames⟩, hglob⟩ => ⟨hfresh, hok, ⟨havoid, hnames⟩, hglob⟩⟩
      | true =>
        simp only [if_true, ite_error_eq_ok, validateStatementsBlob_ok r, List.contains_iff_mem, true_and,
          List.length_cons, true_implies, IsSkip, beq_iff_eq, Bool.not_eq_true]
        cases found
        · simp only [Bool.false_eq_true, if_false, Nat.add_zero, true_and]
          exact ⟨fun ⟨hfresh, hnoskip, hok, hnames, hone, hrest⟩ => ⟨hok, ⟨hfresh, hnames⟩, hone, hnoskip, hrest⟩,
            fun ⟨hok, ⟨hfresh, hnames⟩, hone, hnoskip, hrest⟩ => ⟨hfresh, hnoskip, hok, hnames, hone, hrest⟩⟩
        · simp only [if_true, reduceCtorEq, false_and, and_false, false_iff]
          exact fun ⟨_, _, htwo, _⟩ => by omega

/-! ### the property theorems -/

theorem isOk_iff (x : Except String Unit) : isOk x = true ↔ x = .ok () := by
  cases x <;> simp [isOk]

theorem isOk_validateTrustStore (ts : List Text) : isOk (validateTrustStore ts) = ts.all storeOk := by
  rw [Bool.eq_iff_iff, isOk_iff, validateTrustStore_ok, List.all_eq_true]

theorem version_ok (k : Kind) (v : String) :
    (¬ (v == "") = true ∧ ¬ (!(supportedVersions k).contains v) = true) ↔ v ∈ supportedVersions k := by
  simp only [beq_iff_eq, Bool.not_eq_true', Bool.not_eq_false, List.contains_iff_mem]
  exact ⟨fun h => h.2, fun h => ⟨fun e => empty_not_version k (e ▸ h), h⟩⟩

theorem validateOCI_iff (d : Doc) : validateOCI d = .ok () ↔ WellFormed .oci d := by
  unfold validateOCI WellFormed
  rw [ite_error_eq_ok, ite_error_eq_ok, ite_error_eq_ok, ← and_assoc]
  refine and_congr (version_ok .oci d.version) (and_congr (by cases d.statements <;> simp) ?_)
  have h := validateStatementsOCI_ok d.statements []
  simp only [List.not_mem_nil, not_false_eq_true, implies_true, true_and] at h
  cases hv : validateStatementsOCI d.statements [] with
  | error e =>
    simp only [hv, reduceCtorEq, false_iff, not_and] at h ⊢
    exact fun hn hs => (h hs hn).elim
  | ok u =>
    obtain ⟨hs, hn⟩ := h.1 hv
    simp only [validateRegistryScopes_ok, scopesOk_iff, and_iff_right hn, and_iff_right hs, reduceCtorEq,
      false_implies, and_true, true_implies]

theorem validateBlob_iff (d : Doc) : validateBlob d = .ok () ↔ WellFormed .blob d := by
  unfold validateBlob WellFormed
  rw [ite_error_eq_ok, ite_error_eq_ok, ite_error_eq_ok, ← and_assoc, validateStatementsBlob_ok]
  refine and_congr (version_ok .blob d.version) (and_congr (by cases d.statements <;> simp) ?_)
  simp only [List.not_mem_nil, not_false_eq_true, implies_true, true_and, Bool.false_eq_true, if_false,
    Nat.add_zero, GlobalOk, reduceCtorEq, false_implies, true_implies]
  exact ⟨fun ⟨hok, hnames, hglob⟩ => ⟨hnames, hok, hglob⟩, fun ⟨hnames, hok, hglob⟩ => ⟨hok, hnames, hglob⟩⟩

/-- **C09, first sentence.** A policy document is accepted iff it obeys every structural rule. -/
theorem validate_iff_wellformed (k : Kind) (d : Doc) : validate k d = .ok () ↔ WellFormed k d := by
  cases k with
  | oci => exact validateOCI_iff d
  | blob => exact validateBlob_iff d

theorem isOk_validate (k : Kind) (d : Doc) : isOk (validate k d) = decide (WellFormed k d) := by
  rw [Bool.eq_iff_iff, isOk_iff, validate_iff_wellformed, decide_eq_true_iff]

/-- **C09, second sentence.** Every statement of an accepted document yields a level, and the level
enforces integrity unless the statement is skip. -/
theorem accepted_enforces_integrity (k : Kind) (d : Doc) (h : validate k d = .ok ()) :
    ∀ s ∈ d.statements, ∃ lv, effective s.level s.override = .ok lv ∧ (¬ IsSkip s → EnfIntegrity lv.2) := by
  intro s hs
  obtain ⟨_, _, _, hall, _⟩ := (validate_iff_wellformed k d).1 h
  obtain ⟨_, h2, h3, h4, _⟩ := hall s hs
  obtain ⟨lv, hlv⟩ := (effective_ok_iff s.level s.override).2 ⟨h2, h3, h4⟩
  exact ⟨lv, hlv, (effective_level _ _ _ hlv).2⟩

theorem scope_in_one_statement (w : Text) : ∀ ss : List Statement, (ss.flatMap (·.scopes)).Nodup →
    (ss.filter (fun s => decide (w ∈ s.scopes))).length ≤ 1 := by
  intro ss
  induction ss with
  | nil => intro _; simp
  | cons s r ih =>
    intro hn
    simp only [List.flatMap_cons] at hn
    obtain ⟨_, h2, h3⟩ := List.nodup_append.1 hn
    simp only [List.filter_cons]
    by_cases hw : w ∈ s.scopes
    · simp only [hw, decide_true, if_true, List.length_cons]
      have : r.filter (fun s => decide (w ∈ s.scopes)) = [] := by
        rw [List.filter_eq_nil_iff]
        intro s' hs'
        simp only [decide_eq_true_eq]
        intro hw'
        exact h3 w hw w (List.mem_flatMap.2 ⟨s', hs', hw'⟩) rfl
      simp [this]
    · simp only [hw, decide_false, Bool.false_eq_true, if_false]
      exact ih h2

/-- In a valid OCI document no scope occurs twice (anywhere), and at most one statement carries the
wildcard scope (what statement selection, C08, assumes of a document). -/
theorem scopes_unique_of_valid (d : Doc) (h : validate .oci d = .ok ()) :
    (d.statements.flatMap (·.scopes)).Nodup ∧
    (d.statements.filter (fun s => decide (Spec.wildcard ∈ s.scopes))).length ≤ 1 ∧
    ∀ s ∈ d.statements, s.scopes ≠ [] ∧ (Spec.wildcard ∈ s.scopes → s.scopes = [Spec.wildcard]) := by
  obtain ⟨_, _, _, _, hsc, _⟩ := (validate_iff_wellformed .oci d).1 h
  obtain ⟨h1, h2⟩ := hsc rfl
  refine ⟨h2, scope_in_one_statement _ _ h2, ?_⟩
  intro s hs
  obtain ⟨hne, hw, _⟩ := h1 s hs
  refine ⟨hne, fun hmem => ?_⟩
  have hl := hw hmem
  cases hsc : s.scopes with
  | nil => exact absurd hsc hne
  | cons x xs =>
    rw [hsc] at hl hmem
    cases xs with
    | nil => simp at hmem; rw [hmem]
    | cons y ys => simp at hl

/-! ### the verifier constructors -/

theorem optWF_iff (k : Kind) (o : Option Doc) : optWF k o = true ↔ ∀ d, o = some d → WellFormed k d := by
  cases o <;> simp [optWF]

@[simp] theorem optWF_none (k : Kind) : optWF k none = true := rfl
@[simp] theorem optWF_some (k : Kind) (d : Doc) : optWF k (some d) = decide (WellFormed k d) := rfl

theorem isOk_validateOpt (k : Kind) (o : Option Doc) : isOk (validateOpt k o) = optWF k o := by
  cases o with
  | none => rfl
  | some d => exact isOk_validate k d

theorem isOk_newVerifier (storeNil : Bool) (oci blob : Option Doc) :
    isOk (newVerifier storeNil oci blob) =
      (!storeNil && (oci.isSome || blob.isSome) && optWF .oci oci && optWF .blob blob) := by
  unfold newVerifier
  cases storeNil with
  | true => simp [isOk]
  | false =>
    simp only [Bool.false_eq_true, if_false, Bool.not_false, Bool.true_and]
    rw [← isOk_validateOpt, ← isOk_validateOpt]
    cases oci with
    | none =>
      cases blob with
      | none => simp [isOk, validateOpt]
      | some b => simp [isOk, validateOpt]
    | some a =>
      simp only [Option.isNone_some, Bool.false_and, Bool.false_eq_true, if_false, Option.isSome_some,
        Bool.true_or, Bool.true_and]
      cases validateOpt .oci (some a) with
      | error e => simp [isOk]
      | ok u => simp [isOk]

/-- **the constructor route.** `verifier.NewVerifierWithOptions` (and the deprecated constructors
that call it) yields a verifier iff there is a trust store, at least one document, and every
document that is given - the OCI one and the blob one - is well-formed. -/
theorem newVerifier_iff (storeNil : Bool) (oci blob : Option Doc) :
    newVerifier storeNil oci blob = .ok () ↔
      storeNil = false ∧ (oci.isSome = true ∨ blob.isSome = true) ∧
      (∀ d, oci = some d → WellFormed .oci d) ∧ (∀ d, blob = some d → WellFormed .blob d) := by
  rw [← isOk_iff, isOk_newVerifier, ← optWF_iff, ← optWF_iff]
  cases storeNil <;> simp [and_assoc]

theorem ctorGuard_refuses : isOk ctorGuard = false := by
  simp [ctorGuard, isOk_newVerifier]

theorem ctor_pair (k : Kind) (d : Doc) (other : Option Doc) :
    isOk (newVerifier false (ctorArgs k d other).1 (ctorArgs k d other).2) =
      (decide (WellFormed k d) && optWF k.other other) := by
  cases k with
  | oci => simp [ctorArgs, isOk_newVerifier, Kind.other]
  | blob =>
    simp only [ctorArgs, isOk_newVerifier, optWF_some, Kind.other, Bool.not_false, Option.isSome_some,
      Bool.or_true, Bool.and_self, Bool.true_and]
    exact Bool.and_comm _ _

theorem ctor_alone (k : Kind) (d : Doc) :
    isOk (newVerifier false (ctorArgs k d none).1 (ctorArgs k d none).2) = decide (WellFormed k d) := by
  rw [ctor_pair, optWF_none, Bool.and_true]

/-! ### the observation: sorting does not change what the map says about integrity -/

theorem mem_insertKV (x a : KV) : ∀ l : List KV, x ∈ insertKV a l ↔ x = a ∨ x ∈ l
  | [] => by simp [insertKV]
  | h :: t => by
    rw [insertKV]
    split
    · simp
    · simp [mem_insertKV x a t, or_left_comm]

theorem mem_sortKV (x : KV) : ∀ l : List KV, x ∈ sortKV l ↔ x ∈ l
  | [] => by simp [sortKV]
  | h :: t => by rw [sortKV, mem_insertKV, mem_sortKV x t, List.mem_cons]

theorem enforcesIntegrity_enfObs (e : Enf) : enforcesIntegrity (enfObs e) = true ↔ EnfIntegrity e := by
  unfold enforcesIntegrity enfObs EnfIntegrity
  simp only [Bool.and_eq_true, List.any_eq_true, mem_sortKV, List.mem_map, List.all_eq_true, Bool.or_eq_true,
    bne_iff_ne, ne_eq, beq_iff_eq]
  constructor
  · rintro ⟨⟨kv, ⟨p, hp, rfl⟩, h1, h2⟩, h3⟩
    refine ⟨?_, ?_⟩
    · have : p = (Facts.typeIntegrity, Facts.actionEnforce) := by
        obtain ⟨a, b⟩ := p; simp only at h1 h2; rw [h1, h2]
      rw [← this]; exact hp
    · intro q hq hq1
      rcases h3 _ ⟨q, hq, rfl⟩ with h | h
      · exact absurd hq1 h
      · exact h
  · rintro ⟨h1, h2⟩
    refine ⟨⟨_, ⟨_, h1, rfl⟩, rfl, rfl⟩, ?_⟩
    rintro kv ⟨q, hq, rfl⟩
    by_cases hq1 : q.1 = Facts.typeIntegrity
    · exact Or.inr (h2 q hq hq1)
    · exact Or.inl hq1

/-! ### the model satisfies the property -/

theorem zip_map_all {α β : Type} (f : α → β) (g : α × β → Bool) : ∀ l : List α,
    (l.zip (l.map f)).all g = l.all (fun a => g (a, f a)) := by
  intro l
  induction l with
  | nil => rfl
  | cons h t ih => simp [ih]

/-- **the model satisfies the property**, for every input -/
theorem model_holds (i : Input) : Holds i (run i) = true := by
  unfold Holds clauses run
  cases hk : kindOf i.kind with
  | none =>
    by_cases hc : i.kind = "ctor"
    · simp [Clauses.holds, hc, ctorGuard_refuses]
    · simp [Clauses.holds, hc]
  | some k =>
    simp only [Clauses.holds_cons, Clauses.holds_nil, Bool.and_true, isOk_validate, beq_self_eq_true,
      Bool.true_and, ctor_pair, optWF_none]
    by_cases hw : WellFormed k i.doc
    · have hv := (validate_iff_wellformed k i.doc).2 hw
      simp only [hw, decide_true, Bool.not_true, Bool.false_or, if_true, levelsOf, List.length_map,
        beq_self_eq_true, Bool.true_and, zip_map_all, List.all_eq_true, Bool.or_eq_true, beq_iff_eq]
      intro s hs
      obtain ⟨lv, hlv, hint⟩ := accepted_enforces_integrity k i.doc hv s hs
      by_cases hsk : s.level = Facts.levelSkipName
      · exact Or.inl hsk
      · right
        simp only [hlv]
        exact (enforcesIntegrity_enfObs _).2 (hint hsk)
    · simp [hw]

/-! ### what the leaf predicates of `WellFormed` mean -/

theorem cut_eq_some (sep : Char) : ∀ (t a b : Text),
    cut sep t = some (a, b) ↔ t = a ++ sep :: b ∧ sep ∉ a := by
  intro t
  induction t with
  | nil => intro a b; simp [cut]
  | cons c cs ih =>
    intro a b
    simp only [cut]
    by_cases hc : c = sep
    · subst hc
      simp only [beq_self_eq_true, if_true, Option.some.injEq, Prod.mk.injEq]
      constructor
      · rintro ⟨rfl, rfl⟩; simp
      · rintro ⟨h1, h2⟩
        cases a with
        | nil => simp at h1; exact ⟨rfl, h1⟩
        | cons x xs =>
          simp only [List.cons_append, List.cons.injEq] at h1
          exact absurd (by rw [h1.1]; exact List.mem_cons_self) h2
    · have hb : (c == sep) = false := by simp [hc]
      simp only [hb, Bool.false_eq_true, if_false, Option.map_eq_some_iff, Prod.mk.injEq, Prod.exists]
      constructor
      · rintro ⟨a', b', h, rfl, rfl⟩
        obtain ⟨h1, h2⟩ := (ih a' b').1 h
        refine ⟨by rw [h1]; rfl, ?_⟩
        simp only [List.mem_cons, not_or]
        exact ⟨fun h => hc h.symm, h2⟩
      · rintro ⟨h1, h2⟩
        cases a with
        | nil => simp at h1; exact absurd h1.1 hc
        | cons x xs =>
          simp only [List.cons_append, List.cons.injEq] at h1
          simp only [List.mem_cons, not_or] at h2
          exact ⟨xs, b, (ih xs b).2 ⟨h1.2, h2.2⟩, by rw [h1.1], rfl⟩

/-- a trust store value is acceptable iff it reads `type:name` (split at the first colon) with a
supported store type and a file-name-safe name -/
theorem storeOk_iff (t : Text) :
    storeOk t = true ↔ ∃ ty nm, t = ty ++ ':' :: nm ∧ ':' ∉ ty ∧ ty ∈ Facts.trustStoreTypes ∧
      isValidFileName nm = true := by
  unfold storeOk
  simp only [← and_assoc, ← cut_eq_some]
  cases cut ':' t with
  | none => simp
  | some p => obtain ⟨ty, nm⟩ := p; simp [and_assoc]

theorem matches_fail : ∀ l : List Char, Rx.matches .fail l = false := by
  intro l
  induction l with
  | nil => rfl
  | cons c cs ih => simpa [Rx.matches, Rx.deriv] using ih

theorem matches_star_cls (items : List Item) : ∀ l : List Char,
    Rx.matches (.star (.cls items)) l = l.all (fun c => items.any (·.has c)) := by
  intro l
  induction l with
  | nil => rfl
  | cons c cs ih =>
    simp only [Rx.matches, Rx.deriv, List.all_cons]
    cases h : items.any (·.has c) with
    | true => simpa [mkSeq] using ih
    | false => simp [mkSeq, matches_fail]

theorem matches_plus_cls (items : List Item) (l : List Char) :
    Rx.matches (.plus (.cls items)) l = (!l.isEmpty && l.all (fun c => items.any (·.has c))) := by
  cases l with
  | nil => rfl
  | cons c cs =>
    simp only [Rx.matches, Rx.deriv, List.all_cons, List.isEmpty_cons, Bool.not_false, Bool.true_and]
    cases h : items.any (·.has c) with
    | true => simpa [mkSeq] using matches_star_cls items cs
    | false => simp [mkSeq, matches_fail]

def FileNameChar (c : Char) : Prop :=
  ('a' ≤ c ∧ c ≤ 'z') ∨ ('A' ≤ c ∧ c ≤ 'Z') ∨ ('0' ≤ c ∧ c ≤ '9') ∨ c = '_' ∨ c = '.' ∨ c = '-'

/-- a name is file-name-safe iff it is a non-empty text over letters, digits, '_', '.', '-' other
than "." and ".." -/
theorem isValidFileName_iff (n : Text) :
    isValidFileName n = true ↔ n ≠ [] ∧ n ∉ Spec.fileNameRefused ∧ ∀ c ∈ n, FileNameChar c := by
  unfold isValidFileName fileNameRx FileNameChar
  rw [matches_plus_cls]
  by_cases hr : n ∈ Spec.fileNameRefused
  · simp [hr]
  · simp [hr, Item.has]

/-- `file.IsValidFileName` refuses "." and ".." (repaired defect) -/
theorem dot_names_refused : isValidFileName ['.'] = false ∧ isValidFileName ['.', '.'] = false := by
  decide +kernel

/-- `pkix.IsSubsetDN` on maps with distinct keys: every attribute of the first name occurs, with
the same value, in the second -/
theorem isSubsetDN_iff (m1 m2 : DNMap) (h : (m2.map (·.1)).Nodup) :
    isSubsetDN m1 m2 = true ↔ ∀ kv ∈ m1, kv ∈ m2 := by
  unfold isSubsetDN
  simp only [List.all_eq_true, beq_iff_eq]
  constructor
  · intro hs kv hkv
    exact (lookup_eq_some kv.1 kv.2 m2 h).1 (hs kv hkv)
  · intro hs kv hkv
    exact (lookup_eq_some kv.1 kv.2 m2 h).2 (hs kv hkv)

/-- two x509.subject identities with the same attribute set (in particular the same identity
twice) overlap: such a statement is never well-formed -/
theorem equal_names_overlap (ms : List DNMap) (i j : Nat) (hi : i < ms.length) (hj : j < ms.length)
    (hij : i ≠ j) (hn : ((ms[j]?.getD []).map (·.1)).Nodup)
    (heq : ∀ kv ∈ ms[i]?.getD [], kv ∈ ms[j]?.getD []) : ¬ NoOverlap ms := by
  intro h
  have := h i hi j hj hij
  rw [(isSubsetDN_iff _ _ hn).2 heq] at this
  cases this

/-- in a well-formed identity list no x509.subject name's attribute set is contained in that of
the name at another position (the declarative reading of "do not overlap") -/
theorem identities_no_subset (ids : List Identity) (h : IdentitiesOk ids)
    (i j : Nat) (a b : DNMap)
    (ha : ((ids.filter isX509).map dnMapOf)[i]? = some a)
    (hb : ((ids.filter isX509).map dnMapOf)[j]? = some b) (hij : i ≠ j) :
    ¬ ∀ kv ∈ a, kv ∈ b := by
  obtain ⟨_, hall, hno⟩ := (identitiesOk_iff ids).1 h
  intro hsub
  have hi : i < ((ids.filter isX509).map dnMapOf).length := (List.getElem?_eq_some_iff.1 ha).1
  have hj : j < ((ids.filter isX509).map dnMapOf).length := (List.getElem?_eq_some_iff.1 hb).1
  have := hno i hi j hj hij
  rw [ha, hb] at this
  simp only [Option.getD_some] at this
  have hbm : b ∈ (ids.filter isX509).map dnMapOf := List.mem_of_getElem? hb
  obtain ⟨id, hid, rfl⟩ := List.mem_map.1 hbm
  obtain ⟨hid1, hid2⟩ := List.mem_filter.1 hid
  have hn := ((hall id hid1).2.2 hid2).keys_nodup
  rw [(isSubsetDN_iff a _ hn).2 hsub] at this
  cases this

/-! ### non-vacuity -/

def sampleStmt : Statement :=
  { name := "wabbit", level := "strict", override := [⟨"revocation", "skip"⟩], verifyTimestamp := "always",
    trustStores := ["ca:acme-rockets".toList, "ca:acme-rockets".toList],
    identities := [⟨"x509.subject:C=US, ST=WA, O=acme".toList,
      some [[⟨"C", "US"⟩], [⟨"ST", "WA"⟩], [⟨"O", "acme"⟩]]⟩],
    scopes := ["registry.acme-rockets.io/software/net-monitor".toList], isGlobal := false }

def sampleSkip : Statement :=
  { name := "unsigned", level := "skip", override := [], verifyTimestamp := "",
    trustStores := [], identities := [], scopes := [['*']], isGlobal := false }

def sampleDoc : Doc := { version := "1.0", statements := [sampleStmt, sampleSkip] }

/-- a well-formed OCI document is accepted, with duplicate trust stores and a revocation override -/
example : isOk (validate .oci sampleDoc) = true := by
  simp only [sampleDoc, sampleStmt, toList_lit]
  decide +kernel
example : WellFormed .oci sampleDoc := (validate_iff_wellformed _ _).1 ((isOk_iff _).1 (by
  simp only [sampleDoc, sampleStmt, toList_lit]
  decide +kernel))
/-- the same statements as a blob document, the non-skip one global -/
example : isOk (validate .blob { sampleDoc with statements := [{ sampleStmt with isGlobal := true }, sampleSkip] }) = true := by
  simp only [sampleDoc, sampleStmt, toList_lit]
  decide +kernel
/-- a global skip statement is refused (repaired defect) -/
example : isOk (validate .blob { sampleDoc with statements := [sampleStmt, { sampleSkip with isGlobal := true }] }) = false := by
  simp only [sampleDoc, sampleStmt, toList_lit]
  decide +kernel
/-- the same scope twice in one statement is refused -/
example : isOk (validate .oci { sampleDoc with statements :=
    [{ sampleStmt with scopes := sampleStmt.scopes ++ sampleStmt.scopes }] }) = false := by
  simp only [sampleDoc, sampleStmt, toList_lit]
  decide +kernel
/-- store name ".." is refused -/
example : isOk (validate .oci { sampleDoc with statements :=
    [{ sampleStmt with trustStores := ["ca:..".toList] }] }) = false := by
  simp only [sampleDoc, sampleStmt, toList_lit]
  decide +kernel
/-- the same identity twice is an overlap -/
example : isOk (validate .oci { sampleDoc with statements :=
    [{ sampleStmt with identities := sampleStmt.identities ++ sampleStmt.identities }] }) = false := by
  simp only [sampleDoc, sampleStmt, toList_lit]
  decide +kernel

/-- a blank (whitespace-only) statement name is a non-empty name: such a document is accepted -/
example : isOk (validate .oci { sampleDoc with statements := [{ sampleStmt with name := " " }, { sampleSkip with name := "\t" }] }) = true := by
  simp only [sampleDoc, sampleStmt, toList_lit]
  decide +kernel
/-- host labels must be joined by dots -/
example : isOk (validate .oci { sampleDoc with statements :=
    [{ sampleStmt with scopes := ["my_registry/app".toList] }] }) = false := by
  simp only [sampleDoc, sampleStmt, toList_lit]
  decide +kernel

def badBlob : Doc := { sampleDoc with statements := [sampleStmt, { sampleSkip with isGlobal := true }] }
def sampleInput : Input := { kind := "oci", doc := sampleDoc, other := some badBlob, before := none, beforeBad := none, rx := "", text := [] }

example : Holds sampleInput (run sampleInput) = true := model_holds _
example : (run sampleInput).okStruct = true := by
  simp only [sampleInput, badBlob, sampleDoc, sampleStmt, toList_lit]
  decide +kernel
/-- `Holds` is false of an implementation that rejects the well-formed document -/
example : Holds sampleInput
    { okStruct := false, okRepeat := List.replicate historyCount false, okJson := false, okVerifier := false,
      okPair := false, okNew := false, okNewWithOptions := false, levels := [] } = false := by
  simp only [sampleInput, badBlob, sampleDoc, sampleStmt, toList_lit]
  decide +kernel
/-- the well-formed OCI document is refused next to an ill-formed blob document (global skip) … -/
example : (run sampleInput).okVerifier = true ∧ (run sampleInput).okPair = false := by
  simp only [sampleInput, badBlob, sampleDoc, sampleStmt, toList_lit]
  decide +kernel
/-- … and `Holds` is false of a constructor that looks at the first document only -/
example : Holds sampleInput { (run sampleInput) with okPair := true } = false := by
  simp only [sampleInput, badBlob, sampleDoc, sampleStmt, toList_lit]
  decide +kernel
/-- `Holds` is false of a Validate() that remembers an earlier answer -/
example : Holds sampleInput { (run sampleInput) with okRepeat := (List.replicate (historyCount - 1) true) ++ [false] } = false := by
  simp only [sampleInput, badBlob, sampleDoc, sampleStmt, toList_lit]
  decide +kernel
/-- no document at all (`ctor`): `Holds` is false of an observation that reports acceptances -/
example : Holds { sampleInput with kind := "ctor", rx := "no-documents" }
    { (run sampleInput) with okVerifier := true } = false := by
  simp only [sampleInput, badBlob, sampleDoc, sampleStmt, toList_lit]
  decide +kernel
/-- `Holds` is false if the strict statement may log integrity failures -/
example : Holds sampleInput { (run sampleInput) with
    levels := [[⟨"authenticTimestamp", "enforce"⟩, ⟨"authenticity", "enforce"⟩, ⟨"expiry", "enforce"⟩,
      ⟨"integrity", "log"⟩, ⟨"revocation", "skip"⟩], (run sampleInput).levels.getD 1 []] } = false := by
  simp only [sampleInput, badBlob, sampleDoc, sampleStmt, toList_lit]
  decide +kernel
/-- `Holds` is false if an unsupported version is accepted -/
example : Holds { sampleInput with doc := { sampleDoc with version := "2.0" } }
    (run sampleInput) = false := by
  simp only [sampleInput, badBlob, sampleDoc, sampleStmt, toList_lit]
  decide +kernel

/-! ## tie to the translated source

`extract/go2lean.go` translates the Go functions below into Lean on every run
(`Generated/SrcLevels.lean`: GetVerificationLevel with the level tables; `Generated/SrcC09.lean`:
verifier/trustpolicy; `SrcC09b`: internal/file; `SrcC09c`: internal/pkix). The theorems
`source_<GoFunction>_refines_model` state, for ALL inputs, that the translated function decides as
the hand-written model does. Oracles (library code that is not translated): Go's regexp
(`Src/TypesC09.lean`: the derivative matcher on the pinned expression trees),
`pkix.ParseDistinguishedName` / go-ldap (a parameter `pd`). Functions that call other translated
functions whose tie is not proved here take that callee's verdict as a hypothesis
(`validateTrustedIdentities` in `validatePolicyCore`, `validateRegistryScopes` in
`OCIDocument.Validate`); translated but not yet tied: validateTrustedIdentities,
validateOverlappingDNs, validateRegistryScopes. -/

namespace Tie
open NotationModel.Src NotationModel.Src.trustpolicy

/- Comparison facts are listed in both orders (`Bool.beq_comm (a := c)`, `h` next to `Ne.symm h`): the regenerated
source may write a comparison the other way round; of each pair one is unused. -/
set_option linter.unusedSimpArgs false

/-! #### GetVerificationLevel -/

/-- the fact tables and the translated declarations say the same -/
theorem levels_agree : Facts.levels = VerificationLevels.map (fun l => (l.Name, l.Enforcement)) := by decide +kernel
theorem types_agree : Facts.validationTypes = ValidationTypes := by decide +kernel
theorem actions_agree : Facts.validationActions = ValidationActions := by decide +kernel

def toKV (p : String × String) : KV := ⟨p.1, p.2⟩

/-- result shape: the level (if any) and whether an error is returned -/
def shape (r : Option VerificationLevel × Option GoLite.Err) : Option (String × Enf) × Bool :=
  (r.1.map (fun l => (l.Name, l.Enforcement)), r.2.isSome)

def ofModel : Except String (String × Enf) → Option (String × Enf) × Bool
  | .ok p => (some p, false)
  | .error _ => (none, true)

theorem foldE_applyOverrides (l : List (String × String)) (t : Enf) :
    (match GoLite.foldE (fun t kv => applyOverride (toKV kv) t) l t with
      | .ok t' => Except.ok t'
      | .error (_, e) => Except.error e) = applyOverrides (l.map toKV) t := by
  induction l generalizing t with
  | nil => simp [GoLite.foldE, applyOverrides]
  | cons a l ih =>
    simp only [GoLite.foldE, List.map_cons, applyOverrides]
    cases h : applyOverride (toKV a) t with
    | ok t' => simpa using ih t'
    | error e => simp

theorem baseLevel_src (lvl : String) :
    baseLevel lvl = (VerificationLevels.reverse.find? (fun l => l.Name == lvl)).map (fun l => (l.Name, l.Enforcement)) := by
  rw [baseLevel_eq, levels_agree, ← List.map_reverse, List.find?_map]; rfl

theorem levelSkip_iff : ∀ b ∈ VerificationLevels, (some b == some LevelSkip) = (b.Name == Facts.levelSkipName) := by
  decide +kernel

/-- the keys of a level's map are distinct -/
theorem level_copy : ∀ b ∈ VerificationLevels,
    b.Enforcement.foldl (fun m x => GoLite.Map.set m x.1 x.2) [] = b.Enforcement := by
  decide +kernel

theorem foldl_enforcement (n : String) (l : List (String × String)) (m : GoLite.Map String String) :
    l.foldl (fun (s : VerificationLevel) x => { s with Enforcement := s.Enforcement.set x.1 x.2 }) ⟨n, m⟩ =
      ⟨n, l.foldl (fun m x => GoLite.Map.set m x.1 x.2) m⟩ := by
  induction l generalizing m with
  | nil => rfl
  | cons a l ih => exact ih _

/-- the loop state of the override loop, seen from the model: the enforcement map built so far -/
abbrev absSt (t : Enf) : Option (Option VerificationLevel × Option GoLite.Err) × VerificationLevel :=
  (none, { Name := Facts.customLevelName, Enforcement := t })
abbrev stopSt (t : Enf) (_e : String) : Option (Option VerificationLevel × Option GoLite.Err) × VerificationLevel :=
  (some (none, some (GoLite.errorf "")), { Name := Facts.customLevelName, Enforcement := t })

theorem source_GetVerificationLevel_refines_model (sv : SignatureVerification) :
    shape (GetVerificationLevel sv) = ofModel (effective sv.VerificationLevel (sv.Override.map toKV)) := by
  unfold GetVerificationLevel effective
  simp only [Id.run, GoLite.forIn_firstEq, Bool.beq_comm (a := ""), Bool.beq_comm (a := (0 : Int)),
    Bool.beq_comm (a := some LevelSkip), Bool.beq_comm (a := TypeIntegrity), bne_comm (a := TypeRevocation),
    Bool.beq_comm (a := ActionSkip)]
  rw [GoLite.forIn_yield_foldl _ (fun s l => if l.Name == sv.VerificationLevel then some l else s) (fun a s => by
    by_cases h : a.Name = sv.VerificationLevel
    · simp only [h, beq_self_eq_true, if_true]
    · simp only [beq_false_of_ne h, beq_false_of_ne (Ne.symm h), Bool.false_eq_true, if_false])]
  simp only [pure_bind]
  rw [foldl_lastMatch (fun l : VerificationLevel => l.Name == sv.VerificationLevel), Option.or_none, baseLevel_src]
  cases sv.VerificationLevel == ""
  case true => rfl
  cases hb : VerificationLevels.reverse.find? (fun l => l.Name == sv.VerificationLevel) with
  | none => rfl
  | some b =>
    have hb' := List.mem_reverse.1 (List.mem_of_find?_eq_some hb)
    simp only [Option.isNone_some, Option.map_some, GoLite.deref, Option.getD_some, levelSkip_iff b hb',
      List.isEmpty_map, Bool.false_eq_true, if_false]
    rw [GoLite.forIn_yield_foldl _ (fun (s : VerificationLevel) x => { s with Enforcement := s.Enforcement.set x.1 x.2 })
      (by intros; rfl), foldl_enforcement, level_copy b hb']
    simp only [pure_bind]
    rw [GoLite.len_beq_zero]
    cases sv.Override.isEmpty
    case true => rfl
    · simp only [Bool.false_eq_true, if_false]
      cases b.Name == Facts.levelSkipName
      case true => rfl
      simp only [Bool.false_eq_true, if_false]
      rw [GoLite.forIn_eq_foldE' _ (fun t kv => applyOverride (toKV kv) t) absSt stopSt ?h _ _ b.Enforcement ?hs,
        ← foldE_applyOverrides]
      case hs => rfl
      case h =>
        intro x t
        unfold applyOverride
        -- `rw`, not `simp`: it also rewrites inside the `Decidable` instances of the `if`s, so that each
        -- condition below can be split on both sides at once
        rw [show (toKV x).key = x.1 from rfl, show (toKV x).val = x.2 from rfl, find?_beq_getD, find?_beq_getD,
          types_agree, actions_agree, show TypeIntegrity = Facts.typeIntegrity from rfl,
          show TypeRevocation = Facts.typeRevocation from rfl, show ActionSkip = Facts.actionSkip from rfl,
          show (default : String) = "" from rfl]
        cases ValidationTypes.contains x.1
        case false => rfl
        rw [if_pos rfl]
        cases ValidationActions.contains x.2
        case false => cases x.1 == "" <;> rfl
        rw [if_pos rfl]
        cases x.1 == ""
        case true => rfl
        cases x.2 == ""
        case true => rfl
        cases x.1 == Facts.typeIntegrity
        case true => rfl
        cases x.1 != Facts.typeRevocation && x.2 == Facts.actionSkip <;> rfl
      cases GoLite.foldE (fun t kv => applyOverride (toKV kv) t) sv.Override b.Enforcement <;> rfl

/-! #### strings and character lists -/

theorem bne_ofList (s : String) (l : List Char) : (s != String.ofList l) = (s.toList != l) := by
  simp only [bne, beq_ofList]

theorem contains_ofList (ss : List String) (l : List Char) :
    GoLite.contains ss (String.ofList l) = (ss.map String.toList).contains l := by
  unfold GoLite.contains
  induction ss with
  | nil => rfl
  | cons a r ih =>
    rw [List.contains_cons, List.map_cons, List.contains_cons, ih, Bool.beq_comm (a := String.ofList l), beq_ofList,
      Bool.beq_comm (a := l)]

theorem cut_list (sep : Char) : ∀ l : List Char,
    cut sep l = if l.contains sep then some (l.takeWhile (· != sep), (l.dropWhile (· != sep)).drop 1) else none := by
  intro l
  induction l with
  | nil => rfl
  | cons c cs ih =>
    simp only [cut, ih]
    by_cases hc : c = sep
    · subst hc; simp
    · have h1 : (c == sep) = false := by simpa using hc
      have hc' : ¬ sep = c := fun e => hc e.symm
      by_cases hm : sep ∈ cs
      · simp [h1, hc, hc', hm]
      · simp [h1, hc', hm]

theorem cut_src (s : String) (sep : Char) :
    GoLite.cut s sep = (match cut sep s.toList with
      | some (a, b) => (String.ofList a, String.ofList b, true)
      | none => (s, "", false)) := by
  unfold GoLite.cut
  rw [cut_list]
  by_cases hm : sep ∈ s.toList <;> simp [hm]

/-! #### the leaf predicates -/

theorem anchored_ne : domainRx.anchored ≠ repositoryRx.anchored ∧ domainRx.anchored ≠ fileNameRx.anchored ∧
    repositoryRx.anchored ≠ fileNameRx.anchored := by decide +kernel

/-- the oracle `regexp.specMatch` on the rendering of one of the three trees runs the model's matcher on it -/
theorem matchString_anchored (r : Rx) (hr : r = domainRx ∨ r = repositoryRx ∨ r = fileNameRx) (s u : String)
    (h : s.toList = r.anchored) : (regexp.MustCompile s).MatchString u = r.matches u.toList := by
  unfold regexp.Regexp.MatchString regexp.MustCompile regexp.specMatch
  rw [h]
  rcases hr with rfl | rfl | rfl
  · rw [if_pos rfl]
  · rw [if_neg anchored_ne.1.symm, if_pos rfl]
  · rw [if_neg anchored_ne.2.1.symm, if_neg anchored_ne.2.2.symm, if_pos rfl]

/-- TIE: `file.IsValidFileName` (internal/file/file.go), with Go's regexp as the oracle of
`Src/TypesC09.lean`, is the model's `isValidFileName` -/
theorem source_IsValidFileName_refines_model (s : String) :
    file.IsValidFileName s = isValidFileName s.toList := by
  unfold file.IsValidFileName isValidFileName
  simp only [Id.run, Bool.beq_comm (a := "."), Bool.beq_comm (a := "..")]
  rw [matchString_anchored fileNameRx (.inr (.inr rfl)) _ _ (by simp only [toList_lit]; decide +kernel), show "." = String.ofList ['.'] from rfl,
    show ".." = String.ofList ['.', '.'] from rfl, beq_ofList, beq_ofList]
  simp only [Spec.fileNameRefused, List.contains_cons, List.contains_nil, Bool.or_false]
  cases s.toList == ['.'] || s.toList == ['.', '.'] <;> rfl

/-- TIE: `isValidTrustStoreType` -/
theorem source_isValidTrustStoreType_refines_model (s : String) :
    isValidTrustStoreType s = Facts.trustStoreTypes.contains s.toList := by
  unfold isValidTrustStoreType
  simp only [Id.run]
  rw [GoLite.forIn_findReturn (fun p => if s == p then some true else none) _ (by
    intro a st; cases hs : (s == a) <;> simp only [id, Bool.beq_comm (b := s), hs] <;> rfl)]
  simp only [GoLite.findSome?_if_some, GoLite.idPure]
  rw [List.any_map, List.contains_eq_any_beq, show ((fun p => s == p) ∘ String.ofList) = (s.toList == ·) from
    funext fun l => beq_ofList s l]
  cases Facts.trustStoreTypes.any (s.toList == ·) <;> rfl

theorem storeOk_src (t : String) :
    storeOk t.toList = ((GoLite.cut t ':').2.2 && isValidTrustStoreType (GoLite.cut t ':').1 &&
      file.IsValidFileName (GoLite.cut t ':').2.1) := by
  rw [cut_src]
  unfold storeOk
  cases h : cut ':' t.toList with
  | none => simp
  | some p =>
    obtain ⟨a, b⟩ := p
    simp [source_isValidTrustStoreType_refines_model, source_IsValidFileName_refines_model, String.toList_ofList]

/-- TIE: `validateTrustStore` (verifier/trustpolicy/trustpolicy.go) returns an error exactly when
the model's `validateTrustStore` does, for every list of trust store values -/
theorem source_validateTrustStore_refines_model (name : String) (ts : List String) :
    trustpolicy.validateTrustStore name ts =
      if isOk (C09.validateTrustStore (ts.map String.toList)) then none else some (GoLite.errorf "") := by
  unfold trustpolicy.validateTrustStore
  simp only [Id.run]
  rw [GoLite.forIn_findReturn (fun t => if storeOk t.toList then none else some (some (GoLite.errorf ""))) _ (by
    intro a st
    rw [storeOk_src, show Char.ofNat 58 = ':' from rfl]
    cases (GoLite.cut a ':').2.2
    case false => rfl
    cases isValidTrustStoreType (GoLite.cut a ':').1
    case false => rfl
    cases file.IsValidFileName (GoLite.cut a ':').2.1 <;> rfl)]
  rw [isOk_validateTrustStore, List.all_map, GoLite.findSome?_if_none,
    show storeOk ∘ String.toList = fun t => storeOk t.toList from rfl]
  cases ts.all (fun t => storeOk t.toList) <;> rfl

example : trustpolicy.validateTrustStore "p" ["ca:acme-rockets", "tsa:.."] = some ⟨"error"⟩ := by
  rw [source_validateTrustStore_refines_model]; simp only [List.map, toList_lit]; decide +kernel
example : trustpolicy.validateTrustStore "p" ["ca:acme-rockets", "signingAuthority:a.b"] = none := by
  rw [source_validateTrustStore_refines_model]; simp only [List.map, toList_lit]; decide +kernel

/-! #### registry scopes -/

theorem hasInfix_singleton (c : Char) : ∀ l : List Char, hasInfix [c] l = l.contains c := by
  intro l
  induction l with
  | nil => rfl
  | cons a r ih =>
    simp only [hasInfix, ih, List.contains_cons]
    have : [c].isPrefixOf (a :: r) = (c == a) := by simp [List.isPrefixOf]
    rw [this]

theorem contains_star (s : String) : strings.Contains s "*" = s.toList.contains '*' :=
  hasInfix_singleton '*' s.toList

theorem len_gt_one (s : String) : decide (strings.Len s > (1 : Int)) = decide (s.toList.length > 1) :=
  decide_eq_decide.2 (by unfold strings.Len; omega)

/-- TIE: `validateRegistryScopeFormat` (verifier/trustpolicy/oci.go), with Go's regexp as the
oracle of `Src/TypesC09.lean`, refuses exactly the scopes the model's `validScopeFormat` refuses -/
theorem source_validateRegistryScopeFormat_refines_model (scope : String) :
    validateRegistryScopeFormat scope =
      if validScopeFormat scope.toList then none else some (GoLite.errorf "") := by
  unfold validateRegistryScopeFormat validScopeFormat
  simp only [Id.run, Bool.beq_comm (a := "")]
  rw [matchString_anchored domainRx (.inl rfl) _ _ (by simp only [toList_lit]; decide +kernel),
    matchString_anchored repositoryRx (.inr (.inl rfl)) _ _ (by simp only [toList_lit]; decide +kernel),
    contains_star, len_gt_one,
    show Char.ofNat 47 = '/' from rfl, cut_src]
  cases decide (scope.toList.length > 1) && scope.toList.contains '*'
  case true => rfl
  cases cut '/' scope.toList with
  | none => rfl
  | some p =>
    simp only [beq_empty, String.toList_ofList]
    cases p.1.isEmpty || p.2.isEmpty || !domainRx.matches p.1 || !repositoryRx.matches p.2 <;> rfl

example : validateRegistryScopeFormat "registry.acme-rockets.io:5000/software/net-monitor" = none := by
  rw [source_validateRegistryScopeFormat_refines_model, toList_lit]; decide +kernel
example : validateRegistryScopeFormat "registry.acme-rockets.io/Software" = some ⟨"error"⟩ := by
  rw [source_validateRegistryScopeFormat_refines_model, toList_lit]; decide +kernel

/-! #### pkix.IsSubsetDN -/

/-- TIE: `pkix.IsSubsetDN` (internal/pkix/pkix.go) is the model's `isSubsetDN`, for all maps (as
association lists, i.e. for every iteration order) -/
theorem source_IsSubsetDN_refines_model (dn1 dn2 : DNMap) : pkix.IsSubsetDN dn1 dn2 = isSubsetDN dn1 dn2 := by
  unfold pkix.IsSubsetDN isSubsetDN
  simp only [Id.run]
  rw [GoLite.forIn_findReturn (fun kv : String × String => if dn2.lookup kv.1 == some kv.2 then none else some false) _ (by
    intro a st
    obtain ⟨k, v⟩ := a
    simp only [GoLite.Map.lookup, GoLite.Map.get?_eq_lookup]
    cases h : List.lookup k dn2 with
    | none => simp
    | some w =>
      by_cases hw : w = v
      · subst hw; simp
      · have hw' : ¬ v = w := fun e => hw e.symm
        simp [hw, hw'])]
  simp only [GoLite.findSome?_if_none, GoLite.idPure]
  cases dn1.all (fun kv => dn2.lookup kv.1 == some kv.2) <;> rfl

example : pkix.IsSubsetDN [("C", "US"), ("O", "x")] [("O", "x"), ("C", "US"), ("CN", "")] = true := by decide +kernel
example : pkix.IsSubsetDN [("C", "US"), ("CN", "")] [("C", "US")] = false := by decide +kernel

/-! #### validatePolicyCore -/

def mkStatement (name : String) (sv : SignatureVerificationFull) (ts : List String) (ids : List Identity) : Statement :=
  { name := name, level := sv.VerificationLevel, override := sv.Override.map toKV,
    verifyTimestamp := sv.VerifyTimestamp, trustStores := ts.map String.toList, identities := ids,
    scopes := [], isGlobal := false }

theorem len_pos {α : Type} (l : List α) : decide (GoLite.len l > 0) = decide (l.length > 0) := by
  simp [GoLite.len]

theorem len_zero {α : Type} (l : List α) : (GoLite.len l == 0) = (l.length == 0) := by
  cases l <;> simp [GoLite.len] <;> omega

/-- TIE: `validatePolicyCore` (verifier/trustpolicy/trustpolicy.go) refuses a statement exactly
when the model's `validatePolicyCore` does, for every model statement `s` with the fields of the Go
arguments (scopes and global flag play no part); the identity list enters through the verdict of the
translated `validateTrustedIdentities` (hypothesis `hid`). -/
theorem validatePolicyCore_src
    (pd : String → GoLite.Map String String × Option GoLite.Err) (name : String)
    (sv : SignatureVerificationFull) (ts tis : List String) (s : Statement)
    (hn : s.name = name) (hl : s.level = sv.VerificationLevel) (ho : s.override = sv.Override.map toKV)
    (ht : s.verifyTimestamp = sv.VerifyTimestamp) (hst : s.trustStores = ts.map String.toList)
    (hlen : s.identities.length = tis.length)
    (hid : (trustpolicy.validateTrustedIdentities pd name tis).isSome =
      !isOk (C09.validateTrustedIdentities s.identities)) :
    (trustpolicy.validatePolicyCore pd name sv ts tis).isSome = !isOk (C09.validatePolicyCore s) := by
  unfold trustpolicy.validatePolicyCore C09.validatePolicyCore
  simp only [Id.run, Bool.beq_comm (a := ""), bne_comm (a := ""), bne_comm (a := OptionAlways),
    bne_comm (a := OptionAfterCertExpiry), Bool.beq_comm (a := "skip"), Bool.beq_comm (a := (0 : Int))]
  have htie := source_GetVerificationLevel_refines_model sv.toSignatureVerification
  generalize GetVerificationLevel sv.toSignatureVerification = g at htie ⊢
  rw [hn, hl, ho, ht, hst, List.length_map, hlen, source_validateTrustStore_refines_model, len_pos, len_pos,
    len_zero, len_zero, show OptionAlways = Facts.optionAlways from rfl,
    show OptionAfterCertExpiry = Facts.optionAfterCertExpiry from rfl]
  cases name == ""
  case true => rfl
  cases heff : effective sv.VerificationLevel (sv.Override.map toKV) with
  | error e =>
    rw [heff] at htie
    rw [show g.2.isSome = true from congrArg Prod.snd htie]; rfl
  | ok lv =>
    rw [heff] at htie
    have hname : (GoLite.deref g.1).Name = lv.1 := by
      have := congrArg Prod.fst htie
      cases hg : g.1 with
      | none => rw [shape, hg] at this; cases this
      | some l => rw [shape, hg] at this; exact congrArg Prod.fst (Option.some.inj this)
    rw [show g.2.isSome = false from congrArg Prod.snd htie, hname]
    dsimp only
    cases sv.VerifyTimestamp != "" && sv.VerifyTimestamp != Facts.optionAlways &&
        sv.VerifyTimestamp != Facts.optionAfterCertExpiry
    case true => rfl
    cases hs : lv.1 == Facts.policyCoreSkipLiteral
    case true =>
      rw [show (lv.1 == "skip") = true from hs]
      cases decide (ts.length > 0) || decide (tis.length > 0) <;> rfl
    rw [show (lv.1 == "skip") = false from hs]
    cases ts.length == 0 || tis.length == 0
    case true => rfl
    cases C09.validateTrustStore (ts.map String.toList) with
    | error e => rfl
    | ok u =>
      generalize trustpolicy.validateTrustedIdentities pd name tis = o at hid ⊢
      cases o <;> exact hid

/-- TIE: the instance for `mkStatement` (no scopes, not global) -/
theorem source_validatePolicyCore_refines_model
    (pd : String → GoLite.Map String String × Option GoLite.Err) (name : String)
    (sv : SignatureVerificationFull) (ts tis : List String) (ids : List Identity)
    (hlen : ids.length = tis.length)
    (hid : (trustpolicy.validateTrustedIdentities pd name tis).isSome = !isOk (C09.validateTrustedIdentities ids)) :
    (trustpolicy.validatePolicyCore pd name sv ts tis).isSome =
      !isOk (C09.validatePolicyCore (mkStatement name sv ts ids)) :=
  validatePolicyCore_src pd name sv ts tis _ rfl rfl rfl rfl rfl hlen hid

example : (trustpolicy.validatePolicyCore (fun _ => ([], none)) "p"
    { VerificationLevel := "audit", Override := [("expiry", "skip")], VerifyTimestamp := "" } ["ca:x"] ["*"]).isSome = true := by decide +kernel
example : (trustpolicy.validatePolicyCore (fun _ => ([], none)) "p"
    { VerificationLevel := "audit", Override := [("revocation", "skip")], VerifyTimestamp := "always" } ["ca:x"] ["*"]) = none := by decide +kernel

/-! #### the statement loops of BlobDocument.Validate and OCIDocument.Validate -/

inductive All2 {α β : Type} (R : α → β → Prop) : List α → List β → Prop
  | nil : All2 R [] []
  | cons {a : α} {b : β} {as : List α} {bs : List β} : R a b → All2 R as bs → All2 R (a :: as) (b :: bs)

theorem All2.length_eq {α β : Type} {R : α → β → Prop} {as : List α} {bs : List β} (h : All2 R as bs) :
    as.length = bs.length := by
  induction h with
  | nil => rfl
  | cons _ _ ih => simp [ih]

theorem contains_versions (vs : List String) (v : String) : GoLite.contains vs v = vs.contains v := rfl

/-- one iteration of the blob statement loop, on the model's loop state (names seen, global found) -/
def blobStep (pd : String → GoLite.Map String String × Option GoLite.Err) (t : List String × Bool)
    (p : BlobTrustPolicy) : Except Unit (List String × Bool) :=
  if t.1.contains p.Name then .error ()
  else if (trustpolicy.validatePolicyCore pd p.Name p.SignatureVerification p.TrustStores p.TrustedIdentities).isSome then .error ()
  else if p.GlobalPolicy then
    if t.2 then .error ()
    else if p.SignatureVerification.VerificationLevel == Facts.levelSkipName then .error ()
    else .ok (p.Name :: t.1, true)
  else .ok (p.Name :: t.1, t.2)

/-- a Go statement and the model's statement describe the same thing, and the translated
`validatePolicyCore` gives the model's verdict on it (`validatePolicyCore_src` yields this component, given the
verdict of `validateTrustedIdentities`) -/
def BlobRel (pd : String → GoLite.Map String String × Option GoLite.Err) (p : BlobTrustPolicy) (s : Statement) : Prop :=
  s.name = p.Name ∧ s.level = p.SignatureVerification.VerificationLevel ∧ s.isGlobal = p.GlobalPolicy ∧
  (trustpolicy.validatePolicyCore pd p.Name p.SignatureVerification p.TrustStores p.TrustedIdentities).isSome =
    !isOk (C09.validatePolicyCore s)

theorem foldE_blob (pd : String → GoLite.Map String String × Option GoLite.Err) {ps : List BlobTrustPolicy}
    {ss : List Statement} (h : All2 (BlobRel pd) ps ss) (seen : List String) (found : Bool) :
    isOk (GoLite.foldE (blobStep pd) ps (seen, found)) = isOk (validateStatementsBlob ss seen found) := by
  induction h generalizing seen found with
  | nil => rfl
  | @cons p s ps ss hr _ ih =>
    rw [GoLite.foldE, blobStep, validateStatementsBlob, hr.1, hr.2.1, hr.2.2.1, hr.2.2.2]
    cases seen.contains p.Name
    case true => rfl
    cases C09.validatePolicyCore s
    case error => rfl
    cases p.GlobalPolicy
    case false => exact ih _ _
    cases found
    case true => rfl
    cases p.SignatureVerification.VerificationLevel == Facts.levelSkipName
    case true => rfl
    exact ih _ _

/-- TIE: `BlobDocument.Validate` (verifier/trustpolicy/blob.go): version, at least one statement,
and the statement loop with its name set and global flag refuse exactly the documents the model's
`validateBlob` refuses; the statements enter through the verdicts of the translated
`validatePolicyCore` (relation `BlobRel`). A nil document is refused. -/
theorem source_BlobDocument_Validate_refines_model
    (pd : String → GoLite.Map String String × Option GoLite.Err) (d : BlobDocument) (ss : List Statement)
    (hrel : All2 (BlobRel pd) d.TrustPolicies ss) :
    (BlobDocument.Validate pd (some d)).isSome = !isOk (validateBlob { version := d.Version, statements := ss }) ∧
    (BlobDocument.Validate pd none).isSome = true := by
  refine ⟨?_, rfl⟩
  unfold BlobDocument.Validate validateBlob
  rw [show ({ version := d.Version, statements := ss } : Doc).version = d.Version from rfl,
    show ({ version := d.Version, statements := ss } : Doc).statements = ss from rfl]
  simp only [Id.run, Bool.beq_comm (a := ""), Bool.beq_comm (a := (0 : Int)), Bool.beq_comm (a := LevelSkip.Name)]
  rw [show (some d).isNone = false from rfl, GoLite.deref_some, contains_versions, len_zero,
    hrel.length_eq, show supportedBlobPolicyVersions = Facts.supportedBlobPolicyVersions from rfl]
  cases d.Version == ""
  case true => rfl
  cases !Facts.supportedBlobPolicyVersions.contains d.Version
  case true => rfl
  cases ss.length == 0
  case true => rfl
  rw [GoLite.forIn_eq_foldE' _ (blobStep pd)
    (fun t => (none, (⟨t.1⟩ : set.Set), t.2))
    (fun t _ => (some (some (GoLite.errorf "")), (⟨t.1⟩ : set.Set), t.2)) ?h _ _ ([], false) ?hs]
  case hs => rfl
  case h =>
    intro a t
    simp only [blobStep, set.Set.Contains, set.Set.Add, show LevelSkip.Name = Facts.levelSkipName from rfl]
    by_cases hc : t.1.contains a.Name = true
    · simp only [hc, if_true]; rfl
    by_cases hv : (trustpolicy.validatePolicyCore pd a.Name a.SignatureVerification a.TrustStores
        a.TrustedIdentities).isSome = true
    · simp only [hc, hv, if_true]; rfl
    by_cases hg : a.GlobalPolicy = true
    · by_cases hf : t.2 = true
      · simp only [hc, hv, hg, hf, if_true]; rfl
      by_cases hk : (a.SignatureVerification.VerificationLevel == Facts.levelSkipName) = true
      · simp only [hc, hv, hg, hf, hk, if_true]; rfl
      · simp only [hc, hv, hg, hf, hk, if_true]; rfl
    · simp only [hc, hv, hg]; rfl
  change _ = !isOk (validateStatementsBlob ss [] false)
  rw [← foldE_blob pd hrel [] false]
  cases GoLite.foldE (blobStep pd) d.TrustPolicies ([], false) <;> rfl

def ociStep (pd : String → GoLite.Map String String × Option GoLite.Err) (seen : List String)
    (p : OCITrustPolicy) : Except Unit (List String) :=
  if seen.contains p.Name then .error ()
  else if (trustpolicy.validatePolicyCore pd p.Name p.SignatureVerification p.TrustStores p.TrustedIdentities).isSome then .error ()
  else .ok (p.Name :: seen)

/-- the same for an OCI statement; its scopes are judged by `validateRegistryScopes` -/
def OCIRel (pd : String → GoLite.Map String String × Option GoLite.Err) (p : OCITrustPolicy) (s : Statement) : Prop :=
  s.name = p.Name ∧
  (trustpolicy.validatePolicyCore pd p.Name p.SignatureVerification p.TrustStores p.TrustedIdentities).isSome =
    !isOk (C09.validatePolicyCore s)

theorem foldE_oci (pd : String → GoLite.Map String String × Option GoLite.Err) {ps : List OCITrustPolicy}
    {ss : List Statement} (h : All2 (OCIRel pd) ps ss) (seen : List String) :
    isOk (GoLite.foldE (ociStep pd) ps seen) = isOk (validateStatementsOCI ss seen) := by
  induction h generalizing seen with
  | nil => rfl
  | @cons p s ps ss hr _ ih =>
    rw [GoLite.foldE, ociStep, validateStatementsOCI, hr.1, hr.2]
    cases seen.contains p.Name
    case true => rfl
    cases C09.validatePolicyCore s
    case error => rfl
    exact ih _

/-- TIE: `OCIDocument.Validate` (verifier/trustpolicy/oci.go): version, at least one statement, the
statement loop with its name set, then the registry scopes - refuses exactly the documents the
model's `validateOCI` refuses; statements enter through the verdicts of the translated
`validatePolicyCore` (relation `OCIRel`), scopes through the verdict of the translated
`validateRegistryScopes` (hypothesis `hsc`). A nil document is refused. -/
theorem source_OCIDocument_Validate_refines_model
    (pd : String → GoLite.Map String String × Option GoLite.Err) (d : OCIDocument) (ss : List Statement)
    (hrel : All2 (OCIRel pd) d.TrustPolicies ss)
    (hsc : (trustpolicy.validateRegistryScopes (some d)).isSome = !isOk (C09.validateRegistryScopes ss)) :
    (OCIDocument.Validate pd (some d)).isSome = !isOk (validateOCI { version := d.Version, statements := ss }) ∧
    (OCIDocument.Validate pd none).isSome = true := by
  refine ⟨?_, rfl⟩
  unfold OCIDocument.Validate validateOCI
  rw [show ({ version := d.Version, statements := ss } : Doc).version = d.Version from rfl,
    show ({ version := d.Version, statements := ss } : Doc).statements = ss from rfl]
  simp only [Id.run, Bool.beq_comm (a := ""), Bool.beq_comm (a := (0 : Int))]
  rw [show (some d).isNone = false from rfl, GoLite.deref_some, contains_versions, len_zero,
    hrel.length_eq, show supportedOCIPolicyVersions = Facts.supportedOCIPolicyVersions from rfl]
  cases d.Version == ""
  case true => rfl
  cases !Facts.supportedOCIPolicyVersions.contains d.Version
  case true => rfl
  cases ss.length == 0
  case true => rfl
  rw [GoLite.forIn_eq_foldE' _ (ociStep pd) (fun t => (none, (⟨t⟩ : set.Set)))
    (fun t _ => (some (some (GoLite.errorf "")), (⟨t⟩ : set.Set))) ?h _ _ [] ?hs]
  case hs => rfl
  case h =>
    intro a seen
    simp only [ociStep, set.Set.Contains, set.Set.Add]
    by_cases hc : seen.contains a.Name = true
    · simp only [hc, if_true]; rfl
    by_cases hv : (trustpolicy.validatePolicyCore pd a.Name a.SignatureVerification a.TrustStores
        a.TrustedIdentities).isSome = true
    · simp only [hc, hv, if_true]; rfl
    · simp only [hc, hv]; rfl
  change _ = !isOk (match validateStatementsOCI ss [] with
    | .error e => .error e
    | .ok _ => C09.validateRegistryScopes ss)
  have hloop := foldE_oci pd hrel []
  generalize trustpolicy.validateRegistryScopes (some d) = o at hsc ⊢
  generalize GoLite.foldE (ociStep pd) d.TrustPolicies [] = r at hloop ⊢
  generalize validateStatementsOCI ss [] = m at hloop ⊢
  cases r <;> cases m <;> cases hloop
  · rfl
  · cases o <;> exact hsc

end Tie

end NotationModel.C09
