/-
C04 - which statement's identity list decides.

A trust policy document holds several statements, each pinning its own identities. `VerifyBlob`
applies the statement the caller NAMES (`BlobDocument.GetApplicableTrustPolicy`), or - for the
empty name - the one marked global. The theorems here say that the identity list that decides is
the list of exactly that statement: statements with any other name (a letter-case or white-space
variant included) are irrelevant, a name no statement carries selects nothing, and a pass under a
name is a pass on the strength of the identities of a statement carrying that very name.
-/
import NotationModel.Props.C04

namespace NotationModel.C04

/-! ### the selection -/

theorem byName_eq_find (n : Text) (ss : List Statement) : byName n ss = ss.find? (fun s => s.name == n) := by
  induction ss with
  | nil => rfl
  | cons s r ih => by_cases h : s.name = n <;> simp [byName, h, ih]

theorem globalOf_eq_find (ss : List Statement) : globalOf ss = ss.find? (fun s => s.isGlobal) := by
  induction ss with
  | nil => rfl
  | cons s r ih => cases h : s.isGlobal <;> simp [globalOf, h, ih]

/-- the statement found under a name carries that name and is one of the document's -/
theorem byName_some {n : Text} {ss : List Statement} {s : Statement} (h : byName n ss = some s) :
    s.name = n ∧ s ∈ ss := by
  rw [byName_eq_find] at h
  exact ⟨by simpa using List.find?_some h, List.mem_of_find?_eq_some h⟩

theorem byName_none {n : Text} {ss : List Statement} (h : ∀ s ∈ ss, s.name ≠ n) : byName n ss = none := by
  rw [byName_eq_find, List.find?_eq_none]
  intro s hs; simpa using h s hs

/-- the first statement carrying the name is found, whatever stands before it under other names
and whatever follows -/
theorem byName_mid (n : Text) (pre post : List Statement) (s : Statement) (hs : s.name = n)
    (hpre : ∀ t ∈ pre, t.name ≠ n) : byName n (pre ++ s :: post) = some s := by
  rw [byName_eq_find, List.find?_append, ← byName_eq_find, byName_none hpre]
  simp [hs]

/-- a proper (non-blank) name -/
def Named (i : Input) (n : Text) : Prop := i.policyName = some n ∧ blank n = false

theorem not_empty_of_not_blank {n : Text} (h : blank n = false) : n.isEmpty = false := by
  cases n with
  | nil => simp [blank] at h
  | cons c r => rfl

theorem applicable_named (i : Input) (n : Text) (h : Named i n) : applicable i = byName n i.statements := by
  simp [applicable, h.1, h.2, not_empty_of_not_blank h.2]

theorem identities_named (i : Input) (n : Text) (h : Named i n) :
    i.identities = ((byName n i.statements).map (·.identities)).getD [] := by
  rw [Input.identities, applicable_named i n h]
  cases byName n i.statements <;> rfl

/-! ### the identities of the named statement, and of no other, decide -/

/-- **the named statement decides**: the identity list the check runs under is the list of the
first statement whose name is exactly the name given -/
theorem named_statement_decides (i : Input) (n : Text) (h : Named i n)
    (pre post : List Statement) (s : Statement) (hss : i.statements = pre ++ s :: post)
    (hs : s.name = n) (hpre : ∀ t ∈ pre, t.name ≠ n) :
    i.identities = s.identities := by
  rw [identities_named i n h, hss, byName_mid n pre post s hs hpre]
  rfl

/-- `run` reads `statements`/`policyName` only through the identity list of the applicable
statement, if there is one -/
theorem run_congr (i i' : Input)
    (ha : (applicable i).map (·.identities) = (applicable i').map (·.identities))
    (hc : i.chain = i'.chain) (hp : i.plugin = i'.plugin) : run i = run i' := by
  have hn : nativeCheck i = nativeCheck i' := by simp [nativeCheck, hp]
  have hv : pluginVerdict i = pluginVerdict i' := by simp [pluginVerdict, hp]
  simp only [run, process, Input.identities, hn, hv, hc]
  cases h : applicable i <;> cases h' : applicable i' <;> simp_all

/-- **statements under other names are irrelevant**: two documents whose statements named exactly
`n` are the same (in the same order) give the same result under the name `n`, whatever other
statements - named `N`, ` n`, `n ` or anything else that is not `n` - they hold, wherever. -/
theorem other_statements_irrelevant (i i' : Input) (n : Text) (h : Named i n) (h' : Named i' n)
    (hf : i.statements.filter (fun s => s.name == n) = i'.statements.filter (fun s => s.name == n))
    (hc : i.chain = i'.chain) (hp : i.plugin = i'.plugin) : run i = run i' := by
  apply run_congr i i' _ hc hp
  rw [applicable_named i n h, applicable_named i' n h', byName_eq_find, byName_eq_find,
    ← List.head?_filter, ← List.head?_filter, hf]

/-- ... in particular everything around the named statement can be dropped -/
theorem surrounding_statements_irrelevant (i : Input) (n : Text) (h : Named i n)
    (pre post : List Statement) (s : Statement) (hss : i.statements = pre ++ s :: post)
    (hs : s.name = n) (hpre : ∀ t ∈ pre, t.name ≠ n) :
    run i = run { i with statements := [s] } := by
  refine run_congr i { i with statements := [s] } ?_ rfl rfl
  rw [applicable_named i n h, applicable_named _ n (show Named { i with statements := [s] } n from h), hss,
    byName_mid n pre post s hs hpre]
  simp [byName, hs]

/-- under the empty name only the statements marked global matter -/
theorem non_global_statements_irrelevant (i i' : Input) (h : i.policyName = some []) (h' : i'.policyName = some [])
    (hf : i.statements.filter (fun s => s.isGlobal) = i'.statements.filter (fun s => s.isGlobal))
    (hc : i.chain = i'.chain) (hp : i.plugin = i'.plugin) : run i = run i' := by
  apply run_congr i i' _ hc hp
  simp [applicable, h, h', globalOf_eq_find, ← List.head?_filter, hf]

/-- the `globalPolicy` marks play no role when a name is given -/
theorem global_mark_irrelevant_when_named (i : Input) (n : Text) (h : Named i n) (f : Statement → Bool) :
    run { i with statements := i.statements.map (fun s => { s with isGlobal := f s }) } = run i := by
  refine run_congr _ i ?_ rfl rfl
  rw [applicable_named i n h, applicable_named _ n
    (show Named { i with statements := i.statements.map (fun s => { s with isGlobal := f s }) } n from h),
    byName_eq_find, byName_eq_find, List.find?_map, Option.map_map]
  rfl

/-- the ground truth handed to the judge is no input of the behaviour -/
theorem minted_irrelevant (i : Input) (m : List Attr) : run { i with minted := m } = run i := rfl

/-! ### fail closed -/

/-- **a name no statement carries selects nothing**: nothing passes - in particular under a
letter-case variant or a padded variant of a name that a statement does carry (those are
different lists of characters) -/
theorem unknown_name_selects_nothing (i : Input) (n : Text) (h : i.policyName = some n)
    (hne : n.isEmpty = false) (hno : ∀ s ∈ i.statements, s.name ≠ n) : (run i).pass = false := by
  have : applicable i = none := by
    simp only [applicable, h, hne]
    cases blank n with
    | true => rfl
    | false => exact byName_none hno
  simp [run, this]

/-- a name of white space only is refused -/
theorem blank_name_selects_nothing (i : Input) (n : Text) (h : i.policyName = some n)
    (hne : n.isEmpty = false) (hb : blank n = true) : (run i).pass = false := by
  simp [run, applicable, h, hne, hb]

/-- the empty name asks for the global statement; a document without one answers nothing -/
theorem no_global_statement_nothing_passes (i : Input) (h : i.policyName = some [])
    (hno : ∀ s ∈ i.statements, s.isGlobal = false) : (run i).pass = false := by
  have hg : globalOf i.statements = none := by
    rw [globalOf_eq_find, List.find?_eq_none]
    intro s hs; simp [hno s hs]
  simp [run, applicable, h, hg]

/-! ### soundness through the selection -/

/-- **a pass under a name is a pass under the identities of a statement of that very name**: with
the identity check native, `VerifyBlob` under the name `n` passes authenticity only if the
document holds a statement named exactly `n` whose own identity list accepts the chain -/
theorem pass_only_by_the_named_statement (i : Input) (n : Text) (h : Named i n) (hn : nativeCheck i = true)
    (hp : (run i).pass = true) :
    ∃ s ∈ i.statements, s.name = n ∧ verifyIdentities s.identities i.chain = true := by
  rw [run_native i hn, identities_named i n h] at hp
  cases ha : byName n i.statements with
  | none => rw [ha, Option.map_none, Option.getD_none, verifyIdentities_nil] at hp; cases hp
  | some s =>
    rw [ha] at hp
    exact ⟨s, (byName_some ha).2, (byName_some ha).1, hp⟩

/-- ... and, without a wildcard in that statement, on the strength of the leaf's own subject -/
theorem pass_only_by_the_named_statement_leaf (i : Input) (n : Text) (h : Named i n) (hn : nativeCheck i = true)
    (hp : (run i).pass = true) :
    ∃ s ∈ i.statements, s.name = n ∧
      (NoWildcard s.identities → ∃ leaf rest, i.chain = leaf :: rest ∧ validDN leaf.text leaf.rdns = true ∧
        ∃ id ∈ s.identities, usable id = true ∧ ∀ a ∈ attrsOf id.rdns, a ∈ attrsOf leaf.rdns) := by
  obtain ⟨s, hs, hname, hv⟩ := pass_only_by_the_named_statement i n h hn hp
  exact ⟨s, hs, hname, fun hnw => identity_pass_sound s.identities i.chain hnw hv⟩

/-! ### non-vacuity: the seeded situation -/

section examples

/-- "Release" pins the leaf, "release" pins the root's subject, "RELEASE" pins nothing of kind x509 -/
def exDoc : List Statement :=
  [ { name := ['R','e','l','e','a','s','e'], isGlobal := false,
      identities := [exId ['a'] [[(CN, leafCN)], [(O, org)], [(ST, wa)], [(C, us)]]] },
    { name := ['r','e','l','e','a','s','e'], isGlobal := true,
      identities := [exId ['a'] [[(CN, rootCN)], [(O, org)], [(ST, wa)], [(C, us)]]] },
    { name := ['R','E','L','E','A','S','E'], isGlobal := false,
      identities := [{ raw := ['a', ':', 'b'], rdns := none }] } ]

def exBlob (n : Text) : Input :=
  { statements := exDoc, policyName := some n, chain := exChain, minted := minted, plugin := none }

example : run (exBlob ['R','e','l','e','a','s','e']) = { pass := true } := by decide +kernel
example : run (exBlob ['r','e','l','e','a','s','e']) = { pass := false } := by decide +kernel
example : run (exBlob ['R','E','L','E','A','S','E']) = { pass := false } := by decide +kernel
example : run (exBlob ['R','e','L','e','A','s','E']) = { pass := false } := by decide +kernel
example : run (exBlob ['r','e','l','e','a','s','e',' ']) = { pass := false } := by decide +kernel
example : run (exBlob [' ']) = { pass := false } := by decide +kernel
-- the empty name: the global statement ("release") decides
example : run (exBlob []) = { pass := false } := by decide +kernel
-- `Holds` convicts an implementation that answers for "release" with the identities of "Release" ...
example : Holds (exBlob ['r','e','l','e','a','s','e']) { pass := true } = false := by decide +kernel
-- ... for the statement without any x509 identity ...
example : Holds (exBlob ['R','E','L','E','A','S','E']) { pass := true } = false := by decide +kernel
-- ... for a name no statement carries ...
example : Holds (exBlob ['R','e','L','e','A','s','E']) { pass := true } = false := by decide +kernel
-- ... and for the empty name with the identities of the first statement instead of the global one
example : Holds (exBlob []) { pass := true } = false := by decide +kernel
-- `Holds` also convicts one that refuses the signer "Release" pins
example : Holds (exBlob ['R','e','l','e','a','s','e']) { pass := false } = false := by decide +kernel
example : Holds (exBlob ['R','e','l','e','a','s','e']) { pass := true } = true := by decide +kernel

end examples

end NotationModel.C04
