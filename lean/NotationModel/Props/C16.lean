/-
C16 - A plugin name can never reach outside the plugin directory.
Property theorems; the model is in `Model/C16.lean`, the lemmas on `Clean` / `Join` / `SysPath` in
`Lemmas/C16Path.lean` and `Lemmas/C16Rel.lean`.

Facts and the rule of `validatePluginName`; the clauses as propositions (`ClausesHold`), one lemma per operation,
`model_holds`; corollaries; plugin roots behind symbolic links; test vectors; the tie to the translated source.
-/
import NotationModel.Lemmas.C16Path
import NotationModel.Lemmas.C16Rel
import NotationModel.Generated.SrcC16

namespace NotationModel.C16

/-! ### obligations on the extracted facts (re-checked whenever the Go source changes) -/

/-- the three entry points validate the name before anything else uses it -/
theorem facts_guards :
    Facts.c16GetValidatesFirst = true ∧ Facts.c16UninstallValidatesFirst = true ∧
    Facts.c16InstallValidatesBeforeUse = true := by decide +kernel

/-- `SysPath` and the verifier's hand-over have the shape the model gives them. (That the validated
variable is the one the path is built from, and the shapes of `binName` / `parsePluginName`, are not
taken from syntactic facts: namespace `Tie` proves them of the translated source.) -/
theorem facts_flow :
    Facts.c16SysPathIsJoinUnderRoot = true ∧ Facts.c16VerifierPassesAttributeToGet = true := by decide +kernel

/-- the rule of `validatePluginName` refuses the empty name, `.`, `..`, and every name with a
separator (`/`; `\` for Windows, where `filepath` treats it as one) or a NUL -/
theorem facts_rule :
    ([] : Text) ∈ Facts.c16SpecialNames ∧ dot ∈ Facts.c16SpecialNames ∧ dotdot ∈ Facts.c16SpecialNames ∧
    '/' ∈ Facts.c16ForbiddenChars ∧ '\\' ∈ Facts.c16ForbiddenChars ∧ '\x00' ∈ Facts.c16ForbiddenChars := by decide +kernel

/-- ... and nothing else (whatever the order of its disjuncts / characters) -/
theorem facts_rule_exact :
    Facts.c16SpecialNames.all (fun s => s == [] || s == dot || s == dotdot) = true ∧
    Facts.c16ForbiddenChars.all (fun c => c == '/' || c == '\\' || c == '\x00') = true := by decide +kernel

/-- the execute bit of a candidate is only set after its name was accepted -/
theorem facts_chmod_after_validation : Facts.c16SetExecutableAfterValidation = true := by decide +kernel

theorem facts_prefix : Facts.c16BinaryPrefix = ['n', 'o', 't', 'a', 't', 'i', 'o', 'n', '-'] := by decide +kernel

/-! ### names -/

theorem validName_iff (n : Text) :
    validName n = true ↔ n ≠ [] ∧ n ≠ dot ∧ n ≠ dotdot ∧ ∀ c ∈ n, c ≠ '/' ∧ c ≠ '\\' ∧ c ≠ '\x00' := by
  obtain ⟨f1, f2, f3, f4, f5, f6⟩ := facts_rule
  obtain ⟨e1, e2⟩ := facts_rule_exact
  simp only [List.all_eq_true, Bool.or_eq_true, beq_iff_eq] at e1 e2
  simp only [validName, Bool.and_eq_true, Bool.not_eq_true', List.contains_eq_mem, List.any_eq_false,
    decide_eq_false_iff_not, decide_eq_true_eq]
  constructor
  · rintro ⟨h1, h2⟩
    exact ⟨fun e => h1 (e ▸ f1), fun e => h1 (e ▸ f2), fun e => h1 (e ▸ f3),
      fun c hc => ⟨fun e => h2 c hc (e ▸ f4), fun e => h2 c hc (e ▸ f5), fun e => h2 c hc (e ▸ f6)⟩⟩
  · rintro ⟨h1, h2, h3, h4⟩
    refine ⟨fun hm => ?_, fun c hc hm => ?_⟩
    · rcases e1 n hm with (e | e) | e
      · exact h1 e
      · exact h2 e
      · exact h3 e
    · have ⟨g1, g2, g3⟩ := h4 c hc
      rcases e2 c hm with (e | e) | e
      · exact g1 e
      · exact g2 e
      · exact g3 e

theorem valid_good {n : Text} (h : validName n = true) : Good n :=
  have ⟨h1, h2, h3, h4⟩ := (validName_iff n).1 h
  ⟨h1, h2, h3, fun e => (h4 _ e).1 rfl⟩

/-- **a validated name is a single path component** -/
theorem valid_is_single_component (n : Text) (h : validName n = true) : singleComponent n = true := by
  have ⟨h1, h2, h3, h4⟩ := (validName_iff n).1 h
  have hs : '/' ∉ n := fun e => (h4 _ e).1 rfl
  have h0 : '\x00' ∉ n := fun e => (h4 _ e).2.2 rfl
  simp [singleComponent, h1, h2, h3, hs, h0]

theorem plain_valid {n : Text} (h : plainName n = true) : validName n = true := by
  simp only [plainName, Bool.and_eq_true, bne_iff_ne, ne_eq, List.all_eq_true] at h
  refine (validName_iff n).2 ⟨h.1.1.1, h.1.1.2, h.1.2, fun c hc => ?_⟩
  have hp := h.2 c hc
  refine ⟨?_, ?_, ?_⟩ <;> (rintro rfl; revert hp; decide)

theorem binName_good {n : Text} (h : Good n) : Good (binName n) := by
  simp only [binName, facts_prefix]
  refine ⟨by simp, by simp [dot], by simp [dotdot], ?_⟩
  intro e
  rcases List.mem_append.1 e with e | e
  · revert e; decide
  · exact h.2.2.2 e

theorem good_name_binName {n : Text} (h : validName n = true) : ∀ x ∈ [n, binName n], Good x :=
  List.forall_mem_cons.2 ⟨valid_good h, List.forall_mem_singleton.2 (binName_good (valid_good h))⟩

/-- **where a validated name leads**: for every root string, `Uninstall` / `Install` work on the
path whose components are those of the cleaned root followed by exactly `[name]`, and `Get`
looks at the cleaned root followed by exactly `[name, "notation-" ++ name]`. -/
theorem comps_dirPath (root n : Text) (h : validName n = true) :
    comps (dirPath root n) = rootComps root ++ [n] :=
  comps_sysPath root (items := [n]) (by simp) (List.forall_mem_singleton.2 (valid_good h))

theorem comps_exePath (root n : Text) (h : validName n = true) :
    comps (exePath root n) = rootComps root ++ [n, binName n] := by
  rw [exePath, join_good (by simp) (good_name_binName h)]
  exact comps_sysPath root (by simp) (good_name_binName h)

/-! ### the model's functions -/

theorem mem_insertText (a x : Text) : ∀ l, x ∈ insertText a l ↔ x = a ∨ x ∈ l
  | [] => by simp [insertText]
  | b :: r => by
    rw [insertText]
    split
    · exact List.mem_cons
    · rw [List.mem_cons, mem_insertText a x r, List.mem_cons]
      exact or_left_comm

theorem mem_sortTexts (x : Text) : ∀ l, x ∈ sortTexts l ↔ x ∈ l
  | [] => by simp [sortTexts]
  | a :: r => by simp [sortTexts, mem_insertText, mem_sortTexts x r]

theorem mem_removed {fs : List Node} {d p : Text} :
    p ∈ sortTexts ((fs.filter (fun n => under d n.path)).map (·.path)) ↔ ∃ m ∈ fs, under d m.path = true ∧ m.path = p := by
  simp only [mem_sortTexts, List.mem_map, List.mem_filter, and_assoc]

theorem lookup_some {fs : List Node} {p : Text} {n : Node} (h : lookup fs p = some n) :
    n ∈ fs ∧ comps n.path = comps p := by
  unfold lookup at h
  refine ⟨List.mem_of_find?_eq_some h, ?_⟩
  have := List.find?_some h
  simpa [samePath] using this

theorem mgrGet_valid {fs : List Node} {root name : Text} (hv : validName name = true) :
    mgrGet fs root name =
      match lookup fs (exePath root name) with
      | none => .error .notExist
      | some n =>
        if n.kind = .symnone then .error .notExist
        else if n.kind.statRegular then .ok n else .error .notRegular := by
  unfold mgrGet
  cases lookup fs (exePath root name) <;> simp [hv]

theorem mgrGet_invalid {fs : List Node} {root name : Text} (hv : validName name = false) :
    mgrGet fs root name = .error .invalid := by
  obtain ⟨g1, _, _⟩ := facts_guards
  simp [mgrGet, g1, hv]

theorem mgrGet_ok {fs : List Node} {root name : Text} {n : Node} (h : mgrGet fs root name = .ok n) :
    validName name = true ∧ lookup fs (exePath root name) = some n ∧ n.kind.statRegular = true := by
  cases hv : validName name with
  | false => rw [mgrGet_invalid hv] at h; cases h
  | true =>
    rw [mgrGet_valid hv] at h
    cases hl : lookup fs (exePath root name) with
    | none => simp [hl] at h
    | some m =>
      simp only [hl] at h
      split at h
      · cases h
      · split at h
        · rename_i hr
          cases h
          exact ⟨rfl, rfl, hr⟩
        · cases h

theorem mgrGet_ok_exe {fs : List Node} {root name : Text} {n : Node} (h : mgrGet fs root name = .ok n) :
    isPluginExe root name n.path = true := by
  obtain ⟨hv, hl, _⟩ := mgrGet_ok h
  have := (lookup_some hl).2
  simp [isPluginExe, this, comps_exePath root name hv]

theorem inPluginDir_inRoot {root n p : Text} (h : inPluginDir root n p = true) : rootComps root <+: comps p :=
  (List.prefix_append _ _).trans (List.isPrefixOf_iff_prefix.1 h)

theorem mem_ranBy {n : Node} {p : Text} (h : p ∈ ranBy n) : p = n.path := by
  unfold ranBy at h
  split at h
  · simpa using h
  · cases h

theorem ranBy_exec {n : Node} (h : n.kind = .exec) : ranBy n = [n.path] := by
  simp [ranBy, h, Kind.runnable]

/-! ### the clauses -/

/-- The clauses of `clausesOp` as propositions, under the names the model gives them, for the operations
other than `list` (whose clauses are immediate). -/
structure ClausesHold (i : Input) (o : Obs) : Prop where
  not_list : i.op ≠ .list
  non_component_name_is_an_error :
    (∃ n, effName i = some n ∧ singleComponent n = true) ∨ o.err = true
  non_component_name_has_no_effect :
    (∃ n, effName i = some n ∧ singleComponent n = true) ∨ (o.executed = [] ∧ o.changed = [] ∧ o.chmod = [])
  mode_changes_only_on_accepted_install_source :
    o.chmod = [] ∨ (i.op = .install ∧ ∀ p ∈ o.chmod, under i.src p = true)
  changes_only_inside_root_name :
    ∀ p ∈ o.changed, ∃ n, effName i = some n ∧ inPluginDir i.root n p = true
  executes_only_root_name_executable :
    ∀ p ∈ o.executed, ∃ n, effName i = some n ∧
      (isPluginExe i.root n p = true ∨ (i.op = .install ∧ under i.src p = true))
  lookup_changes_nothing :
    i.op = .install ∨ i.op = .uninstall ∨ o.changed = []
  uninstall_and_list_run_nothing :
    i.op ≠ .uninstall ∨ o.executed = []
  plain_name_reaches_root_name :
    plainName i.name = true →
      (i.op = .get → match lookup i.fs (exePath i.root i.name) with
        | some n => n.kind ≠ .exec ∨ (o.err = false ∧ o.executed = [n.path])
        | none => o.err = true) ∧
      (i.op = .uninstall → match lookup i.fs (dirPath i.root i.name) with
        | some n => n.kind = .symnone ∨ (o.err = false ∧ n.path ∈ o.changed)
        | none => o.err = true)
  list_reports_exactly_real_subdirectories : o.listed = []

theorem ClausesHold.holdsOp {i : Input} {o : Obs} (h : ClausesHold i o) : HoldsOp i o = true := by
  have hl := h.not_list
  simp only [HoldsOp, clausesOp, Clauses.holds_cons, Clauses.holds_nil, Bool.and_true, Bool.and_eq_true]
  refine ⟨?_, ?_, ?_, ?_, ?_, ?_, ?_, ?_, ?_, ?_⟩
  · cases he : effName i <;> simpa [he, hl] using h.non_component_name_is_an_error
  · cases he : effName i <;> simpa [he, hl, and_assoc] using h.non_component_name_has_no_effect
  · simpa using h.mode_changes_only_on_accepted_install_source
  · cases he : effName i <;> simpa [he, List.eq_nil_iff_forall_not_mem] using h.changes_only_inside_root_name
  · -- nothing_outside_plugin_root_changes follows from the clause before
    have : ∀ p ∈ o.changed, rootComps i.root <+: comps p := fun p hp =>
      (h.changes_only_inside_root_name p hp).elim fun _ hn => inPluginDir_inRoot hn.2
    simpa using this
  · cases he : effName i <;> simpa [he, List.eq_nil_iff_forall_not_mem] using h.executes_only_root_name_executable
  · simpa [or_assoc] using h.lookup_changes_nothing
  · simpa [hl] using h.uninstall_and_list_run_nothing
  · cases hp : plainName i.name with
    | false => simp
    | true =>
      obtain ⟨hg, hu⟩ := h.plain_name_reaches_root_name hp
      cases hop : i.op with
      | get => cases hk : lookup i.fs (exePath i.root i.name) <;> simpa [hk] using hg hop
      | uninstall => cases hk : lookup i.fs (dirPath i.root i.name) <;> simpa [hk] using hu hop
      | _ => simp
  · simpa [hl] using h.list_reports_exactly_real_subdirectories

theorem effName_eq_name {i : Input} (h1 : i.op ≠ .install) (h2 : i.op ≠ .list) : effName i = some i.name := by
  unfold effName
  cases hop : i.op <;> simp_all

/-- An error without any effect satisfies every clause, except where an ordinary name should have been
found: a lookup that finds the executable, an uninstall that finds the directory, must not fail. -/
theorem clauses_errObs (i : Input) (hl : i.op ≠ .list)
    (hget : i.op = .get → plainName i.name = true →
      ∀ n, lookup i.fs (exePath i.root i.name) = some n → n.kind ≠ .exec)
    (hun : i.op = .uninstall → plainName i.name = true →
      ∀ n, lookup i.fs (dirPath i.root i.name) = some n → n.kind = .symnone) :
    ClausesHold i errObs :=
  {
    not_list := hl
    non_component_name_is_an_error := Or.inr rfl
    non_component_name_has_no_effect := Or.inr ⟨rfl, rfl, rfl⟩
    mode_changes_only_on_accepted_install_source := Or.inl rfl
    changes_only_inside_root_name := fun _ hp => by cases hp
    executes_only_root_name_executable := fun _ hp => by cases hp
    lookup_changes_nothing := Or.inr (Or.inr rfl)
    uninstall_and_list_run_nothing := Or.inr rfl
    plain_name_reaches_root_name := fun hp => by
      constructor
      · intro hg
        cases hk : lookup i.fs (exePath i.root i.name) with
        | none => rfl
        | some n => exact Or.inl (hget hg hp n hk)
      · intro hu
        cases hk : lookup i.fs (dirPath i.root i.name) with
        | none => rfl
        | some n => exact Or.inl (hun hu hp n hk)
    list_reports_exactly_real_subdirectories := rfl }

/-- `Get` followed by `GetMetadata`, with whatever error flag the caller derives from the plugin found
(a lookup may not report an error for a plugin executable) -/
theorem clauses_lookup (i : Input) (hop : i.op = .get ∨ i.op = .verify) (err : Node → Bool)
    (he : i.op = .get → ∀ n, err n = false) :
    ClausesHold i (match mgrGet i.fs i.root i.name with
      | .error _ => errObs
      | .ok n => { err := err n, executed := ranBy n, changed := [], listed := [], chmod := [] }) := by
  obtain ⟨hu, hl, hi⟩ : i.op ≠ .uninstall ∧ i.op ≠ .list ∧ i.op ≠ .install := by
    rcases hop with h | h <;> simp [h]
  cases hg : mgrGet i.fs i.root i.name with
  | error _ =>
    refine clauses_errObs i hl (fun _ hp n hn hk => ?_) (fun h => absurd h hu)
    rw [mgrGet_valid (plain_valid hp), hn] at hg
    simp [hk, Kind.statRegular] at hg
  | ok n =>
    obtain ⟨hv, hk, _⟩ := mgrGet_ok hg
    have hn : effName i = some i.name := effName_eq_name hi hl
    have hs : ∃ m, effName i = some m ∧ singleComponent m = true := ⟨_, hn, valid_is_single_component _ hv⟩
    exact {
      not_list := hl
      non_component_name_is_an_error := Or.inl hs
      non_component_name_has_no_effect := Or.inl hs
      mode_changes_only_on_accepted_install_source := Or.inl rfl
      changes_only_inside_root_name := fun _ hp => by cases hp
      executes_only_root_name_executable := fun p hp => ⟨_, hn, Or.inl (mem_ranBy hp ▸ mgrGet_ok_exe hg)⟩
      lookup_changes_nothing := Or.inr (Or.inr rfl)
      uninstall_and_list_run_nothing := Or.inl hu
      plain_name_reaches_root_name := fun _ => by
        refine ⟨fun h => ?_, fun h => absurd h hu⟩
        simp only [hk]
        by_cases hx : n.kind = .exec
        · exact Or.inr ⟨he h n, ranBy_exec hx⟩
        · exact Or.inl hx
      list_reports_exactly_real_subdirectories := rfl }

theorem clauses_verify (i : Input) (h : i.op = .verify) : ClausesHold i (runVerify i) := by
  unfold runVerify
  split
  · exact clauses_errObs i (by simp [h]) (by simp [h]) (by simp [h])
  · exact clauses_lookup i (Or.inr h) _ (by simp [h])

theorem clauses_uninstall (i : Input) (h : i.op = .uninstall) : ClausesHold i (runUninstall i) := by
  obtain ⟨_, g2, _⟩ := facts_guards
  have herr : (plainName i.name = true → ∀ n, lookup i.fs (dirPath i.root i.name) = some n → n.kind = .symnone) →
      ClausesHold i errObs :=
    fun hun => clauses_errObs i (by simp [h]) (by simp [h]) (fun _ => hun)
  unfold runUninstall
  rw [g2]
  cases hv : validName i.name with
  | false => exact herr (fun hp => by rw [plain_valid hp] at hv; cases hv)
  | true =>
    cases hl : lookup i.fs (dirPath i.root i.name) with
    | none => exact herr (fun _ n hn => by rw [hl] at hn; cases hn)
    | some n =>
      by_cases hk : n.kind = .symnone
      · simp only [hk, if_true, Bool.not_true, Bool.and_false, Bool.false_eq_true, if_false]
        exact herr (fun _ m hm => by rw [hl] at hm; cases hm; exact hk)
      · have hs := valid_is_single_component _ hv
        have hd := comps_dirPath i.root i.name hv
        obtain ⟨hm, hc⟩ := lookup_some hl
        have hn : effName i = some i.name := effName_eq_name (by simp [h]) (by simp [h])
        simp only [hk, if_false]
        exact {
          not_list := by simp [h]
          non_component_name_is_an_error := Or.inl ⟨_, hn, hs⟩
          non_component_name_has_no_effect := Or.inl ⟨_, hn, hs⟩
          mode_changes_only_on_accepted_install_source := Or.inl rfl
          changes_only_inside_root_name := fun p hp => by
            obtain ⟨m, _, hu, rfl⟩ := mem_removed.1 hp
            exact ⟨_, hn, by simpa [under, inPluginDir, hd] using hu⟩
          executes_only_root_name_executable := fun _ hp => by cases hp
          lookup_changes_nothing := Or.inr (Or.inl h)
          uninstall_and_list_run_nothing := Or.inr rfl
          plain_name_reaches_root_name := fun _ => by
            refine ⟨fun hg => (by rw [h] at hg; cases hg), fun _ => ?_⟩
            simp only [hl]
            exact Or.inr ⟨rfl, mem_removed.2 ⟨n, hm, by simp [under, hc], rfl⟩⟩
          list_reports_exactly_real_subdirectories := rfl }

theorem fromDir_mem {fs : List Node} {d : Text} {r : Node × Text} (h : fromDir fs d = some r) :
    childOf (comps d) r.1.path = true := by
  unfold fromDir at h
  simp only [] at h  -- unfolds the `let`
  -- the result is one of the candidates, and a candidate is an entry of `d`
  have hr : r ∈ List.filterMap (fun n =>
      if (childOf (comps d) n.path && n.kind.lstatRegular) = true then
        Option.map (fun nm => (n, nm)) (parsePluginName (baseName n.path))
      else none) fs := by
    split at h
    · rename_i e he
      cases h
      exact (List.mem_filter.1 (he ▸ List.mem_singleton_self _)).1
    · split at h
      · rename_i c hc
        cases h
        exact hc ▸ List.mem_singleton_self _
      · cases h
    · cases h
  obtain ⟨n, _, hn⟩ := List.mem_filterMap.1 hr
  split at hn
  · rename_i hc
    obtain ⟨nm, _, rfl⟩ := Option.map_eq_some_iff.1 hn
    exact (Bool.and_eq_true_iff.1 hc).1
  · cases hn
theorem installSource_under {fs : List Node} {src : Text} {s e : Node} {nm : Text}
    (h : installSource fs src = some (s, e, nm)) : under src e.path = true := by
  unfold installSource at h
  by_cases h0 : src = []
  · rw [if_pos h0] at h; cases h
  rw [if_neg h0] at h
  cases hl : lookup fs src with
  | none => rw [hl] at h; cases h
  | some s' =>
    have hc := (lookup_some hl).2
    rw [hl] at h
    simp only [] at h
    by_cases h1 : s'.kind = .symnone
    · rw [if_pos h1] at h; cases h
    rw [if_neg h1] at h
    by_cases h2 : s'.kind.statDir = true
    · -- a directory source: the executable is one of its entries
      rw [if_pos h2] at h
      cases hf : fromDir fs s'.path with
      | none => rw [hf] at h; cases h
      | some r =>
        have hch := fromDir_mem hf
        rw [hf] at h
        cases h
        simp only [childOf, beq_iff_eq] at hch
        simp [under, hch, ← hc]
    · -- a file source: the executable is the source
      rw [if_neg h2] at h
      cases hp : parsePluginName (baseName src) with
      | none => rw [hp] at h; cases h
      | some nm' =>
        rw [hp] at h
        simp only [] at h
        by_cases h3 : s'.kind = .exec
        · rw [if_pos h3] at h
          cases h
          simp [under, hc]
        · rw [if_neg h3] at h; cases h
theorem comps_copied {fs : List Node} {src exe : Node} {d : Text} {n : Node} (h : n ∈ copied fs src exe d) :
    (comps d).isPrefixOf (comps n.path) = true := by
  unfold copied at h
  simp only [List.mem_map] at h
  obtain ⟨f, _, rfl⟩ := h
  simp [comps_append_slash]

theorem clauses_of_install (i : Input) (h : i.op = .install) {s e : Node} {nm : Text}
    (hsrc : installSource i.fs i.src = some (s, e, nm)) (hs : singleComponent nm = true) (o : Obs)
    (hl : o.listed = []) (hm : ∀ p ∈ o.chmod, under i.src p = true)
    (hc : ∀ p ∈ o.changed, inPluginDir i.root nm p = true)
    (hx : ∀ p ∈ o.executed, isPluginExe i.root nm p = true ∨ under i.src p = true) :
    ClausesHold i o :=
  have hn : effName i = some nm := by simp [effName, h, hsrc]
  {
    not_list := by simp [h]
    non_component_name_is_an_error := Or.inl ⟨_, hn, hs⟩
    non_component_name_has_no_effect := Or.inl ⟨_, hn, hs⟩
    mode_changes_only_on_accepted_install_source := Or.inr ⟨h, hm⟩
    changes_only_inside_root_name := fun p hp => ⟨_, hn, hc p hp⟩
    executes_only_root_name_executable := fun p hp => ⟨_, hn, (hx p hp).imp_right (fun u => ⟨h, u⟩)⟩
    lookup_changes_nothing := Or.inl h
    uninstall_and_list_run_nothing := Or.inl (by simp [h])
    plain_name_reaches_root_name := fun _ =>
      ⟨fun hg => (by rw [h] at hg; cases hg), fun hu => (by rw [h] at hu; cases hu)⟩
    list_reports_exactly_real_subdirectories := hl }

theorem clauses_ite (i : Input) {c : Prop} [Decidable c] {a b : Obs} (ha : ClausesHold i a)
    (hb : ClausesHold i b) : ClausesHold i (if c then a else b) := by
  split <;> assumption

theorem clauses_install_obs (i : Input) (h : i.op = .install) (s e : Node) (nm : Text)
    (hsrc : installSource i.fs i.src = some (s, e, nm)) (hv : validName nm = true)
    (ran : List Text) (hran : ∀ p ∈ ran, isPluginExe i.root nm p = true ∨ under i.src p = true) :
    ClausesHold i (installFail ran) ∧ ClausesHold i (installFinish i s e nm ran) := by
  obtain ⟨_, g2, _⟩ := facts_guards
  have hs := valid_is_single_component _ hv
  have hd := comps_dirPath i.root nm hv
  have hx : ∀ p ∈ sortTexts ran, isPluginExe i.root nm p = true ∨ under i.src p = true :=
    fun p hp => hran p ((mem_sortTexts p ran).1 hp)
  have hfail : ClausesHold i (installFail ran) :=
    clauses_of_install i h hsrc hs _ rfl (fun _ hp => by cases hp) (fun _ hp => by cases hp) hx
  refine ⟨hfail, ?_⟩
  unfold installFinish
  simp only [g2, hv, Bool.not_true, Bool.and_false, Bool.false_eq_true, if_false]
  refine clauses_ite i hfail (clauses_of_install i h hsrc hs _ rfl (fun _ hp => by cases hp) (fun p hp => ?_) hx)
  -- a changed path belongs to the old sub-tree of `<root>/<nm>`, is that directory, or was copied into it
  simp only [mem_sortTexts, diffPaths, List.mem_append, List.mem_map, List.mem_filter] at hp
  rcases hp with ⟨n, ⟨⟨_, hu⟩, _⟩, rfl⟩ | ⟨n, ⟨hn, _⟩, rfl⟩
  · simpa [under, inPluginDir, hd] using hu
  · rcases List.mem_cons.1 hn with e' | e'
    · subst e'
      simp [inPluginDir, hd]
    · simpa [inPluginDir, hd] using comps_copied e'

theorem clauses_install (i : Input) (h : i.op = .install) : ClausesHold i (runInstall i) := by
  obtain ⟨_, _, g3⟩ := facts_guards
  have herr : ClausesHold i errObs := clauses_errObs i (by simp [h]) (by simp [h]) (by simp [h])
  unfold runInstall
  cases hsrc : installSource i.fs i.src with
  | none => exact herr
  | some r =>
    obtain ⟨s, e, nm⟩ := r
    simp only [g3, facts_chmod_after_validation]
    cases hv : validName nm with
    | false => exact herr
    | true =>
      have hs := valid_is_single_component _ hv
      simp only [Bool.not_true, Bool.and_false, Bool.false_eq_true, if_false]
      have hu := installSource_under hsrc
      by_cases hk : e.kind = .exec
      · have o1 := clauses_install_obs i h s e nm hsrc hv [e.path] (List.forall_mem_singleton.2 (Or.inr hu))
        simp only [hk, bne_self_eq_false, Bool.false_eq_true, if_false]
        cases hg : mgrGet i.fs i.root nm with
        | error er => exact clauses_ite i o1.1 o1.2
        | ok ex =>
          have o2 := clauses_install_obs i h s e nm hsrc hv [e.path, ex.path]
            (List.forall_mem_cons.2 ⟨Or.inr hu, List.forall_mem_singleton.2 (Or.inl (mgrGet_ok_exe hg))⟩)
          -- an installed plugin: if it runs, equal version / downgrade or install; if not, give up or overwrite
          exact clauses_ite i (clauses_ite i o2.1 o2.2) (clauses_ite i o1.1 o1.2)
      · have : (e.kind != Kind.exec) = true := by simp [hk]
        simp only [this, if_true]
        exact clauses_of_install i h hsrc hs _ rfl (List.forall_mem_singleton.2 hu) (fun _ hp => by cases hp)
          (fun _ hp => by cases hp)

/-! ### the property -/

theorem model_clauses (i : Input) (hl : i.op ≠ .list) : ClausesHold i (runOp i) := by
  unfold runOp
  cases h : i.op with
  | get => exact clauses_lookup i (Or.inl h) (fun _ => false) (fun _ _ => rfl)
  | uninstall => exact clauses_uninstall i h
  | install => exact clauses_install i h
  | verify => exact clauses_verify i h
  | list => exact absurd h hl

/-- **C16, the whole property**: every clause of `Holds` is true of the model's behaviour, for
every operation, every root string, every name and every world. -/
theorem model_holds_op (i : Input) : HoldsOp i (runOp i) = true := by
  by_cases hl : i.op = .list
  · simp [HoldsOp, clausesOp, effName, hl, Clauses.holds_cons, Clauses.holds_nil, runOp, runList]
  · exact (model_clauses i hl).holdsOp

/-- **C16, the whole property, histories included**: whatever was done before on the same manager
object (installs, uninstalls, lookups, the install source replaced or deleted), every clause holds
of the observed operation. -/
theorem model_holds (i : Input) : Holds i (run i) = true := model_holds_op (eff i)

/-- concurrent use of one manager: `eff` drops `peers` before anything reads it, so what other goroutines do
with OTHER names through the same manager object at the same time does not enter the specification - the answer
for a name, and what may run or change, are those of the sequential call (the harness repeats the call many
times while peers hammer the manager, and every answer must be this one). -/
theorem peers_irrelevant (i : Input) (ps : List Text) :
    run { i with peers := ps } = run i ∧ ∀ o, Holds { i with peers := ps } o = Holds i o := by
  constructor
  · rfl
  · intro o; rfl

/-! ### readable corollaries -/

/-- for every root string and every name that
`validatePluginName` accepts, the name is a single path component, the directory that
`Uninstall` / `Install` stat, remove and create is exactly `<cleaned root>/<name>`, and the
file that `Get` stats (and whose execution it enables) is exactly
`<cleaned root>/<name>/notation-<name>`. -/
theorem valid_name_confined (root n : Text) (h : validName n = true) :
    singleComponent n = true ∧
    comps (dirPath root n) = rootComps root ++ [n] ∧
    comps (exePath root n) = rootComps root ++ [n, Facts.c16BinaryPrefix ++ n] :=
  ⟨valid_is_single_component n h, comps_dirPath root n h, comps_exePath root n h⟩

/-- whatever an operation changes lies in `<root>/<name>`,
whatever it runs is `<root>/<name>/notation-<name>` or (install) the install source - for
every input; `<name>` is a single component whenever anything ran or changed at all. -/
theorem effects_confined (i : Input) (hop : i.op ≠ .list) :
    (∀ p ∈ (runOp i).changed, ∃ n, effName i = some n ∧ singleComponent n = true ∧ inPluginDir i.root n p = true) ∧
    (∀ p ∈ (runOp i).executed, ∃ n, effName i = some n ∧ singleComponent n = true ∧
      (isPluginExe i.root n p = true ∨ (i.op = .install ∧ under i.src p = true))) := by
  have hm := model_clauses i hop
  have hs : ∀ p n, p ∈ (runOp i).changed ∨ p ∈ (runOp i).executed → effName i = some n → singleComponent n = true := by
    intro p n hp hn
    rcases hm.non_component_name_has_no_effect with ⟨n', hn', hs⟩ | ⟨h1, h2, _⟩
    · rw [hn] at hn'
      cases hn'
      exact hs
    · rw [h1, h2] at hp
      simp at hp
  constructor
  · intro p hp
    obtain ⟨n, hn, hin⟩ := hm.changes_only_inside_root_name p hp
    exact ⟨n, hn, hs p n (Or.inl hp) hn, hin⟩
  · intro p hp
    obtain ⟨n, hn, hex⟩ := hm.executes_only_root_name_executable p hp
    exact ⟨n, hn, hs p n (Or.inr hp) hn, hex⟩

/-- **relative plugin roots**: with the process working in `cwd`, what the manager stats / removes /
creates for a validated name under a RELATIVE root is what it would under the absolute root
`Join(cwd, root)` - the model's `absRoot`; with `valid_name_confined` for that root: exactly
`<cwd>/<root>/<name>` and `<cwd>/<root>/<name>/notation-<name>`, for any number of leading `..`. -/
theorem relative_root_confined (cwd root n : Text) (h : validName n = true)
    (hc : isRooted cwd = true) (hr : isRooted root = false) :
    comps (join [cwd, dirPath root n]) = rootComps (join [cwd, root]) ++ [n] ∧
    comps (join [cwd, exePath root n]) = rootComps (join [cwd, root]) ++ [n, binName n] := by
  have hn : ∀ x ∈ [n], Good x := List.forall_mem_singleton.2 (valid_good h)
  have hall := good_name_binName h
  constructor
  · exact (relative_root_resolves_as_absolute cwd root (by simp) hn hc hr).trans (comps_sysPath _ (by simp) hn)
  · rw [exePath, join_good (by simp) hall]
    exact (relative_root_resolves_as_absolute cwd root (by simp) hall hc hr).trans (comps_sysPath _ (by simp) hall)

/-- a name that `validatePluginName` refuses - in particular every
name that is not a single path component - yields an error, runs nothing and changes nothing,
through lookup, uninstall and end-to-end verification ... -/
theorem invalid_name_no_effect (i : Input) (h : validName i.name = false)
    (hop : i.op = .get ∨ i.op = .uninstall ∨ i.op = .verify) : runOp i = errObs := by
  obtain ⟨_, g2, _⟩ := facts_guards
  rcases hop with hop | hop | hop
  · simp [runOp, hop, runGet, mgrGet_invalid h]
  · simp [runOp, hop, runUninstall, g2, h]
  · simp only [runOp, hop, runVerify, mgrGet_invalid h]
    split <;> rfl

/-- ... and through install, where the name comes from the file name `notation-<name>` -/
theorem invalid_name_no_effect_install (i : Input) (s e : Node) (nm : Text) (hop : i.op = .install)
    (hsrc : installSource i.fs i.src = some (s, e, nm)) (h : validName nm = false) : runOp i = errObs := by
  obtain ⟨_, _, g3⟩ := facts_guards
  simp [runOp, hop, runInstall, hsrc, g3, h, facts_chmod_after_validation, errObs]

theorem non_component_is_invalid (n : Text) (h : singleComponent n = false) : validName n = false := by
  cases hv : validName n with
  | false => rfl
  | true => rw [valid_is_single_component n hv] at h; cases h

/-- the path functions alone do not confine anything - without the
validation `Uninstall("../victim")` on root `/a/p` works on `/a/victim`, `Get("../../victim")`
on root `/a/b/p` looks at `/a/victim/victim`, and a file `notation-..` installs into the
parent of the root. This is what `validatePluginName` is there to prevent. -/
theorem guard_is_necessary :
    dirPath "/a/p".toList "../victim".toList = "/a/victim".toList ∧
    exePath "/a/b/p".toList "../../victim".toList = "/a/victim/victim".toList ∧
    dirPath "/a/p".toList "..".toList = "/a".toList ∧
    inPluginDir "/a/p".toList "../victim".toList (dirPath "/a/p".toList "../victim".toList) = false ∧
    (rootComps "/a/p".toList).isPrefixOf (comps (dirPath "/a/p".toList "../victim".toList)) = false := by
  simp only [toList_lit]
  decide +kernel

/-- `List` reports `x` iff the world has a real directory (not a symbolic
link, not a file) whose path is `<cleaned root>/x`; nothing deeper, nothing outside. -/
theorem list_real_dirs (i : Input) (x : Text) :
    x ∈ (runList i).listed ↔
      ∃ n ∈ i.fs, n.kind = .dir ∧ comps n.path = rootComps i.root ++ [x] := by
  simp only [runList, mem_sortTexts, List.mem_map, List.mem_filter, Bool.and_eq_true, decide_eq_true_eq,
    childOf, beq_iff_eq]
  constructor
  · rintro ⟨n, ⟨hn, hk, hc⟩, rfl⟩
    exact ⟨n, hn, hk, hc⟩
  · rintro ⟨n, hn, hk, hc⟩
    have hb : baseName n.path = x := by simp [baseName, hc]
    exact ⟨n, ⟨hn, hk, by rw [hb]; exact hc⟩, hb⟩

theorem list_is_pure (i : Input) : (runList i).err = false ∧ (runList i).executed = [] ∧ (runList i).changed = [] :=
  ⟨rfl, rfl, rfl⟩

/-! ### a plugin root reached through symbolic links -/

/-- no link lies on the way `done/todo₁/…/todoₖ` -/
def NoLinkOnWay (fs : List Node) (done todo : List Text) : Prop :=
  ∀ k, k < todo.length → ∀ n, lookup fs (pathOf (done ++ todo.take (k + 1))) = some n → n.kind.isLink = false

theorem NoLinkOnWay.tail {fs : List Node} {done : List Text} {c : Text} {rest : List Text}
    (h : NoLinkOnWay fs done (c :: rest)) : NoLinkOnWay fs (done ++ [c]) rest := by
  intro k hk n hn
  refine h (k + 1) (by simpa using hk) n ?_
  simpa [List.take_succ_cons, List.append_assoc] using hn

theorem walk_cons_no_link (fs : List Node) (fuel : Nat) (done : List Text) (c : Text) (rest : List Text) (f : Bool)
    (hc : ∀ n, lookup fs (pathOf (done ++ [c])) = some n → n.kind.isLink = false) :
    walk fs (fuel + 1) done (c :: rest) f = walk fs fuel (done ++ [c]) rest f := by
  rw [walk]
  cases hl : lookup fs (pathOf (done ++ [c])) with
  | none => rfl
  | some n => simp only [hc n hl, Bool.false_eq_true, if_false]

theorem walk_prefix (fs : List Node) : ∀ (cs : List Text) (fuel : Nat) (done rest : List Text) (f : Bool),
    NoLinkOnWay fs done cs → walk fs (fuel + cs.length) done (cs ++ rest) f = walk fs fuel (done ++ cs) rest f
  | [], _, _, _, _, _ => by simp
  | c :: cs, fuel, done, rest, f, h => by
    rw [List.length_cons, ← Nat.add_assoc, List.cons_append, walk_cons_no_link fs _ done c _ f (fun n hn => h 0 (by simp) n (by simpa using hn)),
      walk_prefix fs cs fuel (done ++ [c]) rest f h.tail, List.append_assoc, List.singleton_append]

theorem walk_no_link (fs : List Node) (fuel : Nat) (done cs : List Text) (f : Bool)
    (h : NoLinkOnWay fs done cs) (hf : cs.length < fuel) :
    walk fs fuel done cs f = if f then some (done ++ cs) else none := by
  obtain ⟨k, rfl⟩ : ∃ k, fuel = (k + 1) + cs.length := ⟨fuel - 1 - cs.length, by omega⟩
  have := walk_prefix fs cs (k + 1) done [] f h
  rw [List.append_nil] at this
  rw [this, walk]

/-- **links elsewhere do not matter**: when no symbolic link lies on the way of the (cleaned) plugin
root - whatever links the world holds below `<root>/<name>`, in the install source or anywhere else -
the directory the root IS is the root as given; a world without links is the special case. -/
theorem physRoot_of_no_link_on_way (fs : List Node) (root : Text)
    (h : NoLinkOnWay fs [] (rootComps root)) : physRoot fs root = root := by
  rw [physRoot, walk_no_link fs _ [] _ false h (by unfold walkFuel; omega)]
  rfl

theorem physRoot_of_no_links (fs : List Node) (root : Text)
    (h : ∀ n ∈ fs, n.kind.isLink = false) : physRoot fs root = root :=
  physRoot_of_no_link_on_way fs root (fun _ _ n hn => h n (lookup_some hn).1)

theorem le_sum_of_mem {α : Type} (f : α → Nat) : ∀ (l : List α) (a : α), a ∈ l → f a ≤ (l.map f).sum
  | [], _, h => by cases h
  | b :: r, a, h => by
    rcases List.mem_cons.1 h with e | e
    · subst e; simp
    · have := le_sum_of_mem f r a e
      simp only [List.map_cons, List.sum_cons]; omega

/-- **a symbolic link on the root's way**: when a component of the cleaned root is a link of the world -
whatever kind - with no link before it, and none on the way of its target followed by the rest of the
root, the directory the root IS is that way (for every world, root and target). -/
theorem physRoot_link_on_way (fs : List Node) (root : Text) (cs : List Text) (c : Text) (rest : List Text) (n : Node)
    (hr : rootComps root = cs ++ c :: rest) (hanc : NoLinkOnWay fs [] cs)
    (hl : lookup fs (pathOf (cs ++ [c])) = some n) (hk : n.kind.isLink = true)
    (ht : NoLinkOnWay fs [] (comps n.target ++ rest)) :
    physRoot fs root = pathOf (comps n.target ++ rest) := by
  -- the fuel left when the link is met suffices for what follows: the target's length is part of the sum
  have hm := le_sum_of_mem (fun n : Node => (comps n.target).length + 1) fs n (lookup_some hl).1
  have hfuel : walkFuel fs (cs ++ c :: rest) =
      ((fs.map (fun n : Node => (comps n.target).length + 1)).sum + 1 + rest.length + 1) + cs.length := by
    simp [walkFuel]; omega
  rw [physRoot, hr, hfuel, walk_prefix fs cs _ [] (c :: rest) false hanc, walk]
  simp only [List.nil_append, hl, hk, if_true]
  rw [walk_no_link fs _ [] _ true ht (by simp only [List.length_append]; omega)]
  rfl

/-- **the plugin root is a symbolic link** (`~/.config/notation/plugins -> /vol/x/plugins`): when the last
component of the cleaned root is a link of the world - whatever kind - with no further link on the
way to it or on the way of its target, the directory the root IS is the target: that is where the
model lists, looks up, installs and removes (for every world, root and target). -/
theorem physRoot_root_is_link (fs : List Node) (root : Text) (cs : List Text) (c : Text) (n : Node)
    (hr : rootComps root = cs ++ [c]) (hanc : NoLinkOnWay fs [] cs)
    (hl : lookup fs (pathOf (cs ++ [c])) = some n) (hk : n.kind.isLink = true)
    (ht : NoLinkOnWay fs [] (comps n.target)) :
    physRoot fs root = pathOf (comps n.target) := by
  have := physRoot_link_on_way fs root cs c [] n hr hanc hl hk (by rwa [List.append_nil])
  rwa [List.append_nil] at this

/-! The operation the model observes runs in the world the history left,
against the PHYSICAL root - the directory the handed path resolves to through the links of the
world -, and the clauses are stated of that directory. -/

theorem eff_root (i : Input) : (eff i).root = physRoot i.fs (absRoot i) := by rw [eff]

theorem eff_op (i : Input) : (eff i).op = i.op := by rw [eff]

theorem eff_src (i : Input) : (eff i).src = i.src := by rw [eff]

/-- for a plugin root that is (or lies behind) a symbolic link, whatever
an operation changes lies in `<physical root>/<name>`, and whatever it runs is
`<physical root>/<name>/notation-<name>` (or the install source). -/
theorem linked_root_confined (i : Input) (hop : i.op ≠ .list) :
    (∀ p ∈ (run i).changed, ∃ n, effName (eff i) = some n ∧ singleComponent n = true ∧
      inPluginDir (physRoot i.fs (absRoot i)) n p = true) ∧
    (∀ p ∈ (run i).executed, ∃ n, effName (eff i) = some n ∧ singleComponent n = true ∧
      (isPluginExe (physRoot i.fs (absRoot i)) n p = true ∨ (i.op = .install ∧ under i.src p = true))) := by
  have := effects_confined (eff i) (by rwa [eff_op])
  rwa [eff_root, eff_op, eff_src] at this

/-- the listing through a linked root is the listing of the physical root:
exactly the real sub-directories of the directory the link leads to. -/
theorem linked_root_listing (i : Input) (h : i.op = .list) (x : Text) :
    x ∈ (run i).listed ↔
      ∃ n ∈ (eff i).fs, n.kind = .dir ∧ comps n.path = rootComps (physRoot i.fs (absRoot i)) ++ [x] := by
  rw [run, runOp, eff_op, h, ← eff_root]
  exact list_real_dirs (eff i) x

/-! ### non-vacuity -/

/-- (marker: a failure reported under this name is a failure of one of the `example`s below) -/
theorem nonvacuity_examples_follow : True := trivial

def sampleFS : List Node :=
  [ ⟨"/a".toList, .dir, 0, []⟩, ⟨"/a/p".toList, .dir, 0, []⟩, ⟨"/a/p/good".toList, .dir, 0, []⟩,
    ⟨"/a/p/good/notation-good".toList, .exec, 2, []⟩, ⟨"/a/p/lnk".toList, .symdir, 0, []⟩, ⟨"/a/p/f".toList, .file, 1, []⟩,
    ⟨"/a/victim".toList, .dir, 0, []⟩, ⟨"/a/victim/notation-victim".toList, .exec, 7, []⟩,
    ⟨"/src".toList, .dir, 0, []⟩, ⟨"/src/notation-new".toList, .exec, 2, []⟩, ⟨"/src/notation-..".toList, .exec, 2, []⟩ ]

/-- a valid, installed name is found and run where it should be -/
example : run { op := .get, root := "/a/p/".toList, name := "good".toList, src := [], overwrite := false, trusted := true, cwd := [], path := [], peers := [], history := [], fs := sampleFS } =
    { err := false, executed := ["/a/p/good/notation-good".toList], changed := [], listed := [], chmod := [] } := by
  simp only [sampleFS, toList_lit]
  decide +kernel

/-- uninstall removes exactly the plugin directory -/
example : run { op := .uninstall, root := "/a/p".toList, name := "good".toList, src := [], overwrite := false, trusted := true, cwd := [], path := [], peers := [], history := [], fs := sampleFS } =
    { err := false, executed := [], changed := ["/a/p/good".toList, "/a/p/good/notation-good".toList], listed := [], chmod := [] } := by
  simp only [sampleFS, toList_lit]
  decide +kernel

/-- the traversal is refused -/
example : run { op := .uninstall, root := "/a/p".toList, name := "../victim".toList, src := [], overwrite := false, trusted := true, cwd := [], path := [], peers := [], history := [], fs := sampleFS } =
    errObs := by
  simp only [sampleFS, toList_lit]
  decide +kernel

/-- install from a file creates `<root>/<name>/notation-<name>` and runs only the source -/
example : run { op := .install, root := "/a/p".toList, name := "new".toList, src := "/src/notation-new".toList, overwrite := false, trusted := true, cwd := [], path := [], peers := [], history := [], fs := sampleFS } =
    { err := false, executed := ["/src/notation-new".toList],
      changed := ["/a/p/new".toList, "/a/p/new/notation-new".toList], listed := [], chmod := [] } := by
  simp only [sampleFS, toList_lit]
  decide +kernel

/-- a file called `notation-..` is refused before it is run -/
example : run { op := .install, root := "/a/p".toList, name := "..".toList, src := "/src/notation-..".toList, overwrite := true, trusted := true, cwd := [], path := [], peers := [], history := [], fs := sampleFS } =
    errObs := by
  simp only [sampleFS, toList_lit]
  decide +kernel

/-- the listing: the real directory only -/
example : (run { op := .list, root := "/a/p".toList, name := [], src := [], overwrite := false, trusted := true, cwd := [], path := [], peers := [], history := [], fs := sampleFS }).listed =
    ["good".toList] := by
  simp only [sampleFS, toList_lit]
  decide +kernel

/-- a plugin directory left over by a broken installation: the executable entry is a dangling
link, the licence a link to a file outside the root -/
def leftoverFS : List Node :=
  [ ⟨"/a".toList, .dir, 0, []⟩, ⟨"/a/p".toList, .dir, 0, []⟩, ⟨"/a/p/new".toList, .dir, 0, []⟩,
    ⟨"/a/p/new/LICENSE".toList, .symfile, 0, "/outside/data".toList⟩,
    ⟨"/a/p/new/notation-new".toList, .symnone, 0, "/outside/ghost1".toList⟩,
    ⟨"/outside".toList, .dir, 0, []⟩, ⟨"/outside/data".toList, .file, 11, []⟩,
    ⟨"/src".toList, .dir, 0, []⟩, ⟨"/src/notation-new".toList, .exec, 2, []⟩ ]

/-- Install replaces the left-over directory: the links go, a fresh executable comes, and
nothing outside `<root>/<name>` is touched -/
example : run { op := .install, root := "/a/p".toList, name := "new".toList, src := "/src/notation-new".toList, overwrite := false, trusted := true, cwd := [], path := [], peers := [], history := [], fs := leftoverFS } =
    { err := false, executed := ["/src/notation-new".toList],
      changed := ["/a/p/new/LICENSE".toList, "/a/p/new/notation-new".toList], listed := [], chmod := [] } := by
  simp only [leftoverFS, toList_lit]
  decide +kernel

/-- `Holds` is false of an Install that wrote through the dangling link -/
example : Holds { op := .install, root := "/a/p".toList, name := "new".toList, src := "/src/notation-new".toList, overwrite := false, trusted := true, cwd := [], path := [], peers := [], history := [], fs := leftoverFS }
    { err := false, executed := ["/src/notation-new".toList], changed := ["/outside/ghost1".toList], listed := [], chmod := [] } = false := by
  simp only [leftoverFS, toList_lit]
  decide +kernel

/-- a download area outside the root, and the plugin `new` with neighbours whose names derive from it -/
def historyFS : List Node :=
  [ ⟨"/a".toList, .dir, 0, []⟩, ⟨"/a/p".toList, .dir, 0, []⟩,
    ⟨"/a/p/new".toList, .dir, 0, []⟩, ⟨"/a/p/new/notation-new".toList, .exec, 1, []⟩,
    ⟨"/a/p/new.removing".toList, .dir, 0, []⟩, ⟨"/a/p/new.removing/notation-new.removing".toList, .exec, 4, []⟩,
    ⟨"/dl".toList, .dir, 0, []⟩, ⟨"/dl/notation-new".toList, .exec, 2, []⟩ ]

/-- install, then the download is replaced, then Get on the same manager: what runs is the installed copy -/
example : run { op := .get, root := "/a/p".toList, name := "new".toList, src := "/dl/notation-new".toList, overwrite := false, trusted := true, cwd := [], path := [], peers := [], history := [.install, .touchSrc], fs := historyFS } =
    { err := false, executed := ["/a/p/new/notation-new".toList], changed := [], listed := [], chmod := [] } := by
  simp only [historyFS, toList_lit]
  decide +kernel

/-- `Holds` is false of a manager that hands out the plugin object built from the download -/
example : Holds { op := .get, root := "/a/p".toList, name := "new".toList, src := "/dl/notation-new".toList, overwrite := false, trusted := true, cwd := [], path := [], peers := [], history := [.install, .touchSrc], fs := historyFS }
    { err := false, executed := ["/dl/notation-new".toList], changed := [], listed := [], chmod := [] } = false := by
  simp only [historyFS, toList_lit]
  decide +kernel

/-- install - uninstall - get: the plugin is gone -/
example : run { op := .get, root := "/a/p".toList, name := "new".toList, src := "/dl/notation-new".toList, overwrite := false, trusted := true, cwd := [], path := [], peers := [], history := [.install, .uninstall], fs := historyFS } = errObs := by
  simp only [historyFS, toList_lit]
  decide +kernel

/-- uninstall leaves the neighbour `new.removing` alone; `Holds` is false of one that does not -/
example : run { op := .uninstall, root := "/a/p".toList, name := "new".toList, src := [], overwrite := false, trusted := true, cwd := [], path := [], peers := [], history := [], fs := historyFS } =
    { err := false, executed := [], changed := ["/a/p/new".toList, "/a/p/new/notation-new".toList], listed := [], chmod := [] } := by
  simp only [historyFS, toList_lit]
  decide +kernel
example : Holds { op := .uninstall, root := "/a/p".toList, name := "new".toList, src := [], overwrite := false, trusted := true, cwd := [], path := [], peers := [], history := [], fs := historyFS }
    { err := false, executed := [],
      changed := ["/a/p/new".toList, "/a/p/new.removing".toList, "/a/p/new.removing/notation-new.removing".toList, "/a/p/new/notation-new".toList],
      listed := [], chmod := [] } = false := by
  simp only [historyFS, toList_lit]
  decide +kernel

/-- a relative plugin root, the process working in `/h/u/w`, and an executable `notation-tool` on the PATH -/
def envFS : List Node :=
  [ ⟨"/h".toList, .dir, 0, []⟩, ⟨"/h/u".toList, .dir, 0, []⟩, ⟨"/h/u/w".toList, .dir, 0, []⟩,
    ⟨"/h/lib".toList, .dir, 0, []⟩, ⟨"/h/lib/plugins".toList, .dir, 0, []⟩, ⟨"/h/lib/plugins/new".toList, .dir, 0, []⟩,
    ⟨"/h/lib/plugins/new/notation-new".toList, .exec, 1, []⟩,
    ⟨"/h/lib/lib/plugins/new/notation-new".toList, .exec, 9, []⟩,
    ⟨"/opt/pbin".toList, .dir, 0, []⟩, ⟨"/opt/pbin/notation-tool".toList, .exec, 5, []⟩ ]

/-- with root `../../lib/plugins` what runs is `<cwd>/../../lib/plugins/new/notation-new` -/
example : run { op := .get, root := "../../lib/plugins".toList, name := "new".toList, src := [], overwrite := false, trusted := true, cwd := "/h/u/w".toList, path := [], peers := [], history := [], fs := envFS } =
    { err := false, executed := ["/h/lib/plugins/new/notation-new".toList], changed := [], listed := [], chmod := [] } := by
  simp only [envFS, toList_lit]
  decide +kernel

/-- ... `Holds` is false when the relative path is resolved once more from the plugin's directory -/
example : Holds { op := .get, root := "../../lib/plugins".toList, name := "new".toList, src := [], overwrite := false, trusted := true, cwd := "/h/u/w".toList, path := [], peers := [], history := [], fs := envFS }
    { err := false, executed := ["/h/lib/lib/plugins/new/notation-new".toList], changed := [], listed := [], chmod := [] } = false := by
  simp only [envFS, toList_lit]
  decide +kernel

/-- a plugin that is not installed is not found, whatever the PATH holds; `Holds` is false of a lookup on the PATH -/
example : run { op := .verify, root := "/h/lib/plugins".toList, name := "tool".toList, src := [], overwrite := false, trusted := true, cwd := [], path := ["/opt/pbin".toList], peers := [], history := [], fs := envFS } =
    errObs := by
  simp only [envFS, toList_lit]
  decide +kernel
example : Holds { op := .verify, root := "/h/lib/plugins".toList, name := "tool".toList, src := [], overwrite := false, trusted := true, cwd := [], path := ["/opt/pbin".toList], peers := [], history := [], fs := envFS }
    { err := false, executed := ["/opt/pbin/notation-tool".toList], changed := [], listed := [], chmod := [] } = false := by
  simp only [envFS, toList_lit]
  decide +kernel

/-- the configured plugin root `/cfg/plugins` is a symbolic link to `/vol/x/plugins`; `/cfg/chain` leads
there through a second link, `/cfg/notation` is a linked ancestor -/
def linkedFS : List Node :=
  [ ⟨"/cfg".toList, .dir, 0, []⟩, ⟨"/cfg/plugins".toList, .symdir, 0, "/vol/x/plugins".toList⟩,
    ⟨"/cfg/chain".toList, .symdir, 0, "/cfg/plugins".toList⟩, ⟨"/cfg/notation".toList, .symdir, 0, "/vol/x".toList⟩,
    ⟨"/cfg/victim".toList, .dir, 0, []⟩,
    ⟨"/vol".toList, .dir, 0, []⟩, ⟨"/vol/x".toList, .dir, 0, []⟩, ⟨"/vol/x/plugins".toList, .dir, 0, []⟩,
    ⟨"/vol/x/plugins/alpha".toList, .dir, 0, []⟩, ⟨"/vol/x/plugins/alpha/notation-alpha".toList, .exec, 1, []⟩,
    ⟨"/vol/x/plugins/beta".toList, .dir, 0, []⟩, ⟨"/vol/x/plugins/linked".toList, .symdir, 0, "/outside/dir".toList⟩,
    ⟨"/vol/x/plugins/README".toList, .file, 1, []⟩,
    ⟨"/outside".toList, .dir, 0, []⟩, ⟨"/outside/dir".toList, .dir, 0, []⟩,
    ⟨"/dl".toList, .dir, 0, []⟩, ⟨"/dl/notation-new".toList, .exec, 2, []⟩ ]

example : physRoot linkedFS "/cfg/plugins/".toList = "/vol/x/plugins".toList ∧
    physRoot linkedFS "/cfg/chain".toList = "/vol/x/plugins".toList ∧
    physRoot linkedFS "/cfg/notation/plugins".toList = "/vol/x/plugins".toList ∧
    physRoot linkedFS "/vol/x/plugins/".toList = "/vol/x/plugins/".toList := by
  simp only [linkedFS, toList_lit]
  decide +kernel

/-- the listing through the linked root: the real sub-directories of the directory it leads to -/
example : run { op := .list, root := "/cfg/plugins".toList, name := [], src := [], overwrite := false, trusted := true, cwd := [], path := [], peers := [], history := [], fs := linkedFS } =
    { err := false, executed := [], changed := [], listed := ["alpha".toList, "beta".toList], chmod := [] } := by
  simp only [linkedFS, toList_lit]
  decide +kernel

/-- `Holds` is false of a listing that does not enter a root which is a link -/
example : Holds { op := .list, root := "/cfg/plugins".toList, name := [], src := [], overwrite := false, trusted := true, cwd := [], path := [], peers := [], history := [], fs := linkedFS }
    { err := false, executed := [], changed := [], listed := [], chmod := [] } = false := by
  simp only [linkedFS, toList_lit]
  decide +kernel

/-- through the link: lookup runs the plugin of the physical root, install and uninstall work in it -/
example : run { op := .get, root := "/cfg/chain".toList, name := "alpha".toList, src := [], overwrite := false, trusted := true, cwd := [], path := [], peers := [], history := [], fs := linkedFS } =
    { err := false, executed := ["/vol/x/plugins/alpha/notation-alpha".toList], changed := [], listed := [], chmod := [] } := by
  simp only [linkedFS, toList_lit]
  decide +kernel
example : run { op := .install, root := "/cfg/notation/plugins".toList, name := "new".toList, src := "/dl/notation-new".toList, overwrite := false, trusted := true, cwd := [], path := [], peers := [], history := [], fs := linkedFS } =
    { err := false, executed := ["/dl/notation-new".toList],
      changed := ["/vol/x/plugins/new".toList, "/vol/x/plugins/new/notation-new".toList], listed := [], chmod := [] } := by
  simp only [linkedFS, toList_lit]
  decide +kernel

/-- `Holds` is false of an uninstall that also removed the link the root is reached through, and of a
lookup that refuses an installed plugin because its resolved path "leaves" the configured root -/
example : Holds { op := .uninstall, root := "/cfg/plugins".toList, name := "alpha".toList, src := [], overwrite := false, trusted := true, cwd := [], path := [], peers := [], history := [], fs := linkedFS }
    { err := false, executed := [], changed := ["/cfg/plugins".toList, "/vol/x/plugins/alpha".toList, "/vol/x/plugins/alpha/notation-alpha".toList], listed := [], chmod := [] } = false := by
  simp only [linkedFS, toList_lit]
  decide +kernel
example : Holds { op := .get, root := "/cfg/plugins".toList, name := "alpha".toList, src := [], overwrite := false, trusted := true, cwd := [], path := [], peers := [], history := [], fs := linkedFS }
    errObs = false := by
  simp only [linkedFS, toList_lit]
  decide +kernel

/-- `Holds` is false of the unguarded behaviour: the victim directory removed ... -/
example : Holds { op := .uninstall, root := "/a/p".toList, name := "../victim".toList, src := [], overwrite := false, trusted := true, cwd := [], path := [], peers := [], history := [], fs := sampleFS }
    { err := false, executed := [], changed := ["/a/victim".toList, "/a/victim/notation-victim".toList], listed := [], chmod := [] } = false := by
  simp only [sampleFS, toList_lit]
  decide +kernel

/-- end to end: the plugin named by the signature runs although the signer is not trusted -/
example : run { op := .verify, root := "/a/p".toList, name := "good".toList, src := [], overwrite := false, trusted := false, cwd := [], path := [], peers := [], history := [], fs := sampleFS } =
    { err := true, executed := ["/a/p/good/notation-good".toList], changed := [], listed := [], chmod := [] } := by
  simp only [sampleFS, toList_lit]
  decide +kernel

/-- ... a sentinel outside the root executed ... -/
example : Holds { op := .verify, root := "/a/p".toList, name := "../victim".toList, src := [], overwrite := false, trusted := false, cwd := [], path := [], peers := [], history := [], fs := sampleFS }
    { err := true, executed := ["/a/victim/notation-victim".toList], changed := [], listed := [], chmod := [] } = false := by
  simp only [sampleFS, toList_lit]
  decide +kernel

/-- ... or a hostile name merely accepted without an error -/
example : Holds { op := .get, root := "/a/p".toList, name := "good/../good".toList, src := [], overwrite := false, trusted := true, cwd := [], path := [], peers := [], history := [], fs := sampleFS }
    { err := false, executed := [], changed := [], listed := [], chmod := [] } = false := by
  simp only [sampleFS, toList_lit]
  decide +kernel

/-- a directory source whose only candidate lacks the execute permission -/
def nonexecFS : List Node :=
  [ ⟨"/a".toList, .dir, 0, []⟩, ⟨"/a/p".toList, .dir, 0, []⟩,
    ⟨"/srcdir".toList, .dir, 0, []⟩, ⟨"/srcdir/notation-..".toList, .file, 2, []⟩,
    ⟨"/srcx".toList, .dir, 0, []⟩, ⟨"/srcx/notation-x".toList, .file, 2, []⟩ ]

/-- an accepted name: the candidate is made executable (and then cannot be run: it is a data file) -/
example : run { op := .install, root := "/a/p".toList, name := "x".toList, src := "/srcx".toList, overwrite := false, trusted := true, cwd := [], path := [], peers := [], history := [], fs := nonexecFS } =
    { err := true, executed := [], changed := [], listed := [], chmod := ["/srcx/notation-x".toList] } := by
  simp only [nonexecFS, toList_lit]
  decide +kernel

/-- a refused name: not even a permission changes -/
example : run { op := .install, root := "/a/p".toList, name := "..".toList, src := "/srcdir".toList, overwrite := false, trusted := true, cwd := [], path := [], peers := [], history := [], fs := nonexecFS } =
    errObs := by
  simp only [nonexecFS, toList_lit]
  decide +kernel

/-- `Holds` is false of an Install that made `notation-..` executable before refusing the name -/
example : Holds { op := .install, root := "/a/p".toList, name := "..".toList, src := "/srcdir".toList, overwrite := false, trusted := true, cwd := [], path := [], peers := [], history := [], fs := nonexecFS }
    { err := true, executed := [], changed := [], listed := [], chmod := ["/srcdir/notation-..".toList] } = false := by
  simp only [nonexecFS, toList_lit]
  decide +kernel

/-- and of a listing that reports a symbolic link -/
example : Holds { op := .list, root := "/a/p".toList, name := [], src := [], overwrite := false, trusted := true, cwd := [], path := [], peers := [], history := [], fs := sampleFS }
    { err := false, executed := [], changed := [], listed := ["good".toList, "lnk".toList], chmod := [] } = false := by
  simp only [sampleFS, toList_lit]
  decide +kernel

/-! ### tie to the translated source -/

namespace Tie
open NotationModel.Src

theorem validName_eq_not (n : Text) :
    validName n = !(n == [] || n == dot || n == dotdot || n.any fun c => ['/', '\\', '\x00'].contains c) := by
  rw [Bool.eq_iff_iff, validName_iff]
  simp [not_or, and_assoc]

set_option linter.unusedSimpArgs false in
/-- The translated `validatePluginName`, as one equation. The `BEq.comm` rewrites are there for a source that
writes a comparison the other way round (`"" == name`); with the present text they find nothing to do, hence
the linter option. -/
theorem source_validatePluginName_eq (s : String) :
    plugin.validatePluginName s = if validName s.toList then none else some ⟨"error"⟩ := by
  have e2 : ".".toList = dot := by decide
  have e3 : "..".toList = dotdot := by decide
  have e4 : "/\\\x00".toList = ['/', '\\', '\x00'] := by decide
  unfold plugin.validatePluginName
  simp only [Id.run, GoLite.containsAny, ← beq_toList, String.toList_empty, e2, e3, e4, validName_eq_not,
    BEq.comm (a := ([] : Text)), BEq.comm (a := dot), BEq.comm (a := dotdot)]
  split
  · next h => simp only [h, Bool.not_true, Bool.false_eq_true, if_false]; rfl
  · next h => simp only [Bool.not_eq_true] at h; simp only [h, Bool.not_false, if_true]; rfl

/-- the Lean translation of `plugin.validatePluginName`, regenerated from
plugin/manager.go on every run (`Generated/SrcC16.lean`), accepts - for EVERY string - exactly the
names the model's `validName` accepts. -/
theorem source_validatePluginName_refines_model (s : String) :
    (plugin.validatePluginName s).isNone = validName s.toList := by
  rw [source_validatePluginName_eq]
  cases validName s.toList <;> rfl

/-- the error it returns is a plain `fmt.Errorf` error -/
theorem source_validatePluginName_error (s : String) (h : validName s.toList = false) :
    plugin.validatePluginName s = some ⟨"error"⟩ := by
  rw [source_validatePluginName_eq, h]
  rfl

theorem source_binName_refines_model (s : String) :
    (plugin.binName s).toList = binName s.toList := by
  unfold plugin.binName
  simp [Id.run, GoLite.add_toList, plugin.BinaryPrefix, binName, pure]

theorem source_parsePluginName_refines_model (f : String) :
    plugin.parsePluginName f =
      match parsePluginName f.toList with
      | some r => (String.ofList r, none)
      | none => ("", some ⟨"error"⟩) := by
  unfold plugin.parsePluginName parsePluginName
  simp only [Id.run, GoLite.cutPrefix, GoLite.hasPrefix, plugin.BinaryPrefix, ← beq_toList, String.toList_ofList,
    String.toList_empty]
  by_cases hp : Facts.c16BinaryPrefix.isPrefixOf f.toList = true
  · simp only [hp, if_true, String.toList_ofList, Bool.not_true, Bool.false_or]
    cases List.drop Facts.c16BinaryPrefix.length f.toList <;> rfl
  · simp only [hp]
    rfl

/-- the translated `CLIManager.Get` - for EVERY manager value, every behaviour of the oracles
(`SysPath`, `path.Join`, `NewCLIPlugin` = stat + regular-file test) and every name: a name the
model refuses is answered with an error before any oracle is consulted (the result does not depend
on them); an accepted name is joined with `binName(name)`, handed to `SysPath`, and the resulting
path is what `NewCLIPlugin` gets. -/
theorem source_Get_refines_model (m : plugin.CLIManager) (w : plugin.World) (name : String) :
    plugin.CLIManager.Get m w () name =
      if validName name.toList then
        let p := m.pluginFS.SysPath (w.pathJoin name (plugin.binName name))
        if p.2.isSome then (none, p.2) else w.NewCLIPlugin () name p.1
      else (none, some ⟨"error"⟩) := by
  unfold plugin.CLIManager.Get
  simp only [Id.run, source_validatePluginName_eq]
  cases validName name.toList <;> rfl

/-- the translated `CLIManager.Uninstall`: refused names first, then `SysPath(name)`, then
`os.Stat` of that path, then `os.RemoveAll` of that same path - for every behaviour of the oracles. -/
theorem source_Uninstall_refines_model (m : plugin.CLIManager) (w : plugin.World) (name : String) :
    plugin.CLIManager.Uninstall m w () name =
      if validName name.toList then
        let p := m.pluginFS.SysPath name
        if p.2.isSome then p.2
        else if (w.Stat p.1).2.isSome then (w.Stat p.1).2
        else w.RemoveAll p.1
      else some ⟨"error"⟩ := by
  unfold plugin.CLIManager.Uninstall
  simp only [Id.run, source_validatePluginName_eq]
  cases validName name.toList <;> rfl

/-- the oracles as the model has them: `SysPath` and `path.Join` are the lexical functions of
`Model/C16.lean`, `NewCLIPlugin` / `os.Stat` look the path up in the abstract world -/
def modelMgr (root : Text) : plugin.CLIManager :=
  { pluginFS := { SysPath := fun p => (String.ofList (sysPath root [p.toList]), none) } }

def modelWorld (fs : List Node) : plugin.World :=
  { pathJoin := fun a b => String.ofList (join [a.toList, b.toList]),
    NewCLIPlugin := fun _ nm p =>
      match lookup fs p.toList with
      | none => (none, some ⟨"error"⟩)
      | some n =>
        if n.kind = .symnone then (none, some ⟨"error"⟩)
        else if n.kind.statRegular then (some ⟨nm, p⟩, none) else (none, some ⟨"ErrNotRegularFile"⟩),
    Stat := fun p =>
      match lookup fs p.toList with
      | none => ((), some ⟨"error"⟩)
      | some n => if n.kind = .symnone then ((), some ⟨"error"⟩) else ((), none),
    RemoveAll := fun _ => none }

/-- with the model's lexical oracles the translated `Get` succeeds exactly when
the model's `mgrGet` does, and the plugin it returns has the model's executable path
`exePath root name` (= `<root>/<name>/notation-<name>` by `comps_exePath`). -/
theorem source_Get_same_path_as_model (root : Text) (fs : List Node) (name : String) :
    (plugin.CLIManager.Get (modelMgr root) (modelWorld fs) () name).1.map (fun p => p.path.toList) =
      match mgrGet fs root name.toList with
      | .ok _ => some (exePath root name.toList)
      | .error _ => none := by
  rw [source_Get_refines_model]
  cases hv : validName name.toList with
  | false => rw [mgrGet_invalid hv]; rfl
  | true =>
    rw [mgrGet_valid hv]
    simp only [modelMgr, modelWorld, exePath, source_binName_refines_model, String.toList_ofList, if_true,
      Option.isSome_none, Bool.false_eq_true, if_false]
    cases lookup fs (sysPath root [join [name.toList, binName name.toList]]) with
    | none => rfl
    | some n =>
      by_cases h1 : n.kind = .symnone
      · simp only [h1, if_true]
        rfl
      · by_cases h2 : n.kind.statRegular = true
        · simp only [h1, h2, if_true, if_false, Option.map, String.toList_ofList]
        · simp only [h1, h2, if_false]
          rfl

/-- with the model's lexical oracles the translated `Uninstall` returns an error exactly when the model's
`runUninstall` does -/
theorem source_Uninstall_same_decision_as_model (i : Input) (name : String) (h : i.name = name.toList) :
    (plugin.CLIManager.Uninstall (modelMgr i.root) (modelWorld i.fs) () name).isSome = (runUninstall i).err := by
  obtain ⟨_, g2, _⟩ := facts_guards
  rw [source_Uninstall_refines_model, runUninstall, g2, h]
  cases hv : validName name.toList with
  | false => rfl
  | true =>
    simp only [modelMgr, modelWorld, dirPath, String.toList_ofList, if_true, Option.isSome_none, Bool.false_eq_true,
      if_false, Bool.not_true, Bool.and_false]
    cases lookup i.fs (sysPath i.root [name.toList]) with
    | none => rfl
    | some n =>
      by_cases h1 : n.kind = .symnone
      · simp only [h1, if_true]
        rfl
      · simp only [h1, if_false]
        rfl

/-- (marker: a failure reported under this name is a failure of one of the `example`s below) -/
theorem nonvacuity_examples_follow : True := trivial

/-- non-vacuity: the translated functions run -/
example : plugin.validatePluginName "../victim" = some ⟨"error"⟩ ∧ plugin.validatePluginName "my.plugin" = none ∧
    plugin.validatePluginName ".." = some ⟨"error"⟩ ∧ plugin.validatePluginName "a\\b" = some ⟨"error"⟩ := by decide +kernel
example : plugin.parsePluginName "notation-.." = ("..", none) ∧ (plugin.parsePluginName "notation-").2.isSome = true ∧
    plugin.binName "x" = "notation-x" := by decide +kernel
example : (plugin.CLIManager.Get (modelMgr "/a/p".toList) (modelWorld sampleFS) () "good").1 =
    some ⟨"good", "/a/p/good/notation-good"⟩ := by
  simp only [sampleFS, toList_lit]
  decide +kernel
example : plugin.CLIManager.Get (modelMgr "/a/p".toList) (modelWorld sampleFS) () "../victim" = (none, some ⟨"error"⟩) := by
  simp only [sampleFS, toList_lit]
  decide +kernel
example : plugin.CLIManager.Uninstall (modelMgr "/a/p".toList) (modelWorld sampleFS) () "../victim" = some ⟨"error"⟩ ∧
    plugin.CLIManager.Uninstall (modelMgr "/a/p".toList) (modelWorld sampleFS) () "good" = none := by
  simp only [sampleFS, toList_lit]
  decide +kernel

end Tie
end NotationModel.C16
