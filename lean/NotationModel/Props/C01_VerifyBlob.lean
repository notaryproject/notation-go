/-
C01 (picked up by `check` as `Props/C01_*.lean`): the tie of the translated
`(*verifier).VerifyBlob` (verifier/verifier.go, `Generated/SrcVerifyBlobV.lean`, regenerated on every run),
as a WHOLE, to the model's `core` for the blob entry point. Oracles (`Src/TypesVerifyBlob.lean`): the two
statement lookups of the blob policy document (global when no name is given, else by name),
`processSignature` (tied on its own in Props/C02_Process.lean), `json.Unmarshal` of the payload, the
caller's descriptor generator; `verifyUserMetadata`, `GetVerificationLevel` and the table `algorithms`
(hash of the signature algorithm -> digest algorithm) are the translated ones.
-/
import NotationModel.Props.C01_Verify
import NotationModel.Generated.SrcVerifyBlobV


namespace NotationModel.C01.TieB
open NotationModel.Src NotationModel.Src.verifier NotationModel.Src.verifier.blob
open NotationModel.C01.Tie (descOfD descOf source_verifyUserMetadata_isSome)

/-- the outcome `VerifyBlob` creates before anything is looked at -/
def outcome0 (signature : Src.«notation».SigBlob) (lvl : Option Src.trustpolicy.VerificationLevel) : blob.«notation».VerificationOutcome :=
  { (default : blob.«notation».VerificationOutcome) with RawSignature := signature, VerificationLevel := lvl }

/-- the statement lookup `VerifyBlob` makes: the global statement when no name is given, else the named one -/
def lookupB (d : DocB) (opts : OptsB) : Option blob.trustpolicy.BlobTrustPolicy × Option GoLite.Err :=
  if opts.TrustPolicyName == "" then d.GetGlobalTrustPolicy else d.GetApplicableTrustPolicy opts.TrustPolicyName

/-- the scenario of the model that a call of `VerifyBlob` under an applicable statement amounts to. The descriptor under
verification is the one the caller's generator yields for the digest algorithm bound to the signature algorithm;
`hashSupported` is false when there is no such digest algorithm OR the generator fails (the model rejects both alike,
with the outcome's error set) -/
def toInputB (env : EnvB) (gen : digest.Algorithm → ocispec.Descriptor × Option GoLite.Err)
    (signature : Src.«notation».SigBlob) (opts : OptsB) (tp : blob.trustpolicy.BlobTrustPolicy) : Input :=
  let lvl := (Src.trustpolicy.GetVerificationLevel tp.SignatureVerification).1
  let ps := env.processSignature signature opts.SignatureMediaType tp.Name tp.TrustedIdentities tp.TrustStores
    tp.SignatureVerification opts.PluginConfig (outcome0 signature lvl)
  let um := env.unmarshal ps.2.EnvelopeContent.Payload.Content default
  let lk := GoLite.Map.lookup verifier.algorithms ps.2.EnvelopeContent.SignerInfo.SignatureAlgorithm.Hash
  let g := gen lk.1
  { kind := .blob, skip := reflect.DeepEqual lvl Src.trustpolicy.LevelSkip,
    parseOk := true, integrityOk := true, payloadTypeOk := true, rest := ps.1.isNone,
    decoded := if um.1.isNone then some (descOf um.2) else none,
    artifact := descOfD g.1, hashSupported := lk.2 && g.2.isNone, required := opts.UserMetadata,
    reader := "", viaRegistry := false, refDigest := none, resolveOk := true, refForm := "", plugin := false,
    blobLen := 0, boundary := 0 }

/-- what the tie compares: was an error returned, and does the returned outcome carry one -/
def viewB (r : Option blob.«notation».VerificationOutcome × Option GoLite.Err) : Bool × Option Bool :=
  (r.2.isNone, r.1.map (fun o => o.Error.isSome))

theorem defaultOutcomeError : (default : blob.«notation».VerificationOutcome).Error = none := rfl

/-- the translator's `{ default with .. }` arrives as the explicit record: fold it, to meet `toInputB` -/
theorem outcome0_eq (s : Src.«notation».SigBlob) (l : Option Src.trustpolicy.VerificationLevel) :
    ({ RawSignature := s, VerificationLevel := l,
       EnvelopeContent := (default : blob.«notation».VerificationOutcome).EnvelopeContent,
       Error := (default : blob.«notation».VerificationOutcome).Error } : blob.«notation».VerificationOutcome) = outcome0 s l := rfl

set_option linter.unusedSimpArgs false in
/-- `VerifyBlob` reads its policy document only through the one lookup it makes -/
theorem VerifyBlob_lookup (env : EnvB) (d : DocB) (gen : digest.Algorithm → ocispec.Descriptor × Option GoLite.Err)
    (signature : Src.«notation».SigBlob) (opts : OptsB) :
    VerifyBlob env ⟨some d⟩ gen signature opts =
      VerifyBlob env ⟨some ⟨lookupB d opts, fun _ => lookupB d opts⟩⟩ gen signature opts := by
  unfold VerifyBlob lookupB
  generalize opts.TrustPolicyName = n
  by_cases hn : n = ""
  · subst hn; rfl
  · -- the test on the name, whichever way round the source writes it
    have h1 : (n == "") = false := by simpa using hn
    have h2 : ("" == n) = false := by simpa using fun h : "" = n => hn h.symm
    simp only [bne, h1, h2, Bool.not_false, Bool.false_eq_true, if_true, if_false]
    rfl

/-- TIE (translated source): `(*verifier).VerifyBlob` as a whole. Without a blob policy document, or when the lookup it
makes (the GLOBAL statement for an empty name, else the statement of that name - `lookupB`) fails, it returns an error
and no outcome; otherwise, for EVERY behaviour of `processSignature`, every decoding of the payload, every signature
algorithm, every descriptor generator and every required-metadata map, it returns no error exactly when the model's
`core` accepts the scenario, and the outcome it returns carries an error exactly when the model says so.
`hPtr`: a lookup that reports no error hands back a statement (Go would dereference nil otherwise); the proof does not
use it, `GoLite.deref` totalises that case on both sides. -/
theorem source_VerifyBlobWhole_refines_model (env : EnvB) (v : VerifierB)
    (gen : digest.Algorithm → ocispec.Descriptor × Option GoLite.Err)
    (signature : Src.«notation».SigBlob) (opts : OptsB)
    (hErr : ∀ a b c d e f g o, (env.processSignature a b c d e f g o).2.Error = o.Error)
    (hPtr : ∀ d, v.blobTrustPolicyDoc = some d → (lookupB d opts).2 = none → (lookupB d opts).1.isSome = true) :
    match v.blobTrustPolicyDoc with
    | none => viewB (VerifyBlob env v gen signature opts) = (false, none)
    | some d =>
      if (lookupB d opts).2.isSome then
        viewB (VerifyBlob env v gen signature opts) = (false, none)
      else
        viewB (VerifyBlob env v gen signature opts) =
          ((core (toInputB env gen signature opts (GoLite.deref (lookupB d opts).1))).accepted,
           (core (toInputB env gen signature opts (GoLite.deref (lookupB d opts).1))).outcomeError) := by
  obtain ⟨doc⟩ := v
  cases doc with
  | none => simp [VerifyBlob, viewB, GoLite.idPure, Id.run]
  | some d =>
    dsimp only
    rw [VerifyBlob_lookup]
    generalize lookupB d opts = q
    unfold VerifyBlob
    simp only [Id.run, Option.isNone_some, Bool.false_eq_true, if_false, GoLite.deref, Option.getD_some]
    by_cases hp : q.2.isSome = true
    · simp [hp, viewB, GoLite.idPure]
    · simp only [hp, Bool.false_eq_true, if_false, outcome0_eq]
      by_cases hs : reflect.DeepEqual (Src.trustpolicy.GetVerificationLevel (q.1.getD default).SignatureVerification).1 Src.trustpolicy.LevelSkip = true
      · rw [core_skip _ (by simpa [toInputB] using hs)]
        simp [hs, viewB, GoLite.idPure, outcome0, defaultOutcomeError]
      · simp only [hs, Bool.false_eq_true, if_false]
        have hs' : (toInputB env gen signature opts (q.1.getD default)).skip = false := by simpa [toInputB] using hs
        cases hps : env.processSignature signature opts.SignatureMediaType (q.1.getD default).Name (q.1.getD default).TrustedIdentities (q.1.getD default).TrustStores
          (q.1.getD default).SignatureVerification opts.PluginConfig
          (outcome0 signature (Src.trustpolicy.GetVerificationLevel (q.1.getD default).SignatureVerification).1) with
        | mk pe o1 =>
          simp only [hps]
          cases pe with
          | some e =>
            simp [viewB, GoLite.idPure, core, toInputB, hps, hs, reject]
          | none =>
            simp only [Option.isSome_none, Bool.false_eq_true, if_false]
            cases hum : env.unmarshal o1.EnvelopeContent.Payload.Content default with
            | mk ue pl =>
              simp only [hum]
              cases ue with
              | some e =>
                simp [viewB, GoLite.idPure, core, toInputB, hps, hum, hs, reject]
              | none =>
                simp only [Option.isSome_none, Bool.false_eq_true, if_false]
                cases hlk : GoLite.Map.lookup verifier.algorithms o1.EnvelopeContent.SignerInfo.SignatureAlgorithm.Hash with
                | mk da ok =>
                  dsimp only
                  cases hg : gen da with
                  | mk desc gerr =>
                    dsimp only
                    cases ok
                    · -- no digest algorithm, or (next) a failing generator: the model's `hashSupported = false`
                      simp [viewB, GoLite.idPure, core, toInputB, hps, hum, hlk, hs, reject, GoLite.errorf]
                    cases gerr with
                    | some e =>
                      simp [viewB, GoLite.idPure, core, toInputB, hps, hum, hlk, hg, hs, reject, GoLite.errorf]
                    | none =>
                      simp only [Bool.not_true, Option.isSome_none, Bool.false_eq_true, if_false]
                      -- the model is left with its late checks, the function with its late writes of `outcome.Error`
                      rw [core_decoded _ (descOf pl) hs' rfl rfl rfl (by simp [toInputB, hps])
                        (by simp [toInputB, hps, hum]) (by simp [toInputB, hps, hlk, hg])]
                      have ho1 : o1.Error = none := by
                        simpa [hErr, outcome0, defaultOutcomeError] using (congrArg (·.2.Error) hps).symm
                      have h3' := source_verifyUserMetadata_isSome pl opts.UserMetadata
                      have hbm : (desc.Digest != pl.TargetArtifact.Digest || desc.Size != pl.TargetArtifact.Size ||
                          desc.MediaType != "" && desc.MediaType != pl.TargetArtifact.MediaType) =
                            blobMismatch (descOf pl) (descOfD desc) := rfl
                      simp only [GoLite.len_pos, hbm]
                      by_cases h1 : blobMismatch (descOf pl) (descOfD desc) = true <;>
                      by_cases h2 : opts.UserMetadata.isEmpty = true <;>
                      by_cases h3 : metadataOk (descOf pl) opts.UserMetadata = true <;>
                      simp [h1, h2, h3, h3', ho1, viewB, GoLite.idPure, lateError, okObs, reject, toInputB, hps, hlk, hg, GoLite.errorf]

/-! non-vacuity: the translated `VerifyBlob` on concrete oracles -/
section Examples
def tpB : blob.trustpolicy.BlobTrustPolicy := ⟨"p", ["*"], ["ca:s"], ⟨"strict", []⟩⟩
def tpG : blob.trustpolicy.BlobTrustPolicy := ⟨"g", ["*"], ["ca:s"], ⟨"audit", []⟩⟩
def docB : DocB :=
  ⟨(some tpG, none), fun n => if n == "p" then (some tpB, none) else (none, some ⟨"no such statement"⟩)⟩
def vB : VerifierB := ⟨some docB⟩
def blobDesc : ocispec.Descriptor := { MediaType := "", Digest := "sha384:a", Size := 3, Annotations := [] }
def envB (alg : signature.Algorithm) (signed : ocispec.Descriptor) : EnvB :=
  { processSignature := fun _ _ _ _ _ _ _ o => (none, { o with EnvelopeContent := ⟨⟨"payload"⟩, ⟨alg⟩⟩ }),
    unmarshal := fun _ _ => (none, { TargetArtifact := signed }) }
def genB (a : digest.Algorithm) : ocispec.Descriptor × Option GoLite.Err :=
  if a == digest.SHA384 then (blobDesc, none) else ({ blobDesc with Digest := "sha256:a" }, none)
def optsB (name : String) (um : GoLite.Map String String) : OptsB :=
  { SignatureMediaType := "jws", PluginConfig := [], UserMetadata := um, TrustPolicyName := name }

/-- the blob is hashed with the algorithm bound to the signature algorithm, the signed target is that descriptor: accepted -/
example : (VerifyBlob (envB .AlgorithmES384 blobDesc) vB genB ⟨0⟩ (optsB "p" [])).2.isNone = true := by decide +kernel
/-- the same signature under another signature algorithm: another digest, refused -/
example : (VerifyBlob (envB .AlgorithmES256 blobDesc) vB genB ⟨0⟩ (optsB "p" [])).2.isSome = true := by decide +kernel
/-- no digest algorithm for the signature algorithm: refused, with an outcome whose error is set -/
example : (viewB (VerifyBlob (envB .zero blobDesc) vB genB ⟨0⟩ (optsB "p" []))) = (false, some true) := by decide +kernel
/-- an unknown statement name: an error and no outcome; no name: the global statement is the one looked up -/
example : (viewB (VerifyBlob (envB .AlgorithmES384 blobDesc) vB genB ⟨0⟩ (optsB "q" []))) = (false, none) := by decide +kernel
example : lookupB docB (optsB "" []) = (some tpG, none) := by decide +kernel
/-- a missing required pair is refused although the target is the blob -/
example : (VerifyBlob (envB .AlgorithmES384 blobDesc) vB genB ⟨0⟩ (optsB "p" [("team", "red")])).2.isSome = true := by decide +kernel
end Examples

end NotationModel.C01.TieB
