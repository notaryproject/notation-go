/-
C03 - Trust comes only from the stores the applicable policy names, typed by scheme.
The model is in `Model/C03.lean`; here its theorems (`model_holds` and those DESIGN.md section 5 names), test
vectors, and (in the namespace `Tie`) the ties of the translated helpers.go functions to the model.
-/
import NotationModel.Model.C03
import NotationModel.Generated.SrcC03

namespace NotationModel.C03

/-! ### the extracted facts the model is defined in terms of -/

/-- the three store type constants have the values the property speaks of, `Types` lists exactly
them, and the loading loop cuts at ":". (What the scheme switches map to is proved against their
translation: `Tie.source_loadX509TrustStores_refines_model`, `Tie.source_loadX509TSATrustStores_refines_model`.) -/
theorem facts_pinned :
    Facts.c03Types = [Facts.c03TypeCA, Facts.c03TypeSigningAuthority, Facts.c03TypeTSA] ∧
    Facts.c03TypeCA = ['c', 'a'] ∧
    Facts.c03TypeSigningAuthority = ['s', 'i', 'g', 'n', 'i', 'n', 'g', 'A', 'u', 't', 'h', 'o', 'r', 'i', 't', 'y'] ∧
    Facts.c03TypeTSA = ['t', 's', 'a'] ∧
    Facts.c03Separator = ':' := by decide +kernel

/-- the store type the code loads is the one the property demands -/
theorem storeTypeOf_eq (s : Scheme) : storeTypeOf s = requiredType s := by
  cases s <;> decide +kernel

theorem requiredType_no_sep (s : Scheme) : Facts.c03Separator ∉ requiredType s := by
  cases s <;> decide +kernel

theorem requiredType_ne_tsa (s : Scheme) : requiredType s ≠ Facts.c03TypeTSA := by
  cases s <;> decide +kernel

theorem requiredType_mem_types (s : Scheme) :
    requiredType s ∈ Facts.c03Types ∧ requiredType .x509 ≠ requiredType .signingAuthority := by
  cases s <;> decide +kernel

/-! ### `strings.Cut` -/

/-- the value `t:n` -/
def entry (t n : Text) : Text := t ++ Facts.c03Separator :: n

theorem cut_entry (t n : Text) (h : Facts.c03Separator ∉ t) : cut (entry t n) = some (t, n) := by
  induction t with
  | nil => simp [entry, cut]
  | cons a t ih =>
    have ha : a ≠ Facts.c03Separator := fun x => h (x ▸ List.mem_cons_self)
    have := ih fun x => h (List.mem_cons_of_mem _ x)
    simp only [entry, List.cons_append] at this ⊢
    simp only [cut, ha, if_false, this]

theorem cut_some (e t n : Text) (h : cut e = some (t, n)) : e = entry t n ∧ Facts.c03Separator ∉ t := by
  fun_induction cut e generalizing t with
  | case1 => cases h
  | case2 rest =>
    obtain ⟨rfl, rfl⟩ : [] = t ∧ rest = n := by simpa using h
    exact ⟨rfl, List.not_mem_nil⟩
  | case3 c rest hc hr => cases h
  | case4 c rest hc t0 n0 hr ih =>
    obtain ⟨rfl, rfl⟩ : c :: t0 = t ∧ n0 = n := by simpa using h
    obtain ⟨h1, h2⟩ := ih t0 hr
    exact ⟨by rw [h1]; rfl, by simp [Ne.symm hc, h2]⟩

theorem cut_some_iff (e t n : Text) :
    cut e = some (t, n) ↔ e = entry t n ∧ Facts.c03Separator ∉ t :=
  ⟨cut_some e t n, fun ⟨he, h⟩ => he ▸ cut_entry t n h⟩

theorem cut_inj {e e' : Text} {tn : Text × Text} (h : cut e = some tn) (h' : cut e' = some tn) : e = e' := by
  rw [(cut_some e _ _ h).1, (cut_some e' _ _ h').1]

theorem cut_none_iff (e : Text) : cut e = none ↔ Facts.c03Separator ∉ e := by
  fun_induction cut e with
  | case1 => simp
  | case2 rest => simp
  | case3 c rest hc hr ih => simp [Ne.symm hc, ih.1 hr]
  | case4 c rest hc t n hr ih => simp [Ne.symm hc, ← ih, hr]

theorem cut_isSome_iff (e : Text) : (cut e).isSome = true ↔ Facts.c03Separator ∈ e := by
  rw [← Decidable.not_not (p := Facts.c03Separator ∈ e), ← cut_none_iff]
  cases cut e <;> simp

/-! ### the wanted names -/

theorem mem_wantedNames (want : Text) (l : List Text) (n : Text) :
    n ∈ wantedNames want l ↔ ∃ e ∈ l, cut e = some (want, n) := by
  simp only [wantedNames, List.mem_filterMap]
  refine exists_congr fun e => and_congr_right fun _ => ?_
  rcases cut e with _ | ⟨t, n'⟩
  · simp
  · by_cases ht : want = t <;> simp [ht, eq_comm (a := t)]

theorem mem_wanted_entry (scheme : Scheme) (l : List Text) (n : Text) :
    n ∈ wantedNames (requiredType scheme) l ↔ entry (requiredType scheme) n ∈ l := by
  rw [mem_wantedNames]
  exact ⟨fun ⟨e, he, h⟩ => (cut_some e _ n h).1 ▸ he, fun h => ⟨_, h, cut_entry _ n (requiredType_no_sep scheme)⟩⟩

theorem wantedNames_cons_wanted (want e n : Text) (rest : List Text) (h : cut e = some (want, n)) :
    wantedNames want (e :: rest) = n :: wantedNames want rest := by
  simp [wantedNames, h]

theorem wantedNames_cons_other (want e t n : Text) (rest : List Text) (h : cut e = some (t, n)) (ht : want ≠ t) :
    wantedNames want (e :: rest) = wantedNames want rest := by
  simp [wantedNames, h, ht]

theorem wantedNames_cons_none (want e : Text) (rest : List Text) (h : cut e = none) :
    wantedNames want (e :: rest) = wantedNames want rest := by
  simp [wantedNames, h]

theorem wantedNames_sublist_cons (want e : Text) (rest : List Text) :
    (wantedNames want rest).Sublist (wantedNames want (e :: rest)) := by
  unfold wantedNames
  exact List.Sublist.filterMap _ (List.sublist_cons_self e rest)


theorem all_dropLast_cons {α : Type} (q : α → Prop) (a : α) (l : List α) (ha : q a)
    (hl : ∀ x ∈ l.dropLast, q x) : ∀ x ∈ (a :: l).dropLast, q x := by
  cases l with
  | nil => simp
  | cons b l' =>
    rw [List.dropLast_cons_of_ne_nil (by simp)]
    exact List.forall_mem_cons.2 ⟨ha, hl⟩

theorem getLast?_of_not_mem_dropLast {α : Type} {l : List α} {a : α} (h : a ∈ l) (h' : a ∉ l.dropLast) :
    l.getLast? = some a := by
  have hne : l ≠ [] := List.ne_nil_of_mem h
  rw [← List.dropLast_concat_getLast hne, List.mem_append, List.mem_singleton] at h
  rw [List.getLast?_eq_some_getLast hne, h.resolve_left h']

/-! ### the loop of `loadX509TrustStoresWithType`, for lists of any length

Each fact is proved by the functional induction of `loadLoop`: its six cases are the ways a round can
go (end of list / value processed already / no separator / other type / load fails / load succeeds). -/

theorem loadLoop_calls (w : World) (want : Text) (l p : List Text) :
    ∀ c ∈ (loadLoop w want l p).1, c.ty = want ∧ ∃ e ∈ l, e ∉ p ∧ cut e = some (want, c.name) := by
  fun_induction loadLoop w want l p with
  | case1 | case3 => simp
  | case2 e rest p _ ih | case4 e rest p _ _ _ _ _ ih =>
    intro c hc
    obtain ⟨h, e', h1, h2⟩ := ih c hc
    exact ⟨h, e', List.mem_cons_of_mem _ h1, h2⟩
  | case5 e rest p hp t n hcut ht =>
    obtain rfl : want = t := Decidable.not_not.1 ht
    intro c hc
    obtain rfl := List.mem_singleton.1 hc
    exact ⟨rfl, e, List.mem_cons_self, mt List.contains_iff_mem.2 hp, hcut⟩
  | case6 e rest p hp t n hcut ht cs _ r ih =>
    obtain rfl : want = t := Decidable.not_not.1 ht
    intro c hc
    rcases List.mem_cons.1 hc with rfl | hc
    · exact ⟨rfl, e, List.mem_cons_self, mt List.contains_iff_mem.2 hp, hcut⟩
    · obtain ⟨h, e', h1, h2, h3⟩ := ih c hc
      exact ⟨h, e', List.mem_cons_of_mem _ h1, fun hm => h2 (List.mem_cons_of_mem _ hm), h3⟩

/-- no store is loaded twice: a later call is for a value other than the one just processed -/
theorem loadLoop_nodup (w : World) (want : Text) (l p : List Text) :
    ((loadLoop w want l p).1.map (·.name)).Nodup := by
  fun_induction loadLoop w want l p with
  | case1 | case3 | case5 => simp
  | case2 _ _ _ _ ih | case4 _ _ _ _ _ _ _ _ ih => exact ih
  | case6 e rest p hp t n hcut ht cs _ r ih =>
    obtain rfl : want = t := Decidable.not_not.1 ht
    refine List.nodup_cons.2 ⟨fun hmem => ?_, ih⟩
    obtain ⟨c, hc, rfl⟩ := List.mem_map.1 hmem
    obtain ⟨_, e', _, h2, h3⟩ := loadLoop_calls w want rest (e :: p) c hc
    exact h2 (cut_inj h3 hcut ▸ List.mem_cons_self)

theorem loadLoop_sublist (w : World) (want : Text) (l p : List Text) :
    ((loadLoop w want l p).1.map (·.name)).Sublist (wantedNames want l) := by
  fun_induction loadLoop w want l p with
  | case1 | case3 => simp
  | case2 e rest p _ ih => exact ih.trans (wantedNames_sublist_cons want e rest)
  | case4 e rest p _ t n hcut ht ih => rw [wantedNames_cons_other want e t n rest hcut ht]; exact ih
  | case5 e rest p _ t n hcut ht =>
    obtain rfl : want = t := Decidable.not_not.1 ht
    rw [wantedNames_cons_wanted want e n rest hcut]; simp
  | case6 e rest p _ t n hcut ht cs _ r ih =>
    obtain rfl : want = t := Decidable.not_not.1 ht
    rw [wantedNames_cons_wanted want e n rest hcut]
    exact ih.cons_cons _

theorem loadLoop_prefix_ok (w : World) (want : Text) (l p : List Text) :
    ∀ c ∈ (loadLoop w want l p).1.dropLast, (w want c.name).isSome = true := by
  fun_induction loadLoop w want l p with
  | case1 | case3 | case5 => simp
  | case2 _ _ _ _ ih | case4 _ _ _ _ _ _ _ _ ih => exact ih
  | case6 e rest p _ t n _ _ cs hw r ih => exact all_dropLast_cons _ _ _ (by simp [hw]) ih

theorem loadLoop_error (w : World) (want : Text) (l p : List Text) (h : (loadLoop w want l p).2 = none) :
    (∃ e ∈ l, e ∉ p ∧ cut e = none) ∨
      (∃ c, (loadLoop w want l p).1.getLast? = some c ∧ w want c.name = none) := by
  fun_induction loadLoop w want l p with
  | case1 => cases h
  | case2 e rest p _ ih | case4 e rest p _ _ _ _ _ ih =>
    exact (ih h).imp_left fun ⟨e', h1, h2⟩ => ⟨e', List.mem_cons_of_mem _ h1, h2⟩
  | case3 e rest p hp hcut => exact .inl ⟨e, List.mem_cons_self, mt List.contains_iff_mem.2 hp, hcut⟩
  | case5 e rest p _ t n _ _ hw => exact .inr ⟨_, rfl, hw⟩
  | case6 e rest p _ t n _ _ cs _ r ih =>
    rcases ih (Option.map_eq_none_iff.1 h) with ⟨e', h1, h2, h3⟩ | ⟨c, h1, h2⟩
    · exact .inl ⟨e', List.mem_cons_of_mem _ h1, fun hm => h2 (List.mem_cons_of_mem _ hm), h3⟩
    · exact .inr ⟨c, by simp [r, List.getLast?_cons, h1], h2⟩

theorem loadLoop_ok (w : World) (want : Text) (l p : List Text) (ts : List CertId)
    (h : (loadLoop w want l p).2 = some ts) :
    (∀ e ∈ l, e ∉ p → ∃ t n, cut e = some (t, n) ∧ (t = want → (⟨want, n⟩ : Call) ∈ (loadLoop w want l p).1)) ∧
    (∀ c ∈ (loadLoop w want l p).1, (w want c.name).isSome = true) ∧
    (∀ x, x ∈ ts ↔ ∃ c ∈ (loadLoop w want l p).1, ∃ cs, w want c.name = some cs ∧ x ∈ cs) := by
  fun_induction loadLoop w want l p generalizing ts with
  | case1 =>
    obtain rfl : [] = ts := by simpa using h
    simp
  | case3 | case5 => cases h
  | case2 e rest p hp ih =>
    obtain ⟨h1, h2⟩ := ih ts h
    exact ⟨List.forall_mem_cons.2 ⟨fun hn => absurd (List.contains_iff_mem.1 hp) hn, h1⟩, h2⟩
  | case4 e rest p _ t n hcut ht ih =>
    obtain ⟨h1, h2⟩ := ih ts h
    exact ⟨List.forall_mem_cons.2 ⟨fun _ => ⟨t, n, hcut, fun h => absurd h.symm ht⟩, h1⟩, h2⟩
  | case6 e rest p _ t n hcut ht cs hw r ih =>
    obtain rfl : want = t := Decidable.not_not.1 ht
    obtain ⟨ts', h', rfl⟩ := Option.map_eq_some_iff.1 h
    obtain ⟨h1, h2, h3⟩ := ih ts' h'
    have here : ∃ t n', cut e = some (t, n') ∧ (t = want → (⟨want, n'⟩ : Call) ∈ (⟨want, n⟩ : Call) :: r.1) :=
      ⟨want, n, hcut, fun _ => List.mem_cons_self⟩
    refine ⟨List.forall_mem_cons.2 ⟨fun _ => here, fun e' he' hn => ?_⟩,
      List.forall_mem_cons.2 ⟨by simp [hw], h2⟩, fun x => ?_⟩
    · by_cases hee : e' = e
      · exact hee ▸ here
      · obtain ⟨t, n', h4, h5⟩ := h1 e' he' (by simp [hee, hn])
        exact ⟨t, n', h4, fun ht => List.mem_cons_of_mem _ (h5 ht)⟩
    · simp only [r, List.mem_append, List.mem_cons, exists_eq_or_imp, hw, Option.some.injEq, exists_eq_left', h3 x]

theorem loadLoop_ok_pending (w : World) (want : Text) (l p : List Text) (ts : List CertId)
    (h : (loadLoop w want l p).2 = some ts) :
    ∀ e ∈ l, e ∉ p → ∃ t n, cut e = some (t, n) ∧ (t = want → (⟨want, n⟩ : Call) ∈ (loadLoop w want l p).1) :=
  (loadLoop_ok w want l p ts h).1

theorem loadLoop_ok_loads (w : World) (want : Text) (l p : List Text) (ts : List CertId)
    (h : (loadLoop w want l p).2 = some ts) : ∀ c ∈ (loadLoop w want l p).1, (w want c.name).isSome = true :=
  (loadLoop_ok w want l p ts h).2.1

theorem loadLoop_ok_mem (w : World) (want : Text) (l p : List Text) (ts : List CertId)
    (h : (loadLoop w want l p).2 = some ts) (x : CertId) :
    x ∈ ts ↔ ∃ c ∈ (loadLoop w want l p).1, ∃ cs, w want c.name = some cs ∧ x ∈ cs :=
  (loadLoop_ok w want l p ts h).2.2 x

theorem loadLoop_ok_if (w : World) (want : Text) (l p : List Text)
    (h1 : ∀ e ∈ l, e ∉ p → (cut e).isSome = true)
    (h2 : ∀ e ∈ l, e ∉ p → ∀ n, cut e = some (want, n) → (w want n).isSome = true) :
    (loadLoop w want l p).2.isSome = true := by
  fun_induction loadLoop w want l p with
  | case1 => rfl
  | case2 e rest p _ ih | case4 e rest p _ _ _ _ _ ih =>
    exact ih (List.forall_mem_cons.1 h1).2 (List.forall_mem_cons.1 h2).2
  | case3 e rest p hp hcut =>
    simpa [hcut] using h1 e List.mem_cons_self (mt List.contains_iff_mem.2 hp)
  | case5 e rest p hp t n hcut ht hw =>
    obtain rfl : want = t := Decidable.not_not.1 ht
    simpa [hw] using h2 e List.mem_cons_self (mt List.contains_iff_mem.2 hp) n hcut
  | case6 e rest p _ t n _ _ cs _ r ih =>
    have := ih (fun e' he' hn => h1 e' (List.mem_cons_of_mem _ he') (fun h => hn (List.mem_cons_of_mem _ h)))
      (fun e' he' hn => h2 e' (List.mem_cons_of_mem _ he') (fun h => hn (List.mem_cons_of_mem _ h)))
    simpa using this

/-- the loop consults the world only at (want, listed name): worlds that agree there are
indistinguishable -/
theorem loadLoop_congr (w w' : World) (want : Text) (l p : List Text)
    (h : ∀ n ∈ wantedNames want l, w want n = w' want n) :
    loadLoop w want l p = loadLoop w' want l p := by
  fun_induction loadLoop w want l p with
  | case1 => rfl
  | case2 e rest p hp ih =>
    rw [loadLoop, if_pos hp]
    exact ih fun n hn => h n ((wantedNames_sublist_cons want e rest).subset hn)
  | case3 e rest p hp hcut => simp only [loadLoop, hp, hcut, Bool.false_eq_true, if_false]
  | case4 e rest p hp t n hcut ht ih =>
    rw [wantedNames_cons_other want e t n rest hcut ht] at h
    simp only [loadLoop, hp, hcut, Bool.false_eq_true, if_false, if_pos ht, ih h]
  | case5 e rest p hp t n hcut ht hw =>
    obtain rfl : want = t := Decidable.not_not.1 ht
    rw [wantedNames_cons_wanted want e n rest hcut] at h
    simp only [loadLoop, hp, hcut, Bool.false_eq_true, if_false, ht, ← h n List.mem_cons_self, hw]
  | case6 e rest p hp t n hcut ht cs hw r ih =>
    obtain rfl : want = t := Decidable.not_not.1 ht
    rw [wantedNames_cons_wanted want e n rest hcut] at h
    simp only [r, loadLoop, hp, hcut, Bool.false_eq_true, if_false, ht, ← h n List.mem_cons_self, hw,
      ← ih fun n' hn' => h n' (List.mem_cons_of_mem _ hn')]

/-! ### `verifyAuthenticity` and the authenticity decision -/

theorem authentic_iff (chain trusted : List CertId) :
    authentic chain trusted = true ↔ ∃ c ∈ chain, c ∈ trusted := by
  unfold authentic
  simp only [Bool.and_eq_true, Bool.not_eq_true', List.any_eq_true, List.contains_iff_mem]
  exact ⟨fun h => h.2, fun ⟨c, h1, h2⟩ => ⟨List.isEmpty_eq_false_iff_exists_mem.2 ⟨c, h2⟩, c, h1, h2⟩⟩

theorem confers_iff (w : World) (want : Text) (chain : List CertId) (n : Text) :
    confers w want chain n = true ↔ ∃ cs, w want n = some cs ∧ ∃ c ∈ chain, c ∈ cs := by
  unfold confers
  cases h : w want n with
  | none => simp
  | some cs => simp [List.any_eq_true]

/-! `authenticity` is the loop for the required type, started with nothing processed: its two
components, read off the loop. -/

theorem authenticity_calls (w : World) (scheme : Scheme) (chain : List CertId) (l : List Text) :
    (authenticity w scheme chain l).2 = (loadLoop w (requiredType scheme) l []).1 := by
  unfold authenticity loadStores
  rw [storeTypeOf_eq]
  rcases loadLoop w (requiredType scheme) l [] with ⟨calls, _ | ts⟩ <;> rfl

theorem authenticity_pass (w : World) (scheme : Scheme) (chain : List CertId) (l : List Text) :
    (authenticity w scheme chain l).1 = true ↔
      ∃ ts, (loadLoop w (requiredType scheme) l []).2 = some ts ∧ ∃ c ∈ chain, c ∈ ts := by
  unfold authenticity loadStores
  rw [storeTypeOf_eq]
  rcases loadLoop w (requiredType scheme) l [] with ⟨calls, _ | ts⟩ <;> simp [authentic_iff]

theorem loadLoop_call_wanted (w : World) (want : Text) (l : List Text) (c : Call)
    (hc : c ∈ (loadLoop w want l []).1) : c.ty = want ∧ c.name ∈ wantedNames want l := by
  obtain ⟨h, e, he, _, hcut⟩ := loadLoop_calls w want l [] c hc
  exact ⟨h, (mem_wantedNames want l _).2 ⟨e, he, hcut⟩⟩

theorem loadLoop_called (w : World) (want : Text) (l : List Text) (ts : List CertId)
    (h : (loadLoop w want l []).2 = some ts) (n : Text) (hn : n ∈ wantedNames want l) :
    (⟨want, n⟩ : Call) ∈ (loadLoop w want l []).1 := by
  obtain ⟨e, he, hc⟩ := (mem_wantedNames want l n).1 hn
  obtain ⟨t, n', h1, h2⟩ := loadLoop_ok_pending w want l [] ts h e he List.not_mem_nil
  obtain ⟨rfl, rfl⟩ := Prod.mk.inj (Option.some.inj (h1.symm.trans hc))
  exact h2 rfl

/-- the authenticity decision, exactly: it passes iff every value of the list has a separator,
every listed store of the required type loads, and one of them holds a certificate of the chain -/
theorem auth_pass_iff (w : World) (scheme : Scheme) (chain : List CertId) (l : List Text) :
    (authenticity w scheme chain l).1 = true ↔
      (∀ e ∈ l, (cut e).isSome = true) ∧
      (∀ n ∈ wantedNames (requiredType scheme) l, (w (requiredType scheme) n).isSome = true) ∧
      (∃ n ∈ wantedNames (requiredType scheme) l, confers w (requiredType scheme) chain n = true) := by
  rw [authenticity_pass]
  generalize requiredType scheme = want
  constructor
  · rintro ⟨ts, hts, c, hc, hct⟩
    obtain ⟨hsep, hload, hmem⟩ := loadLoop_ok w want l [] ts hts
    obtain ⟨call, hcall, cs, hw, hx⟩ := (hmem c).1 hct
    exact ⟨fun e he => let ⟨_, _, h, _⟩ := hsep e he List.not_mem_nil; h ▸ rfl, fun n hn => hload _ (loadLoop_called w want l ts hts n hn),
      call.name, (loadLoop_call_wanted w want l call hcall).2, (confers_iff _ _ _ _).2 ⟨cs, hw, c, hc, hx⟩⟩
  · rintro ⟨h1, h2, n, hn, hconf⟩
    obtain ⟨cs, hw, c, hc, hx⟩ := (confers_iff _ _ _ _).1 hconf
    obtain ⟨ts, hts⟩ := Option.isSome_iff_exists.1 (loadLoop_ok_if w want l [] (fun e he _ => h1 e he)
      (fun e he _ n hc => h2 n ((mem_wantedNames want l n).2 ⟨e, he, hc⟩)))
    exact ⟨ts, hts, c, hc,
      (loadLoop_ok_mem w want l [] ts hts c).2 ⟨⟨want, n⟩, loadLoop_called w want l ts hts n hn, cs, hw, hx⟩⟩

/-! `auth_pass_iff` is the decision. It is restated as a Bool equation in the vocabulary of `clauses`
(`auth_pass_eq`) and in terms of the listed values `t:n` (`auth_pass_iff_listed`), whose two directions
are `auth_pass_sound` and `auth_pass_complete`. -/

theorem auth_pass_eq (w : World) (scheme : Scheme) (chain : List CertId) (l : List Text) :
    (authenticity w scheme chain l).1 =
      (l.all (fun e => (cut e).isSome) && (wantedNames (requiredType scheme) l).all (loadable w (requiredType scheme)) &&
        (wantedNames (requiredType scheme) l).any (confers w (requiredType scheme) chain)) := by
  rw [Bool.eq_iff_iff, auth_pass_iff]
  simp only [Bool.and_eq_true, List.all_eq_true, List.any_eq_true, loadable, and_assoc]

theorem auth_pass_iff_listed (w : World) (scheme : Scheme) (chain : List CertId) (l : List Text) :
    (authenticity w scheme chain l).1 = true ↔
      (∀ e ∈ l, Facts.c03Separator ∈ e) ∧
      (∀ n, entry (requiredType scheme) n ∈ l → ∃ cs, w (requiredType scheme) n = some cs) ∧
      (∃ c ∈ chain, ∃ n cs, entry (requiredType scheme) n ∈ l ∧ w (requiredType scheme) n = some cs ∧ c ∈ cs) := by
  rw [auth_pass_iff]
  refine and_congr (forall₂_congr fun e _ => cut_isSome_iff e) (and_congr ?_ ?_)
  · simp only [mem_wanted_entry, Option.isSome_iff_exists]
  · simp only [mem_wanted_entry, confers_iff]
    exact ⟨fun ⟨n, hn, cs, hw, c, hc, hx⟩ => ⟨c, hc, n, cs, hn, hw, hx⟩,
      fun ⟨c, hc, n, cs, hn, hw, hx⟩ => ⟨n, hn, cs, hw, c, hc, hx⟩⟩

/-- authenticity passes only if some certificate of the chain is held in a
store `t:n` that the list names, with `t` the type the scheme requires, and every listed store
of that type loaded -/
theorem auth_pass_sound (w : World) (scheme : Scheme) (chain : List CertId) (l : List Text)
    (h : (authenticity w scheme chain l).1 = true) :
    (∃ c ∈ chain, ∃ n cs, entry (requiredType scheme) n ∈ l ∧
        w (requiredType scheme) n = some cs ∧ c ∈ cs) ∧
    (∀ n, entry (requiredType scheme) n ∈ l → ∃ cs, w (requiredType scheme) n = some cs) ∧
    (∀ e ∈ l, Facts.c03Separator ∈ e) :=
  let ⟨hsep, hload, htrust⟩ := (auth_pass_iff_listed w scheme chain l).1 h
  ⟨htrust, hload, hsep⟩

/-- if every value has a separator (as in every validated
policy), every listed store of the required type loads and one of them holds a chain
certificate, authenticity passes -/
theorem auth_pass_complete (w : World) (scheme : Scheme) (chain : List CertId) (l : List Text)
    (hsep : ∀ e ∈ l, Facts.c03Separator ∈ e)
    (hload : ∀ n, entry (requiredType scheme) n ∈ l → ∃ cs, w (requiredType scheme) n = some cs)
    (htrust : ∃ c ∈ chain, ∃ n cs, entry (requiredType scheme) n ∈ l ∧
        w (requiredType scheme) n = some cs ∧ c ∈ cs) :
    (authenticity w scheme chain l).1 = true :=
  (auth_pass_iff_listed w scheme chain l).2 ⟨hsep, hload, htrust⟩

/-- a pass has consulted every listed store of the required type -/
theorem auth_pass_loaded_all (w : World) (scheme : Scheme) (chain : List CertId) (l : List Text)
    (h : (authenticity w scheme chain l).1 = true) :
    ∀ n ∈ wantedNames (requiredType scheme) l, (⟨requiredType scheme, n⟩ : Call) ∈ (authenticity w scheme chain l).2 := by
  rw [authenticity_calls]
  obtain ⟨ts, hts, _⟩ := (authenticity_pass w scheme chain l).1 h
  exact loadLoop_called w _ l ts hts

/-! ### the applicable statement -/

/-- `r` is a statement of `stmts` that satisfies `q`, or the initial `a` when none does: what the
loop of `GetApplicableTrustPolicy` leaves in each of its two variables -/
def Picks (q : Stmt → Prop) (stmts : List Stmt) (a r : Option Stmt) : Prop :=
  (r = a ∧ ∀ s ∈ stmts, ¬ q s) ∨ ∃ s ∈ stmts, r = some s ∧ q s

theorem Picks.nil {q : Stmt → Prop} {a : Option Stmt} : Picks q [] a a := .inl ⟨rfl, by simp⟩

theorem Picks.skip {q : Stmt → Prop} {s : Stmt} {rest : List Stmt} {a r : Option Stmt} (hs : ¬ q s)
    (h : Picks q rest a r) : Picks q (s :: rest) a r :=
  h.imp (fun ⟨e, hall⟩ => ⟨e, List.forall_mem_cons.2 ⟨hs, hall⟩⟩)
    (fun ⟨s', hs', h'⟩ => ⟨s', List.mem_cons_of_mem _ hs', h'⟩)

theorem Picks.take {q : Stmt → Prop} {s : Stmt} {rest : List Stmt} {a r : Option Stmt} (hs : q s)
    (h : Picks q rest (some s) r) : Picks q (s :: rest) a r :=
  .inr (h.elim (fun ⟨e, _⟩ => ⟨s, List.mem_cons_self, e, hs⟩)
    (fun ⟨s', hs', h'⟩ => ⟨s', List.mem_cons_of_mem _ hs', h'⟩))

theorem Picks.of_some {q : Stmt → Prop} {stmts : List Stmt} {s : Stmt} (h : Picks q stmts none (some s)) :
    s ∈ stmts ∧ q s := by
  obtain ⟨h, _⟩ | ⟨s', hs', h, hq⟩ := h
  · cases h
  · cases h; exact ⟨hs', hq⟩

theorem Picks.none_iff {q : Stmt → Prop} {stmts : List Stmt} {r : Option Stmt} (h : Picks q stmts none r) :
    r = none ↔ ∀ s ∈ stmts, ¬ q s := by
  obtain ⟨h, hall⟩ | ⟨s', hs', h, hq⟩ := h
  · exact ⟨fun _ => hall, fun _ => h⟩
  · exact ⟨fun e => absurd (e.symm.trans h) nofun, fun hall => absurd hq (hall s' hs')⟩

theorem selectLoop_spec (repo : Text) (stmts : List Stmt) (acc : Option Stmt × Option Stmt) :
    Picks (fun s => wildcardScope ∈ s.scopes) stmts acc.1 (selectLoop repo stmts acc).1 ∧
    Picks (fun s => wildcardScope ∉ s.scopes ∧ repo ∈ s.scopes) stmts acc.2 (selectLoop repo stmts acc).2 := by
  fun_induction selectLoop repo stmts acc with
  | case1 acc => exact ⟨.nil, .nil⟩
  | case2 s rest wild exact hw ih =>
    have hw' := List.contains_iff_mem.1 hw
    exact ⟨ih.1.take hw', ih.2.skip fun h => h.1 hw'⟩
  | case3 s rest wild exact hw hr ih =>
    have hw' := mt List.contains_iff_mem.2 hw
    exact ⟨ih.1.skip hw', ih.2.take ⟨hw', List.contains_iff_mem.1 hr⟩⟩
  | case4 s rest wild exact hw hr ih =>
    exact ⟨ih.1.skip (mt List.contains_iff_mem.2 hw), ih.2.skip fun h => hr (List.contains_iff_mem.2 h.2)⟩

/-- the statement used is one of the document's statements; it names the
repository in its scopes, or it is the wildcard statement and then no statement names the repository -/
theorem applicable_sound (stmts : List Stmt) (repo : Text) (s : Stmt) (h : applicable stmts repo = some s) :
    s ∈ stmts ∧ ((wildcardScope ∉ s.scopes ∧ repo ∈ s.scopes) ∨
      (wildcardScope ∈ s.scopes ∧ ∀ s' ∈ stmts, wildcardScope ∈ s'.scopes ∨ repo ∉ s'.scopes)) := by
  unfold applicable at h
  obtain ⟨h1, h2⟩ := selectLoop_spec repo stmts (none, none)
  generalize selectLoop repo stmts (none, none) = r at h h1 h2
  obtain ⟨wild, _ | x⟩ := r
  · -- no exact match: the wildcard statement
    obtain rfl : wild = some s := h
    exact ⟨h1.of_some.1, .inr ⟨h1.of_some.2, fun s' hs' =>
      Decidable.or_iff_not_imp_left.2 fun a b => h2.none_iff.1 rfl s' hs' ⟨a, b⟩⟩⟩
  · obtain rfl : x = s := Option.some.inj h
    exact ⟨h2.of_some.1, .inl h2.of_some.2⟩

theorem applicable_none_iff (stmts : List Stmt) (repo : Text) :
    applicable stmts repo = none ↔ ∀ s ∈ stmts, wildcardScope ∉ s.scopes ∧ repo ∉ s.scopes := by
  unfold applicable
  obtain ⟨h1, h2⟩ := selectLoop_spec repo stmts (none, none)
  generalize selectLoop repo stmts (none, none) = r at h1 h2
  obtain ⟨wild, _ | x⟩ := r
  · have hx := h2.none_iff.1 rfl
    exact h1.none_iff.trans ⟨fun hw s hs => ⟨hw s hs, fun b => hx s hs ⟨hw s hs, b⟩⟩, fun h s hs => (h s hs).1⟩
  · exact ⟨nofun, fun h => absurd h2.of_some.2.2 (h x h2.of_some.1).2⟩

theorem selected_some (stmts : List Stmt) (repo : Text) (ok : Bool) (s : Stmt)
    (h : selected stmts repo ok = some s) : ok = true ∧ applicable stmts repo = some s := by
  unfold selected at h
  cases ok <;> simp_all

/-! ### the whole property -/

theorem nodupB_iff (l : List Text) : nodupB l = true ↔ l.Nodup := by
  induction l with
  | nil => simp [nodupB]
  | cons a as ih => simp [nodupB, List.nodup_cons, ih]

theorem authenticity_log (w : World) (scheme : Scheme) (chain : List CertId) (l : List Text) :
    let calls := (authenticity w scheme chain l).2
    let want := requiredType scheme
    (∀ c ∈ calls, c.ty = want ∧ c.name ∈ wantedNames want l) ∧
    (calls.map (·.name)).Nodup ∧
    (calls.map (·.name)).Sublist (wantedNames want l) ∧
    (∀ n ∈ (calls.map (·.name)).dropLast, (w want n).isSome = true) := by
  simp only
  rw [authenticity_calls]
  refine ⟨loadLoop_call_wanted _ _ _, loadLoop_nodup _ _ _ _, loadLoop_sublist _ _ _ _, fun n hn => ?_⟩
  rw [← List.map_dropLast] at hn
  obtain ⟨c, hc, rfl⟩ := List.mem_map.1 hn
  exact loadLoop_prefix_ok w (requiredType scheme) l [] c hc

/-- every clause of `Holds` is true of the model's behaviour - for every world, every
policy document, every trust store list of any length, both schemes -/
theorem model_holds (i : Input) : Holds i (run i) = true := by
  unfold Holds clauses run
  cases happ : selected i.statements i.repo i.refOk with
  | none => rfl
  | some s =>
    obtain ⟨l1, l2, l3, l4⟩ := authenticity_log (lookup i.world) i.scheme i.chain s.trustStores
    have hp := auth_pass_eq (lookup i.world) i.scheme i.chain s.trustStores
    have hall := auth_pass_loaded_all (lookup i.world) i.scheme i.chain s.trustStores
    simp only [Clauses.holds, List.all_cons, List.all_nil, Bool.and_true]
    generalize (authenticity (lookup i.world) i.scheme i.chain s.trustStores).1 = pass,
      (authenticity (lookup i.world) i.scheme i.chain s.trustStores).2 = calls at *
    generalize wantedNames (requiredType i.scheme) s.trustStores = wanted at *
    generalize lookup i.world = w, requiredType i.scheme = want at *
    have hlog : (calls.all fun c => c.ty == want && wanted.contains c.name) = true :=
      List.all_eq_true.2 fun c hc => by simp [l1 c hc]
    have hpre : ((calls.map (·.name)).dropLast.all (loadable w want)) = true := List.all_eq_true.2 l4
    have hcalled : pass = true → (wanted.all ((calls.map (·.name)).contains ·)) = true :=
      fun h => List.all_eq_true.2 fun n hn => List.contains_iff_mem.2 (List.mem_map.2 ⟨_, hall h n hn, rfl⟩)
    simp only [hlog, (nodupB_iff _).2 l2, List.isSublist_iff_sublist.2 l3, hpre, Bool.true_and]
    -- what is left is propositional in the three conjuncts of the decision, the identity verdict,
    -- the action and "every wanted name was called"
    subst hp
    generalize (s.trustStores.all fun e => (cut e).isSome) = a, wanted.all (loadable w want) = b,
      wanted.any (confers w want i.chain) = c, (wanted.all ((calls.map (·.name)).contains ·)) = x,
      i.identityOk = d, s.logged = e at hcalled ⊢
    revert a b c d e x
    decide +kernel

/-! ### the call log, the frame and the load error (DESIGN.md section 5, C03)

`w` is any world (function from (type, name) to a load result), `l` the `trustStores` list of the
applicable statement - of any length, with duplicates, other types, malformed values. -/

/-- the trust store sees only calls `(t, n)` with `t` the type the
scheme requires and `t:n` in the list - never `tsa`, never the other trust-anchor type, never an
unlisted name - each store at most once, in list order -/
theorem other_types_never_loaded (w : World) (scheme : Scheme) (chain : List CertId) (l : List Text) :
    (∀ c ∈ (authenticity w scheme chain l).2,
        c.ty = requiredType scheme ∧ c.ty ≠ Facts.c03TypeTSA ∧ entry (requiredType scheme) c.name ∈ l) ∧
    ((authenticity w scheme chain l).2.map (·.name)).Nodup ∧
    ((authenticity w scheme chain l).2.map (·.name)).Sublist (wantedNames (requiredType scheme) l) := by
  obtain ⟨h1, h2, h3, _⟩ := authenticity_log w scheme chain l
  refine ⟨?_, h2, h3⟩
  intro c hc
  obtain ⟨a, b⟩ := h1 c hc
  exact ⟨a, by rw [a]; exact requiredType_ne_tsa scheme, (mem_wanted_entry scheme l _).1 b⟩

/-- two worlds that agree on the listed stores of the required type
give the same result and the same call log - whatever they hold in stores of another type
(tsa included), in stores the list does not name, or in stores named only with another type -/
theorem unlisted_irrelevant (w w' : World) (scheme : Scheme) (chain : List CertId) (l : List Text)
    (h : ∀ n, entry (requiredType scheme) n ∈ l → w (requiredType scheme) n = w' (requiredType scheme) n) :
    authenticity w scheme chain l = authenticity w' scheme chain l := by
  unfold authenticity loadStores
  rw [storeTypeOf_eq,
    loadLoop_congr w w' (requiredType scheme) l [] fun n hn => h n ((mem_wanted_entry scheme l n).1 hn)]

theorem failed_load_is_last (w : World) (scheme : Scheme) (chain : List CertId) (l : List Text) :
    ∀ c ∈ (authenticity w scheme chain l).2, w (requiredType scheme) c.name = none →
      (authenticity w scheme chain l).2.getLast? = some c := by
  intro c hc hnone
  rw [authenticity_calls] at hc ⊢
  refine getLast?_of_not_mem_dropLast hc fun h => ?_
  have := loadLoop_prefix_ok w _ l [] c h
  rw [hnone] at this; cases this

/-- a listed store of the required type that cannot be loaded makes
authenticity fail; the failed load is the last call (no later store is loaded) -/
theorem load_error_fails (w : World) (scheme : Scheme) (chain : List CertId) (l : List Text) (n : Text)
    (hl : entry (requiredType scheme) n ∈ l) (hw : w (requiredType scheme) n = none) :
    (authenticity w scheme chain l).1 = false ∧
    (∀ c ∈ (authenticity w scheme chain l).2, w (requiredType scheme) c.name = none →
        (authenticity w scheme chain l).2.getLast? = some c) ∧
    ((∀ e ∈ l, Facts.c03Separator ∈ e) →
        ∃ c, (authenticity w scheme chain l).2.getLast? = some c ∧ w (requiredType scheme) c.name = none) := by
  -- the loop returns an error: otherwise the listed store would have been loaded, and every load succeeded
  have hnone : (loadLoop w (requiredType scheme) l []).2 = none := by
    cases hr : (loadLoop w (requiredType scheme) l []).2 with
    | none => rfl
    | some ts =>
      have := loadLoop_ok_loads _ _ _ _ ts hr _
        (loadLoop_called _ _ _ ts hr n ((mem_wanted_entry scheme l n).2 hl))
      rw [hw] at this; cases this
  refine ⟨Bool.eq_false_iff.2 fun hp => ?_, failed_load_is_last w scheme chain l, fun hsep => ?_⟩
  · obtain ⟨ts, hts, _⟩ := (authenticity_pass w scheme chain l).1 hp
    rw [hnone] at hts; cases hts
  · rw [authenticity_calls]
    exact (loadLoop_error _ _ _ _ hnone).resolve_left fun ⟨e, he, _, hc⟩ => (cut_none_iff e).1 hc (hsep e he)

/-! ### the same, for the whole scenario -/

theorem lookup_some (ws : List Store) (t n : Text) (cs : List CertId) (h : lookup ws t n = some cs) :
    ∃ st ∈ ws, st.ty = t ∧ st.name = n ∧ st.ok = true ∧ st.certs = cs := by
  fun_induction lookup ws t n with
  | case1 => cases h
  | case2 st rest t n hk hok => exact ⟨st, List.mem_cons_self, hk.1, hk.2, hok, Option.some.inj h⟩
  | case3 st rest t n hk hok => cases h
  | case4 st rest t n hk ih =>
    obtain ⟨st', h1, h2⟩ := ih h
    exact ⟨st', List.mem_cons_of_mem _ h1, h2⟩

/-- the authenticity result passes exactly when the trust store check
passes AND the identity verdict is good: a good identity verdict (native, or a verification
plugin answering success) never repairs a trust store failure, whatever the action -/
theorem run_pass_iff (i : Input) :
    (run i).result = .pass ↔ ∃ s, selected i.statements i.repo i.refOk = some s ∧
      (authenticity (lookup i.world) i.scheme i.chain s.trustStores).1 = true ∧ i.identityOk = true := by
  unfold run
  cases happ : selected i.statements i.repo i.refOk with
  | none => simp
  | some s =>
    cases hb : (authenticity (lookup i.world) i.scheme i.chain s.trustStores).1 <;>
      cases i.identityOk <;> simp [hb]

/-- in the whole scenario, an authenticity pass means: a statement of the
document applies; some certificate of the chain is held by a store of the world whose type is the
one the scheme requires and whose `type:name` is in THAT statement's list; and every store of that
type the statement lists loaded -/
theorem run_pass_sound (i : Input) (h : (run i).result = .pass) :
    i.refOk = true ∧ ∃ s, applicable i.statements i.repo = some s ∧ s ∈ i.statements ∧
      (∃ c ∈ i.chain, ∃ st ∈ i.world, st.ty = requiredType i.scheme ∧ st.ok = true ∧ c ∈ st.certs ∧
          entry st.ty st.name ∈ s.trustStores) ∧
      (∀ n, entry (requiredType i.scheme) n ∈ s.trustStores →
          ∃ cs, lookup i.world (requiredType i.scheme) n = some cs) := by
  obtain ⟨s, happ, hp, _⟩ := (run_pass_iff i).1 h
  obtain ⟨⟨c, hc, n, cs, h1, h2, h3⟩, h4, _⟩ := auth_pass_sound _ _ _ _ hp
  obtain ⟨st, hst, a, b, d, e⟩ := lookup_some _ _ _ _ h2
  obtain ⟨hok, happ'⟩ := selected_some _ _ _ _ happ
  exact ⟨hok, s, happ', (applicable_sound _ _ _ happ').1,
    ⟨c, hc, st, hst, a, d, by rw [e]; exact h3, by rw [a, b]; exact h1⟩, h4⟩

/-- a reference that is refused (not `<scope-format path>@<digest>`)
runs under no statement: nothing is loaded, nothing is accepted - in particular it does not fall
under the wildcard statement -/
theorem run_refused_reference (i : Input) (h : i.refOk = false) :
    run i = { result := .noPolicy, calls := [], accepted := false } := by
  unfold run selected; simp [h]

/-- the statement applied names the artifact path exactly as spelled, or is the
wildcard statement while NO statement names that spelling: another spelling of "the same" registry
(an alias, another letter case, a default port) in a statement's scopes plays no role -/
theorem run_statement_by_exact_spelling (i : Input) (s : Stmt)
    (h : selected i.statements i.repo i.refOk = some s) :
    (i.repo ∈ s.scopes ∧ wildcardScope ∉ s.scopes) ∨
    (wildcardScope ∈ s.scopes ∧ ∀ s' ∈ i.statements, i.repo ∈ s'.scopes → wildcardScope ∈ s'.scopes) := by
  obtain ⟨_, happ⟩ := selected_some _ _ _ _ h
  rcases (applicable_sound _ _ _ happ).2 with ⟨a, b⟩ | ⟨a, b⟩
  · exact .inl ⟨b, a⟩
  · refine .inr ⟨a, fun s' hs' hr => ?_⟩
    rcases b s' hs' with x | x
    · exact x
    · exact absurd hr x

/-- the signature is accepted only if the authenticity result passed or
the applicable statement merely logs authenticity (level audit, or an override) -/
theorem run_accepted_only_if (i : Input) (h : (run i).accepted = true) :
    (run i).result = .pass ∨ ∃ s, selected i.statements i.repo i.refOk = some s ∧ s.logged = true := by
  unfold run at h ⊢
  cases happ : selected i.statements i.repo i.refOk with
  | none => simp [happ] at h
  | some s =>
    simp only [happ] at h ⊢
    cases hlg : s.logged
    · simp only [hlg, Bool.or_false, Bool.and_eq_true] at h
      simp [h.1, h.2]
    · exact .inr ⟨s, rfl, hlg⟩

theorem run_calls_independent_of_identity (i : Input) (b : Bool) (p : String) :
    (run { i with identityOk := b, plugin := p }).calls = (run i).calls := by
  unfold run
  cases selected i.statements i.repo i.refOk <;> simp

/-- changing the world anywhere but at the stores `(required type, n)`
with `type:n` listed by the applicable statement - that is: in stores of another type, in stores
no statement lists, in stores only OTHER statements list - changes neither result nor call log -/
theorem run_unlisted_irrelevant (i : Input) (world' : List Store) (s : Stmt)
    (happ : selected i.statements i.repo i.refOk = some s)
    (h : ∀ n, entry (requiredType i.scheme) n ∈ s.trustStores →
      lookup i.world (requiredType i.scheme) n = lookup world' (requiredType i.scheme) n) :
    run { i with world := world' } = run i := by
  unfold run
  simp only [happ]
  rw [unlisted_irrelevant (lookup world') (lookup i.world) i.scheme i.chain s.trustStores (fun n hn => (h n hn).symm)]

/-- two documents whose applicable statements carry the same
list and level behave alike, whatever their other statements list -/
theorem run_other_statements_irrelevant (i : Input) (stmts' : List Stmt) (s s' : Stmt)
    (happ : selected i.statements i.repo i.refOk = some s) (happ' : selected stmts' i.repo i.refOk = some s')
    (hl : s'.trustStores = s.trustStores) (hv : s'.level = s.level) (ha : s'.authLog = s.authLog) :
    run { i with statements := stmts' } = run i := by
  unfold run
  simp only [happ, happ', hl, Stmt.logged, hv, ha]

/-- `run` reads the scheme, the chain, the statements, the artifact path, the world and the two verdicts,
nothing else: two verifications that differ only in their history are predicted alike -/
theorem run_eq_of_same_call (i j : Input) (hs : i.scheme = j.scheme) (hc : i.chain = j.chain)
    (hst : i.statements = j.statements) (hr : i.repo = j.repo) (hw : i.world = j.world)
    (hi : i.identityOk = j.identityOk) (hk : i.refOk = j.refOk) :
    run i = run j := by
  unfold run; rw [hs, hc, hst, hr, hw, hi, hk]

/-- the prediction for a verification does not depend on what the
same verifier instance verified before (nor on the annotations): the model is stateless, and
the correspondence run holds the implementation to it - a verifier that remembers trust
certificates, results or store contents across calls disagrees with this prediction -/
theorem run_history_irrelevant (i : Input) (h : List String) (b f k : String) :
    run { i with history := h, backend := b, format := f, kind := k } = run i :=
  run_eq_of_same_call _ _ rfl rfl rfl rfl rfl rfl rfl

/-- which certificates share a public key (or a name) with which plays
no role - a store confers trust only through a certificate IDENTICAL to one of the chain
(`auth_pass_sound`: `c ∈ chain` and `c ∈ cs` for the same `c`) -/
theorem run_sameKey_irrelevant (i : Input) (g : List (List CertId)) :
    run { i with sameKey := g } = run i :=
  run_eq_of_same_call _ _ rfl rfl rfl rfl rfl rfl rfl

/-- what callers wrote into statements that the verifier's documents
handed out (`GetApplicableTrustPolicy` / `GetGlobalTrustPolicy`: deep copies) plays no role - the
verification runs under the statement of the DOCUMENT. The correspondence run holds the
implementation to this prediction after such edits: an accessor that hands out the loop variable,
a pointer into the document, or a clone that shares a slice / the override map disagrees, and its
observation (a store the document never listed is loaded, trust comes from it, another statement
or none applies, the action changed) violates the clauses of `Model/C03.lean`, which read `statements` only. -/
theorem run_copyEdits_irrelevant (i : Input) (e : List CopyEdit) :
    run { i with copyEdits := e } = run i :=
  run_eq_of_same_call _ _ rfl rfl rfl rfl rfl rfl rfl

/-- the property does not read the edits either: no edit of a copy can excuse an observation -/
theorem holds_copyEdits_irrelevant (i : Input) (e : List CopyEdit) (o : Obs) :
    Holds { i with copyEdits := e } o = Holds i o := rfl

/-! What a LEAK would look like: the statement list a document would read if the edits of the
copies had been made to the document itself (fields the model knows: `trustStores`, `scopes`).
Used to show that the clauses convict such an implementation (examples below) and that, with no
edits, nothing is leaked. -/

def modifyAt (f : Stmt → Stmt) : Nat → List Stmt → List Stmt
  | _, [] => []
  | 0, s :: r => f s :: r
  | n + 1, s :: r => s :: modifyAt f n r

def leakOne (kind : String) (stmts : List Stmt) (e : CopyEdit) : List Stmt :=
  if e.doc.toList = kind.toList then
    if e.field.toList = "trustStores".toList then modifyAt (fun s => { s with trustStores := e.values }) e.stmt stmts
    else if e.field.toList = "registryScopes".toList then modifyAt (fun s => { s with scopes := e.values }) e.stmt stmts
    else stmts
  else stmts

/-- the input as a leaking implementation would see it -/
def leaked (i : Input) : Input :=
  { i with statements := i.copyEdits.foldl (leakOne i.kind) i.statements }

theorem leaked_no_edits (i : Input) (h : i.copyEdits = []) : leaked i = i := by
  cases i; simp only [leaked] at *; subst h; rfl

/-- edits of copies of the OTHER document's statements could not even leak into this one -/
theorem leaked_other_document (i : Input) (h : ∀ e ∈ i.copyEdits, e.doc.toList ≠ i.kind.toList) :
    leaked i = i := by
  unfold leaked
  have : ∀ (es : List CopyEdit) (st : List Stmt), (∀ e ∈ es, e.doc.toList ≠ i.kind.toList) →
      es.foldl (leakOne i.kind) st = st := by
    intro es
    induction es with
    | nil => intro st _; rfl
    | cons e es ih =>
      intro st hh
      have he : leakOne i.kind st e = st := by
        unfold leakOne; rw [if_neg (hh e (List.mem_cons_self ..))]
      rw [List.foldl_cons, he]
      exact ih st (fun e' he' => hh e' (List.mem_cons_of_mem _ he'))
  rw [this i.copyEdits i.statements h]

/-! ### non-vacuity -/

section examples

def exWorld : List Store :=
  [ ⟨"ca".toList, "alpha".toList, true, [2]⟩,                  -- the signer's root, as a CA store
    ⟨"signingAuthority".toList, "alpha".toList, true, [2]⟩,    -- same name under another type
    ⟨"tsa".toList, "alpha".toList, true, [2]⟩,
    ⟨"ca".toList, "beta".toList, false, []⟩,                   -- a store that does not load
    ⟨"ca".toList, "gamma".toList, true, [6]⟩ ]                 -- an unrelated certificate

def exInput (scheme : Scheme) (l : List String) : Input :=
  { scheme := scheme, chain := [0, 1, 2], repo := "reg.example/a".toList, world := exWorld,
    statements := [ ⟨["reg.example/a".toList], l.map String.toList, .strict, false⟩,
                    ⟨["*".toList], ["ca:alpha".toList, "signingAuthority:alpha".toList], .strict, false⟩ ],
    refOk := true, sameKey := [], identityOk := true, plugin := "none", backend := "mem", format := "jws", kind := "oci",
    copyEdits := [], history := [] }

/-- a caller edited ITS copy of the applicable statement (in place: every element of trustStores
became `ca:alpha`, the store that holds the signer's root) -/
def exEdited : Input :=
  { exInput .x509 ["ca:gamma"] with
    copyEdits := [⟨"oci", "GetApplicableTrustPolicy", 0, "trustStores", "element", ["ca:alpha".toList]⟩] }

/- `vector`: a test vector is evaluated by the kernel after its string literals have been read off as
character lists (`toList_lit`); evaluating `"..".toList` is the dear part otherwise. -/
local macro "vector" : tactic =>
  `(tactic| (
    simp only [exInput, exWorld, exEdited, leaked, leakOne, List.foldl_cons, List.foldl_nil, List.map_cons,
      List.map_nil, toList_lit]
    decide +kernel))

/-- trusted: the root is in the listed ca store -/
example : run (exInput .x509 ["ca:gamma", "tsa:alpha", "ca:alpha", "ca:gamma"]) =
    { result := .pass, calls := [⟨"ca".toList, "gamma".toList⟩, ⟨"ca".toList, "alpha".toList⟩], accepted := true } := by vector
/-- the same certificate under the same name but the wrong types confers nothing, and is never loaded -/
example : run (exInput .x509 ["signingAuthority:alpha", "tsa:alpha", "ca:gamma"]) =
    { result := .fail, calls := [⟨"ca".toList, "gamma".toList⟩], accepted := false } := by vector
/-- the signing authority scheme reads the signingAuthority store of that name -/
example : run (exInput .signingAuthority ["ca:alpha", "signingAuthority:alpha"]) =
    { result := .pass, calls := [⟨"signingAuthority".toList, "alpha".toList⟩], accepted := true } := by vector
/-- a store listed only by the other (wildcard) statement confers nothing -/
example : (run (exInput .x509 ["ca:gamma"])).result = .fail := by vector
/-- a listed store that does not load fails the validation although a later store would confer trust -/
example : run (exInput .x509 ["ca:beta", "ca:alpha"]) =
    { result := .fail, calls := [⟨"ca".toList, "beta".toList⟩], accepted := false } := by vector
/-- `Holds` accepts the model's observation ... -/
example : Holds (exInput .x509 ["signingAuthority:alpha", "ca:gamma"])
    { result := .fail, calls := [⟨"ca".toList, "gamma".toList⟩], accepted := false } = true := by vector
/-- ... and refuses wrong ones: trust from a store of the wrong type, -/
example : Holds (exInput .x509 ["signingAuthority:alpha", "ca:gamma"])
    { result := .pass, calls := [⟨"ca".toList, "gamma".toList⟩], accepted := true } = false := by vector
/-- a load of a store of another type, -/
example : Holds (exInput .x509 ["signingAuthority:alpha", "ca:gamma"])
    { result := .fail, calls := [⟨"signingAuthority".toList, "alpha".toList⟩, ⟨"ca".toList, "gamma".toList⟩], accepted := false } = false := by vector
/-- a failed load that was ignored, -/
example : Holds (exInput .x509 ["ca:beta", "ca:alpha"])
    { result := .pass, calls := [⟨"ca".toList, "beta".toList⟩, ⟨"ca".toList, "alpha".toList⟩], accepted := true } = false := by vector
/-- and acceptance without authenticity under an enforcing level -/
example : Holds (exInput .x509 ["ca:gamma"])
    { result := .fail, calls := [⟨"ca".toList, "gamma".toList⟩], accepted := true } = false := by vector

/-- a plugin's good identity verdict under a logging statement does not repair a trust store failure:
the result stays `fail` (accepted, because only logged), and `Holds` refuses a `pass` there -/
example : run { exInput .x509 ["tsa:alpha", "ca:gamma"] with
      statements := [⟨["reg.example/a".toList], ["tsa:alpha".toList, "ca:gamma".toList], .permissive, true⟩],
      plugin := "identity-success" } =
    { result := .fail, calls := [⟨"ca".toList, "gamma".toList⟩], accepted := true } := by vector
example : Holds { exInput .x509 ["tsa:alpha", "ca:gamma"] with
      statements := [⟨["reg.example/a".toList], ["tsa:alpha".toList, "ca:gamma".toList], .permissive, true⟩],
      plugin := "identity-success" }
    { result := .pass, calls := [⟨"ca".toList, "gamma".toList⟩], accepted := true } = false := by vector
/-- a value whose name part is a path names no store: nothing it could resolve to counts -/
example : (run (exInput .x509 ["ca:../tsa/alpha", "ca:alpha"])).result = .fail := by vector

/-- a statement scoped to an ENCLOSING path (reg.example/ns for reg.example/ns/app) does not apply:
the wildcard statement does, with its stores - and without a wildcard statement none does -/
example : (run { exInput .x509 [] with
      repo := "reg.example/ns/app".toList
      statements := [⟨["reg.example/ns".toList], ["ca:alpha".toList], .strict, false⟩,
                     ⟨["*".toList], ["ca:gamma".toList], .strict, false⟩] }) =
    { result := .fail, calls := [⟨"ca".toList, "gamma".toList⟩], accepted := false } := by vector
example : (run { exInput .x509 [] with
      repo := "reg.example/ns/app".toList
      statements := [⟨["reg.example/ns".toList], ["ca:alpha".toList], .strict, false⟩] }).result = .noPolicy := by vector

/-- the prediction for `exEdited` is that of the document, which lists `ca:gamma` only: fail, `ca:gamma` loaded - -/
example : run exEdited = { result := .fail, calls := [⟨"ca".toList, "gamma".toList⟩], accepted := false } := by vector
/-- ... a verifier whose document took the edit passes with a load of `ca:alpha`, -/
example : run (leaked exEdited) = { result := .pass, calls := [⟨"ca".toList, "alpha".toList⟩], accepted := true } := by vector
/-- ... and the property (which reads the document's list) convicts exactly that observation: trust from,
and a load of, a store the applicable statement does not list -/
example : Holds exEdited (run (leaked exEdited)) = false := by vector
example : ((clauses exEdited (run (leaked exEdited))).filter (fun c => !c.2)).map (·.1) =
    ["pass_only_if_chain_certificate_in_listed_store_of_required_type",
     "only_listed_stores_of_required_type_are_loaded", "loads_follow_list_order",
     "pass_has_loaded_every_listed_store_of_required_type"] := by vector
/-- an edited scope of the copy: a leak makes the statement inapplicable (no policy) - convicted as well -/
example : Holds { exInput .x509 ["ca:alpha"] with
      statements := [⟨["reg.example/a".toList], ["ca:alpha".toList], .strict, false⟩],
      copyEdits := [⟨"oci", "GetApplicableTrustPolicy", 0, "registryScopes", "element", ["reg.example/z".toList]⟩] }
    (run (leaked { exInput .x509 ["ca:alpha"] with
      statements := [⟨["reg.example/a".toList], ["ca:alpha".toList], .strict, false⟩],
      copyEdits := [⟨"oci", "GetApplicableTrustPolicy", 0, "registryScopes", "element", ["reg.example/z".toList]⟩] })) = false := by vector
/-- an edit of a copy taken from the blob document cannot concern a Verify against the OCI document -/
example : leaked { exEdited with copyEdits := [⟨"blob", "GetGlobalTrustPolicy", 0, "trustStores", "assign", ["ca:alpha".toList]⟩] } =
    { exEdited with copyEdits := [⟨"blob", "GetGlobalTrustPolicy", 0, "trustStores", "assign", ["ca:alpha".toList]⟩] } := by
  apply leaked_other_document; decide +kernel

end examples

/-! ### tie to the translated source -/

namespace Tie
-- the ties give `simp` a comparison fact in both orientations, since the translation may write it either
-- way round; one of the two is unused
set_option linter.unusedSimpArgs false
open NotationModel.Src NotationModel.Src.verifier

abbrev Cert := x509.Certificate

/-- the world an oracle `GetCertificates` stands for: a load succeeds iff the error is nil -/
def worldOf (ctx : context.Context) (st : truststore.X509TrustStore) : Text → Text → Option (List Cert) :=
  fun t n => match st.GetCertificates ctx (String.ofList t) (String.ofList n) with
    | (cs, none) => some cs
    | (_, some _) => none

/-! the constants of the translated source are the extracted facts (`Char.ofNat 58` is how the
translation renders the `":"` of `strings.Cut`) -/

theorem typeCA_toList : truststore.TypeCA.toList = Facts.c03TypeCA := by decide +kernel
theorem typeSigningAuthority_toList : truststore.TypeSigningAuthority.toList = Facts.c03TypeSigningAuthority := by
  decide +kernel
theorem typeTSA_toList : truststore.TypeTSA.toList = Facts.c03TypeTSA := by decide +kernel
theorem types_toList : truststore.Types.map String.toList = Facts.c03Types := by decide +kernel
theorem separator_eq : Char.ofNat 58 = Facts.c03Separator := by decide +kernel
theorem schemes_ne : signature.SigningSchemeX509 ≠ signature.SigningSchemeX509SigningAuthority := by decide +kernel

theorem cut_eq_takeWhile (cs : List Char) :
    cut cs = if cs.contains Facts.c03Separator then
      some (cs.takeWhile (· != Facts.c03Separator), (cs.dropWhile (· != Facts.c03Separator)).drop 1) else none := by
  induction cs with
  | nil => simp [cut]
  | cons c rest ih =>
    unfold cut
    by_cases hc : c = Facts.c03Separator
    · subst hc; simp
    · simp only [hc, if_false, ih, List.contains_cons, beq_eq_false_iff_ne.2 (Ne.symm hc), Bool.false_or,
        List.takeWhile_cons, bne_iff_ne.2 hc, if_true, List.dropWhile_cons]
      by_cases hr : Facts.c03Separator ∈ rest <;> simp [hr]

theorem cut_src (s : String) :
    cut s.toList = if (GoLite.cut s (Char.ofNat 58)).2.2 = true then
      some ((GoLite.cut s (Char.ofNat 58)).1.toList, (GoLite.cut s (Char.ofNat 58)).2.1.toList) else none := by
  rw [cut_eq_takeWhile, separator_eq]
  unfold GoLite.cut
  by_cases h : Facts.c03Separator ∈ s.toList <;> simp [h, String.toList_ofList]

theorem worldOf_eq (ctx : context.Context) (st : truststore.X509TrustStore) (t n : String) :
    worldOf ctx st t.toList n.toList =
      if (st.GetCertificates ctx t n).2.isSome then none else some (st.GetCertificates ctx t n).1 := by
  unfold worldOf
  simp only [String.ofList_toList]
  rcases st.GetCertificates ctx t n with ⟨cs, _ | err⟩ <;> rfl

/-- what is compared: the certificates (nil on error) and whether an error is returned -/
def shape (r : Option (List Cert) × Option GoLite.Err) : Option (List Cert) × Bool := (r.1, r.2.isSome)

def ofModel (m : Option (List Cert)) : Option (List Cert) × Bool := (m, m.isNone)

/-- a state of the translated loop as a function of (processed values, certificates so far), for a loop
that keeps the certificates before the set, in the form `GoLite.forIn_eq_foldE` takes: running (`absB`),
stopped by a `return` (`stopB`). The ties below are proved by induction on the list and do not use them. -/
abbrev absB (t : List String × List Cert) : Option (Option (List Cert) × Option GoLite.Err) × List Cert × set.Set :=
  (none, t.2, ⟨t.1⟩)
abbrev stopB (t : List String × List Cert) (e : GoLite.Err × List String) : Option (Option (List Cert) × Option GoLite.Err) × List Cert × set.Set :=
  (some (none, some e.1), t.2, ⟨e.2⟩)

/-- TIE (translated source): `loadX509TrustStoresWithType`, translated from verifier/helpers.go on
every run (`Generated/SrcC03.lean`), returns - for EVERY store type, EVERY trust store list and
EVERY trust store oracle `GetCertificates` - exactly the certificates the model's `loadLoop`
returns for the world the oracle stands for (same certificates in the same order), and an error
(with nil certificates) exactly when the model's loop fails. Only this component of `loadLoop` is tied:
the oracle of `Src/TypesC03.lean` is a pure function and cannot speak of calls, so the call log (`.1`), on
which `other_types_never_loaded` and `load_error_fails` rest, is held to the code by the correspondence run. -/
theorem source_loadX509TrustStoresWithType_refines_model (ctx : context.Context) (ty pn : String) (l : List String)
    (st : truststore.X509TrustStore) :
    shape (loadX509TrustStoresWithType ctx ty pn l st) =
      ofModel (loadLoop (worldOf ctx st) ty.toList (l.map String.toList) []).2 := by
  unfold loadX509TrustStoresWithType
  have hd : (default : List Cert) = [] := rfl
  simp only [Id.run, set.New, hd]
  -- Invariant, proved by induction on the list for every processed set `p` and accumulator `acc`: the loop
  -- started in the state (`p`, `acc`) returns `(loadLoop .. (p.map toList)).2.map (acc ++ ·)`, and an error
  -- exactly where that is `none`. The tie is its instance `p = []`, `acc = []`. The loop from another state
  -- is not a term of the translation, so the two `[]` of the start state are generalised in place.
  -- In the step: one case per guard of the body (the type comparison may be written either way round).
  rw [show (loadLoop (worldOf ctx st) ty.toList (l.map String.toList) []).2 =
    (loadLoop (worldOf ctx st) ty.toList (l.map String.toList) (([] : List String).map String.toList)).2.map
      (([] : List Cert) ++ ·) by simp]
  generalize ([] : List String) = p, ([] : List Cert) = acc
  induction l generalizing p acc with
  | nil => rw [List.map_nil, loadLoop, Option.map_some, List.append_nil]; rfl
  | cons e rest ih =>
    rw [List.map_cons, loadLoop, contains_toList, cut_src]
    have h0 : ∀ q : List String, (set.Set.mk q).Contains e = q.contains e := fun _ => rfl
    simp only [List.forIn_cons, id, h0]
    by_cases h1 : p.contains e = true
    · simp only [h1, if_true, pure_bind]; exact ih p acc
    by_cases h2 : (GoLite.cut e (Char.ofNat 58)).2.2 = true
    case neg =>
      simp only [h1, h2, Bool.not_false, Bool.false_eq_true, if_true, if_false, pure_bind, Option.map_none]; rfl
    by_cases h3 : ty = (GoLite.cut e (Char.ofNat 58)).1
    case neg =>
      have h3' : ty.toList ≠ (GoLite.cut e (Char.ofNat 58)).1.toList := fun x => h3 (String.toList_inj.1 x)
      simp only [h1, h2, h3', bne_iff_ne.2 h3, bne_iff_ne.2 (Ne.symm h3), ne_eq, not_false_eq_true, Bool.not_true,
        Bool.false_eq_true, if_true, if_false, pure_bind]
      exact ih p acc
    simp only [h1, h2, ← h3, bne_self_eq_false, ne_eq, not_true_eq_false, Bool.not_true, Bool.false_eq_true,
      if_true, if_false, worldOf_eq]
    by_cases h4 : (st.GetCertificates ctx ty (GoLite.cut e (Char.ofNat 58)).2.1).2.isSome = true
    · -- the load fails: both sides are `(none, true)`
      simp only [h4, if_true, pure_bind]; exact congrArg (Prod.mk none) h4
    · simp only [h4, Bool.false_eq_true, if_false, pure_bind]
      refine (ih (e :: p) (acc ++ _)).trans ?_
      simp only [List.map_cons, Option.map_map, Function.comp_def, List.append_assoc]

/-- an oracle for the test vectors below: ca/alpha and ca/gamma hold one certificate each, nothing else loads -/
def exStore : truststore.X509TrustStore :=
  ⟨fun _ ty n => if ty == "ca" && n == "alpha" then ([⟨⟨"CN=root"⟩⟩], none)
    else if ty == "ca" && n == "gamma" then ([⟨⟨"CN=other"⟩⟩], none) else ([], some ⟨"truststore.TrustStoreError"⟩)⟩
example : loadX509TrustStoresWithType () "ca" "p" ["ca:alpha", "tsa:alpha", "ca:alpha", "ca:gamma"] exStore =
    (some [⟨⟨"CN=root"⟩⟩, ⟨⟨"CN=other"⟩⟩], none) := by decide +kernel
example : loadX509TrustStoresWithType () "ca" "p" ["ca:alpha", "ca:beta", "ca:gamma"] exStore =
    (none, some ⟨"truststore.TrustStoreError"⟩) := by decide +kernel
example : (loadX509TrustStoresWithType () "signingAuthority" "p" ["ca:alpha", "nosep"] exStore).2.isSome = true := by decide +kernel

/-! #### the scheme switches in front of the loop -/

def schemeName : Scheme → signature.SigningScheme
  | .x509 => signature.SigningSchemeX509
  | .signingAuthority => signature.SigningSchemeX509SigningAuthority

theorem storeTypeOf_src (s : Scheme) :
    storeTypeOf s = (match s with
      | .x509 => truststore.TypeCA
      | .signingAuthority => truststore.TypeSigningAuthority).toList := by
  cases s
  · exact typeCA_toList.symm
  · exact typeSigningAuthority_toList.symm

/-- TIE: `loadX509TrustStores` (translated) maps each of the two schemes to the store type the
model's `storeTypeOf` names and then returns what the model's `loadStores` returns - for every
list and oracle -/
theorem source_loadX509TrustStores_refines_model (ctx : context.Context) (s : Scheme) (pn : String) (l : List String)
    (st : truststore.X509TrustStore) :
    shape (loadX509TrustStores ctx (schemeName s) pn l st) =
      ofModel (loadStores (worldOf ctx st) s (l.map String.toList)).2 := by
  unfold loadStores
  rw [storeTypeOf_src, ← source_loadX509TrustStoresWithType_refines_model ctx _ pn l st]
  unfold loadX509TrustStores
  have hne := schemes_ne
  cases s <;> simp [schemeName, Id.run, GoLite.idPure, hne, Ne.symm hne]

theorem source_loadX509TrustStores_other_scheme (ctx : context.Context) (scheme pn : String) (l : List String)
    (st : truststore.X509TrustStore) (h1 : scheme ≠ signature.SigningSchemeX509)
    (h2 : scheme ≠ signature.SigningSchemeX509SigningAuthority) :
    shape (loadX509TrustStores ctx scheme pn l st) = (none, true) := by
  unfold loadX509TrustStores
  have h1' := Ne.symm h1
  have h2' := Ne.symm h2
  simp [Id.run, h1, h2, h1', h2', shape, GoLite.idPure]

/-- TIE: `loadX509TSATrustStores` (the timestamp path) loads the stores of type `tsa` for
notary.x509 and fails for every other scheme -/
theorem source_loadX509TSATrustStores_refines_model (ctx : context.Context) (pn : String) (l : List String)
    (st : truststore.X509TrustStore) :
    shape (loadX509TSATrustStores ctx signature.SigningSchemeX509 pn l st) =
      ofModel (loadLoop (worldOf ctx st) Facts.c03TypeTSA (l.map String.toList) []).2 ∧
    ∀ scheme, scheme ≠ signature.SigningSchemeX509 →
      shape (loadX509TSATrustStores ctx scheme pn l st) = (none, true) := by
  constructor
  · rw [← typeTSA_toList, ← source_loadX509TrustStoresWithType_refines_model ctx _ pn l st]
    unfold loadX509TSATrustStores
    simp [Id.run, GoLite.idPure]
  · intro scheme h
    unfold loadX509TSATrustStores
    have h' := Ne.symm h
    simp [Id.run, h, h', shape, GoLite.idPure]

example : loadX509TrustStores () "notary.x509.signingAuthority" "p" ["ca:alpha", "signingAuthority:alpha"] exStore =
    (none, some ⟨"truststore.TrustStoreError"⟩) := by decide +kernel
example : (loadX509TrustStores () "notary.x509" "p" ["ca:alpha", "signingAuthority:alpha"] exStore).1.isSome = true := by decide +kernel

/-! #### `isTSATrustStoreInPolicy` -/

/-- what is compared for `isTSATrustStoreInPolicy`: the answer and whether an error is returned -/
def ofTsa : Option Bool → Bool × Bool
  | some b => (b, false)
  | none => (false, true)

/-- TIE: `isTSATrustStoreInPolicy` (translated) answers what the model's `tsaInPolicy` answers:
true at the first value of type tsa, an error at a value without separator met before that -/
theorem source_isTSATrustStoreInPolicy_refines_model (pn : String) (l : List String) :
    ((isTSATrustStoreInPolicy pn l).1, (isTSATrustStoreInPolicy pn l).2.isSome) =
      ofTsa (tsaInPolicy (l.map String.toList)) := by
  -- the loop keeps no state: by induction on the list, one case per guard of the body (the type
  -- comparison may be written either way round)
  unfold isTSATrustStoreInPolicy
  simp only [Id.run]
  induction l with
  | nil => rfl
  | cons e rest ih =>
    rw [List.map_cons, tsaInPolicy, cut_src]
    simp only [List.forIn_cons, id]
    by_cases h2 : (GoLite.cut e (Char.ofNat 58)).2.2 = true
    case neg => simp only [h2, Bool.not_false, Bool.false_eq_true, if_true, if_false, pure_bind]; rfl
    by_cases h3 : (GoLite.cut e (Char.ofNat 58)).1 = truststore.TypeTSA
    · simp only [h2, h3, beq_self_eq_true, Bool.not_true, Bool.false_eq_true, if_true, if_false, pure_bind,
        ← typeTSA_toList]
      rfl
    · have h3' : ¬ (GoLite.cut e (Char.ofNat 58)).1.toList = Facts.c03TypeTSA :=
        fun x => h3 (String.toList_inj.1 (x.trans typeTSA_toList.symm))
      simp only [h2, h3', beq_eq_false_iff_ne.2 h3, beq_eq_false_iff_ne.2 (Ne.symm h3), Bool.not_true,
        Bool.false_eq_true, if_true, if_false, pure_bind]
      exact ih
example : isTSATrustStoreInPolicy "p" ["ca:alpha", "tsa:beta", "nosep"] = (true, none) := by decide +kernel
example : isTSATrustStoreInPolicy "p" ["ca:alpha", "nosep", "tsa:beta"] = (false, some ⟨"truststore.TrustStoreError"⟩) := by decide +kernel
example : isTSATrustStoreInPolicy "p" ["ca:tsa", "signingAuthority:alpha"] = (false, none) := by decide +kernel

theorem tsaInPolicy_true (l : List Text) (h : tsaInPolicy l = some true) :
    ∃ n, entry Facts.c03TypeTSA n ∈ l := by
  fun_induction tsaInPolicy l with
  | case1 => cases h
  | case2 e rest hc => cases h
  | case3 e rest n hc => exact ⟨n, (cut_some e _ n hc).1 ▸ List.mem_cons_self⟩
  | case4 e rest t n hc ht ih =>
    obtain ⟨n', hn'⟩ := ih h
    exact ⟨n', List.mem_cons_of_mem _ hn'⟩

end Tie

end NotationModel.C03
