/-
C12 (picked up by `check` as `Props/C12_*.lean`): the (outcome, error) discipline of the translated
`(*verifier).Verify` (verifier/verifier.go, `Generated/SrcVerifyOCI.lean`, regenerated on every run),
for EVERY behaviour of its oracles - the statement selection of the policy
document, `processSignature`, the decoding of the payload (`Src/TypesVerify.lean`). It rests on the tie
of `Verify` to C01's `core` (`Props/C01_Verify.lean`) and states what C12 asks of this entry point:
no error means an outcome without error, and a failure after policy selection comes with an outcome
whose error is set; and it places each class of configuration on the observation C12's model predicts
for `Entry.vVerify` under the guards found in the source. For the translated `(*verifier).VerifyBlob`
(`Generated/SrcVerifyBlobV.lean`) the same discipline is stated by statement class only (last section).
-/
import NotationModel.Props.C12
import NotationModel.Props.C01_VerifyBlob

namespace NotationModel.C12.Tie
open NotationModel.Src NotationModel.Src.verifier
open NotationModel.C01.Tie (viewV toInputV)

/-- the statement class of C12's model that a configuration of `Verify` falls in -/
def stmtOf (v : VerifierV) (opts : OptsV) : Stmt :=
  match v.ociTrustPolicyDoc with
  | none => .missing
  | some d =>
    if (d.GetApplicableTrustPolicy opts.ArtifactReference).2.isSome then .noMatch
    else if reflect.DeepEqual (trustpolicy.GetVerificationLevel (d.GetApplicableTrustPolicy opts.ArtifactReference).1.SignatureVerification).1
        trustpolicy.LevelSkip then .skip
    else .enforce

/-- the part of C12's observation the translated function has: was an error returned, and does the outcome carry one -/
def viewObs (o : Obs) : Bool × Option Bool := (!o.err, o.outcome.map (·.hasError))

theorem outcome_of_view {r : Option verifier.«notation».VerificationOutcome × Option GoLite.Err} {b : Bool}
    (h : (viewV r).2 = some b) : ∃ o, r.1 = some o ∧ o.Error.isSome = b := by
  cases ho : r.1 with
  | none => simp [viewV, ho] at h
  | some o => exact ⟨o, rfl, by simpa [viewV, ho] using h⟩

/-- the tie of `Verify` to C01's `core`, read by statement class -/
theorem source_Verify_by_stmt (env : EnvV) (v : VerifierV) (desc : ocispec.Descriptor)
    (signature : «notation».SigBlob) (opts : OptsV)
    (hErr : ∀ a b c d e f g o, (env.processSignature a b c d e f g o).2.Error = o.Error) :
    match stmtOf v opts with
    | .missing | .noMatch => viewV (Verify env v desc signature opts) = (false, none)
    | .skip => viewV (Verify env v desc signature opts) = (true, some false)
    | .enforce => (viewV (Verify env v desc signature opts)).2 = some (!(viewV (Verify env v desc signature opts)).1) := by
  have h := C01.Tie.source_Verify_refines_model env v desc signature opts hErr
  unfold stmtOf
  cases hd : v.ociTrustPolicyDoc with
  | none => simp only [hd] at h ⊢; exact h
  | some d =>
    simp only [hd] at h ⊢
    by_cases hp : (d.GetApplicableTrustPolicy opts.ArtifactReference).2.isSome = true
    · simp only [hp, if_true] at h ⊢; exact h
    · simp only [hp, Bool.false_eq_true, if_false] at h ⊢
      by_cases hs : (toInputV env desc signature opts (d.GetApplicableTrustPolicy opts.ArtifactReference).1).skip = true
      · rw [h, C01.core_skip _ hs]; simp only [toInputV] at hs; simp only [hs, if_true]
      · rw [h]; simp only [toInputV] at hs; simp only [hs, Bool.false_eq_true, if_false]; exact C01.core_consistent _

/-- TIE (translated source), C12's discipline: whatever the oracles answer, `Verify` returns
* no outcome and an error when the verifier has no OCI policy document or no statement applies,
* otherwise ALWAYS an outcome, whose error is set exactly when an error is returned. -/
theorem source_Verify_refines_model_consistency (env : EnvV) (v : VerifierV) (desc : ocispec.Descriptor)
    (signature : «notation».SigBlob) (opts : OptsV)
    (hErr : ∀ a b c d e f g o, (env.processSignature a b c d e f g o).2.Error = o.Error) :
    let r := viewV (Verify env v desc signature opts)
    match stmtOf v opts with
    | .missing | .noMatch => r = (false, none)
    | .skip | .enforce => r.2 = some (!r.1) := by
  have h := source_Verify_by_stmt env v desc signature opts hErr
  cases hst : stmtOf v opts <;> simp only [hst] at h ⊢
  · exact h
  · exact h
  · rw [h]; rfl
  · exact h

/-- the two sentences of the property, read off the tie: no error means an outcome without error ... -/
theorem source_Verify_no_error_means_clean_outcome (env : EnvV) (v : VerifierV) (desc : ocispec.Descriptor)
    (signature : «notation».SigBlob) (opts : OptsV)
    (hErr : ∀ a b c d e f g o, (env.processSignature a b c d e f g o).2.Error = o.Error)
    (hok : (Verify env v desc signature opts).2.isNone = true) :
    ∃ o, (Verify env v desc signature opts).1 = some o ∧ o.Error = none := by
  have h := source_Verify_refines_model_consistency env v desc signature opts hErr
  have h1 : (viewV (Verify env v desc signature opts)).1 = true := hok
  cases hst : stmtOf v opts <;> simp only [hst] at h
  · simp [h] at h1
  · simp [h] at h1
  all_goals
    rw [h1] at h
    obtain ⟨o, ho, he⟩ := outcome_of_view h
    exact ⟨o, ho, by simpa using he⟩

/-- ... and a failure after policy selection comes with an outcome whose error is set -/
theorem source_Verify_failure_after_selection_has_outcome (env : EnvV) (v : VerifierV) (desc : ocispec.Descriptor)
    (signature : «notation».SigBlob) (opts : OptsV)
    (hErr : ∀ a b c d e f g o, (env.processSignature a b c d e f g o).2.Error = o.Error)
    (hsel : stmtOf v opts = .skip ∨ stmtOf v opts = .enforce)
    (hfail : (Verify env v desc signature opts).2.isSome = true) :
    ∃ o, (Verify env v desc signature opts).1 = some o ∧ o.Error.isSome = true := by
  have h := source_Verify_refines_model_consistency env v desc signature opts hErr
  have h1 : (viewV (Verify env v desc signature opts)).1 = false := by
    cases hx : (Verify env v desc signature opts).2 <;> simp_all [viewV]
  rcases hsel with hst | hst <;> simp only [hst, h1] at h <;> exact outcome_of_view h

/-- the observation of C12's model for `verifier.Verify`, for the statement class and the verdict `ok` of the
enforcing path, under the guards found in the source (`vVerify` reads neither `blob` nor, for these two signatures,
`manager`) -/
def modelObs (st : Stmt) (ok : Bool) : Obs :=
  vVerify sourceGuards
    { entry := .vVerify, oci := st, blob := .missing, manager := true,
      sig := (if ok then Sig.valid else Sig.garbage),
      fuzz := false, label := "", data := "" }

theorem viewObs_modelObs (st : Stmt) (ok : Bool) :
    viewObs (modelObs st ok) = match st with
      | .missing | .noMatch => (false, none)
      | .skip => (true, some false)
      | .enforce => (ok, some (!ok)) := by
  cases st <;> cases ok <;> decide +kernel

/-- TIE to C12's model: the translated `Verify` shows, in every configuration and for every oracle, the
(error, outcome-error) pair that C12's `vVerify` predicts for the configuration's statement class (the verdict of the
enforcing path is the one the function itself returns: the model's `Sig` only names who is to blame) -/
theorem source_Verify_refines_model_c12 (env : EnvV) (v : VerifierV) (desc : ocispec.Descriptor)
    (signature : «notation».SigBlob) (opts : OptsV)
    (hErr : ∀ a b c d e f g o, (env.processSignature a b c d e f g o).2.Error = o.Error) :
    viewV (Verify env v desc signature opts) =
      viewObs (modelObs (stmtOf v opts) (Verify env v desc signature opts).2.isNone) := by
  have h := source_Verify_by_stmt env v desc signature opts hErr
  rw [viewObs_modelObs]
  cases hst : stmtOf v opts <;> simp only [hst] at h ⊢
  · exact h
  · exact h
  · exact h
  · exact Prod.ext rfl h

/-! ### the same discipline for the translated `(*verifier).VerifyBlob` (`Generated/SrcVerifyBlobV.lean`) -/
section Blob
open NotationModel.Src.verifier.blob
open NotationModel.C01.TieB (viewB toInputB lookupB)

/-- the statement class of C12's model that a configuration of `VerifyBlob` falls in -/
def stmtOfB (v : VerifierB) (opts : OptsB) : Stmt :=
  match v.blobTrustPolicyDoc with
  | none => .missing
  | some d =>
    if (lookupB d opts).2.isSome then .noMatch
    else if reflect.DeepEqual (Src.trustpolicy.GetVerificationLevel (GoLite.deref (lookupB d opts).1).SignatureVerification).1
        Src.trustpolicy.LevelSkip then .skip
    else .enforce

/-- TIE (translated source), C12's discipline for blobs: whatever the oracles answer (the policy document's two lookups,
`processSignature`, the decoding of the payload, the caller's descriptor generator - failing or not), `VerifyBlob` returns
* no outcome and an error when the verifier has no blob policy document or the lookup fails,
* otherwise ALWAYS an outcome, whose error is set exactly when an error is returned (so also when no digest algorithm is
  bound to the signature algorithm and when the descriptor cannot be generated). -/
theorem source_VerifyBlobWhole_refines_model_consistency (env : EnvB) (v : VerifierB)
    (gen : digest.Algorithm → ocispec.Descriptor × Option GoLite.Err)
    (signature : Src.«notation».SigBlob) (opts : OptsB)
    (hErr : ∀ a b c d e f g o, (env.processSignature a b c d e f g o).2.Error = o.Error)
    (hPtr : ∀ d, v.blobTrustPolicyDoc = some d → (lookupB d opts).2 = none → (lookupB d opts).1.isSome = true) :
    let r := viewB (VerifyBlob env v gen signature opts)
    match stmtOfB v opts with
    | .missing | .noMatch => r = (false, none)
    | .skip | .enforce => r.2 = some (!r.1) := by
  have h := C01.TieB.source_VerifyBlobWhole_refines_model env v gen signature opts hErr hPtr
  unfold stmtOfB
  cases hd : v.blobTrustPolicyDoc with
  | none => simp only [hd] at h ⊢; exact h
  | some d =>
    simp only [hd] at h ⊢
    by_cases hp : (lookupB d opts).2.isSome = true
    · simp only [hp, if_true] at h ⊢; exact h
    · simp only [hp, Bool.false_eq_true, if_false] at h ⊢
      have hc := C01.core_consistent (toInputB env gen signature opts (GoLite.deref (lookupB d opts).1))
      by_cases hs : reflect.DeepEqual (Src.trustpolicy.GetVerificationLevel (GoLite.deref (lookupB d opts).1).SignatureVerification).1
          Src.trustpolicy.LevelSkip = true
      · simp only [hs, if_true]; rw [h]; exact hc
      · simp only [hs, Bool.false_eq_true, if_false]; rw [h]; exact hc

/-- a failing descriptor generator (an unreadable blob) is a failure after policy selection: outcome with its error set -/
example : viewB (VerifyBlob (C01.TieB.envB .AlgorithmES384 C01.TieB.blobDesc) C01.TieB.vB
    (fun _ => (default, some ⟨"read error"⟩)) ⟨0⟩ (C01.TieB.optsB "p" [])) = (false, some true) := by decide +kernel
end Blob

/-! non-vacuity: the four statement classes on concrete oracles -/
section Examples
open NotationModel.C01.Tie (v0 art env0 opts0 tp0)
example : stmtOf v0 (opts0 []) = .enforce := by decide +kernel
example : stmtOf { ociTrustPolicyDoc := none } (opts0 []) = .missing := by decide +kernel
example : stmtOf { ociTrustPolicyDoc := some { GetApplicableTrustPolicy := fun _ => (tp0, some ⟨"no"⟩) } } (opts0 []) = .noMatch := by decide +kernel
example : stmtOf { ociTrustPolicyDoc := some { GetApplicableTrustPolicy := fun _ => (⟨"p", ["*"], [], ⟨"skip", []⟩⟩, none) } } (opts0 []) = .skip := by decide +kernel
/-- enforce, another artifact's signature: an error AND an outcome with its error set -/
example : (viewV (Verify (env0 { art with Digest := "sha256:b" }) v0 art ⟨0⟩ (opts0 []))).2 = some true := by decide +kernel
end Examples

end NotationModel.C12.Tie
