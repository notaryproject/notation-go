/-
C20 - Plugin installation follows the version rules and never half-replaces a plugin.
Property theorems; the model is in `Model/C20.lean`, helper lemmas in `Lemmas/C20*.lean`.
-/
import NotationModel.Lemmas.C20Install
import NotationModel.Generated.SrcC20
import NotationModel.Generated.SrcC20b

namespace NotationModel.C20

/-! ## 0. facts read from the Go source this run (a changed fact breaks these proofs) -/

/-- the model's grammar (`parseVersion`) was written against exactly this pattern -/
theorem semver_regex_pinned : Facts.semverRegex =
    "^(0|[1-9]\\d*)\\.(0|[1-9]\\d*)\\.(0|[1-9]\\d*)(?:-((?:0|[1-9]\\d*|\\d*[a-zA-Z-][0-9a-zA-Z-]*)(?:\\.(?:0|[1-9]\\d*|\\d*[a-zA-Z-][0-9a-zA-Z-]*))*))?(?:\\+([0-9a-zA-Z-]+(?:\\.[0-9a-zA-Z-]+)*))?$" := rfl

/-- `IsValid` is the regex (what `ComparePluginVersion` does with it is not pinned as text:
the translated function is tied to the model in section 5, `Tie`) -/
theorem semver_calls_pinned :
    Facts.semverIsValidCalls = ["semVerRegEx.MatchString(version)"] := rfl

/-- both directory walks skip every sub-directory (and only the root is not skipped) -/
theorem skip_tests_pinned :
    Facts.copyDirSkipTest = "d.IsDir()&&path!=src" ∧ Facts.parseDirSkipTest = "d.IsDir()&&p!=path" :=
  ⟨rfl, rfl⟩

theorem file_mode_facts_pinned :
    Facts.isExecutableTest = "mode.Perm()&0100!=0" ∧
    Facts.copyToDirChmod = "sourceFileInfo.Mode()&os.FileMode(0755)" :=
  ⟨rfl, rfl⟩

theorem name_facts_pinned :
    Facts.binaryPrefix = "notation-" ∧ Facts.binNameExpr = "plugin.BinaryPrefix+name" ∧
    Facts.parsePluginNameCalls = ["strings.CutPrefix(fileName,plugin.BinaryPrefix)"] ∧
    Facts.validatePluginNameTest = "name==\"\"||name==\".\"||name==\"..\"||strings.ContainsAny(name,\"/\\\\\\x00\")" :=
  ⟨rfl, rfl, rfl, rfl⟩

/-- in `Install`: locating the plugin only reads (`parsePluginFromDir` modifies nothing); the
name check and the guard "the source is not inside the plugin's own directory" come before
the first write (`setExecutable` on the candidate of a source directory); every check (new
metadata, existing plugin, versions) comes before the removal of the old directory, and only
the copy follows it (13 = the calls up to and including the clean-up `m.Uninstall`) -/
theorem removal_after_all_checks :
    Facts.installCalls.take 13 = ["parsePluginFromDir", "parsePluginName", "isExecutableFile", "validatePluginName",
      "isPathWithin", "isExecutableFile", "setExecutable", "NewCLIPlugin", "newPlugin.GetMetadata", "m.Get",
      "existingPlugin.GetMetadata", "semver.ComparePluginVersion", "m.Uninstall"] ∧
    -- after the clean-up only the two copies, in whatever order the branches are written
    (Facts.installCalls.drop 13).length = 2 ∧
    (Facts.installCalls.drop 13).all (fun c => c == "file.CopyToDir" || c == "file.CopyDirToDir") = true ∧
    Facts.parseDirWrites = [] ∧
    Facts.installWithinGuard = "isPathWithin(installOpts.PluginPath,pluginDirPath)" ∧
    Facts.isPathWithinCalls = ["filepath.Rel(resolve(dir),resolve(path))",
      "strings.HasPrefix(rel,\"..\"+string(filepath.Separator))"] ∧
    Facts.uninstallCalls = ["validatePluginName", "m.pluginFS.SysPath", "os.Stat", "os.RemoveAll"] :=
  ⟨rfl, rfl, rfl, rfl, rfl, rfl, rfl⟩

/-! ## 1. the model satisfies every clause, for all inputs -/

theorem spec_refusedNoop (R : List PluginObs) (op : Op) : cRefusedNoop (R, op, specStep1 R op) = true := by
  obtain ⟨e, ex, nw, R', h, hr, _⟩ := specStep1_shape R op
  rw [h]
  by_cases he : e = .ok
  · simp [cRefusedNoop, mkStep, he]
  · simp [cRefusedNoop, mkStep, hr he]

theorem spec_listed (R : List PluginObs) (op : Op) : cListed (R, op, specStep1 R op) = true := by
  obtain ⟨e, ex, nw, R', h, _⟩ := specStep1_shape R op
  rw [h]
  simp [cListed, mkStep]

theorem spec_uninstall (R : List PluginObs) (op : Op) : cUninstall (R, op, specStep1 R op) = true := by
  simp only [cUninstall]
  by_cases hk : op.kind = .uninstall
  · simp only [specStep1, hk]
    by_cases hv : validName op.name = true
    · cases lookupR R op.name <;> simp [hv, mkStep]
    · simp [hv, mkStep]
  · simp [hk]

theorem spec_installExact (R : List PluginObs) (op : Op) : cInstallExact (R, op, specStep1 R op) = true := by
  simp only [cInstallExact]
  by_cases hk : op.kind = .install
  · rw [specStep1_install hk]
    cases specNew op with
    | none => simp [mkStep]
    | some nw =>
      simp only []
      split
      · simp [mkStep]
      · simp [mkStep, refusalR_ne_ok]
  · simp [isInstall, hk]

theorem spec_replaceOnlyIf (R : List PluginObs) (op : Op) : cReplaceOnlyIf (R, op, specStep1 R op) = true := by
  simp only [cReplaceOnlyIf]
  by_cases hk : op.kind = .install
  · rw [specStep1_install hk]
    cases specNew op with
    | none => simp [mkStep]
    | some nw =>
      simp only []
      cases existingR R nw.name with
      | none => simp
      | some p => cases ha : (op.overwrite || higher nw.version p) <;> simp [mkStep, ha, refusalR_ne_ok]
  · simp [isInstall, hk]

theorem spec_installWhenAllowed (R : List PluginObs) (op : Op) :
    cInstallWhenAllowed (R, op, specStep1 R op) = true := by
  simp only [cInstallWhenAllowed]
  by_cases hk : op.kind = .install
  · rw [specStep1_install hk]
    cases specNew op with
    | none => simp [mkStep]
    | some nw =>
      simp only []
      cases existingR R nw.name with
      | none => simp [mkStep]
      | some p => cases ha : (op.overwrite || higher nw.version p) <;> simp [mkStep, ha]
  · simp [isInstall, hk]

theorem spec_refusalClass (R : List PluginObs) (op : Op) : cRefusalClass (R, op, specStep1 R op) = true := by
  simp only [cRefusalClass]
  by_cases hk : op.kind = .install
  · rw [specStep1_install hk]
    cases specNew op with
    | none => simp [mkStep]
    | some nw =>
      simp only []
      split
      · simp [mkStep]
      · rename_i ha
        simpa [mkStep, isInstall, hk, overwrite_of_not_allowedR ha] using refusalR_class (existingR R nw.name) nw.version
  · obtain ⟨e, ex, nw, R', h, _, hc⟩ := specStep1_shape R op
    rw [h]
    simp [mkStep, hc hk]

theorem specStep1_root_mem (R : List PluginObs) (op : Op) (p : PluginObs) (hp : p ∈ (specStep1 R op).root) :
    p.version.isSome = true ∨ p ∈ R ∨ touches op p.name = true := by
  cases hk : op.kind with
  | install =>
    rw [specStep1_install hk] at hp
    cases hn : specNew op with
    | none => rw [hn] at hp; exact Or.inr (Or.inl hp)
    | some nw =>
      simp only [hn] at hp
      split at hp
      · rcases mem_putBy PluginObs.name hp with rfl | hp
        · exact Or.inl rfl
        · exact Or.inr (Or.inl (mem_delBy hp))
      · exact Or.inr (Or.inl hp)
  | uninstall =>
    simp only [specStep1, hk] at hp
    split at hp
    · exact Or.inr (Or.inl hp)
    · split at hp
      · exact Or.inr (Or.inl (mem_delBy hp))
      · exact Or.inr (Or.inl hp)
  | plant =>
    simp only [specStep1, hk] at hp
    split at hp
    · exact Or.inr (Or.inl hp)
    · rcases mem_putBy PluginObs.name hp with rfl | hp
      · exact Or.inr (Or.inr (by simp [touches, hk, pobs]))
      · exact Or.inr (Or.inl (mem_delBy hp))
  | rmexe =>
    simp only [specStep1, hk, mkStep] at hp
    delta rmexeObs at hp
    rcases mem_map_at PluginObs.name hp (fun _ => rfl) with h | h
    · exact Or.inr (Or.inl h)
    · exact Or.inr (Or.inr (by simp [touches, hk, h]))
  | rminterp =>
    simp only [specStep1, hk, mkStep] at hp
    delta rminterpObs at hp
    rcases mem_map_at PluginObs.name hp (fun _ => rfl) with h | h
    · exact Or.inr (Or.inl h)
    · exact Or.inr (Or.inr (by simp [touches, hk, h]))

theorem spec_answers (R : List PluginObs) (op : Op) : cAnswers (R, op, specStep1 R op) = true := by
  unfold cAnswers
  simp only [List.all_eq_true, Bool.or_eq_true]
  intro p hp
  rcases specStep1_root_mem R op p hp with h | h | h
  · exact Or.inl (Or.inl h)
  · exact Or.inl (Or.inr (List.contains_iff_mem.2 h))
  · exact Or.inr h

theorem specRun_length : ∀ (ops : List Op) (R : List PluginObs), (specRun R ops).length = ops.length := by
  intro ops; induction ops with
  | nil => intro R; rfl
  | cons op ops ih => intro R; simp [specRun, ih]

theorem triples_specRun (P : Triple → Bool)
    (hP : ∀ R op, P (R, op, specStep1 R op) = true) :
    ∀ (ops : List Op) (R : List PluginObs), (triples ops (specRun R ops) R).all P = true := by
  intro ops
  induction ops with
  | nil => intro R; rfl
  | cons op ops ih =>
    intro R
    have h1 : P (touchR R op, op, specStep R op) = true := hP (touchR R op) op
    simp only [specRun, triples, List.all_cons, h1, Bool.true_and]
    exact ih _

theorem compare_defined_iff (v w : Text) :
    (compareVersions v w).isSome = (isValid v && isValid w) := by
  unfold compareVersions isValid
  cases parseVersion v <;> cases parseVersion w <;> rfl

/-- **the model satisfies the property for every input** (any sequence of install / uninstall /
plant / rmexe / rminterp operations of any length over any sources, any pair of version strings; no
well-formedness hypothesis, no invariant needed) -/
theorem model_holds (i : Input) : Holds i (run i) = true := by
  unfold Holds clauses run
  by_cases hk : (i.kind == "semver") = true
  · simp [hk, Clauses.holds, compare_defined_iff]
  · simp only [hk, if_false, Bool.false_eq_true]
    rw [runOps_eq_spec i.ops []]
    simp only [Clauses.holds, List.all_cons, List.all_nil, Bool.and_true, Bool.and_eq_true]
    refine ⟨by simp [specRun_length], ?_, ?_, ?_, ?_, ?_, ?_, ?_, ?_⟩
    · exact triples_specRun _ spec_refusedNoop _ _
    · exact triples_specRun _ spec_installExact _ _
    · exact triples_specRun _ spec_replaceOnlyIf _ _
    · exact triples_specRun _ spec_installWhenAllowed _ _
    · exact triples_specRun _ spec_refusalClass _ _
    · exact triples_specRun _ spec_listed _ _
    · exact triples_specRun _ spec_answers _ _
    · exact triples_specRun _ spec_uninstall _ _

/-! ## 2. semantic-version precedence (semver.org item 11), declaratively -/

/-- lexicographic order: a proper prefix is smaller; else the first difference decides -/
inductive LexLt {α : Type} (r : α → α → Prop) : List α → List α → Prop
  | nil {b : α} {bs : List α} : LexLt r [] (b :: bs)
  | head {a b : α} {as bs : List α} : r a b → LexLt r (a :: as) (b :: bs)
  | tail {a : α} {as bs : List α} : LexLt r as bs → LexLt r (a :: as) (a :: bs)

theorem lex_lt_iff {α : Type} {c : α → α → Ordering} (g : Good c) {r : α → α → Prop}
    (hr : ∀ a b, c a b = .lt ↔ r a b) :
    ∀ (as bs : List α), lex c as bs = .lt ↔ LexLt r as bs := by
  intro as
  induction as with
  | nil =>
    intro bs
    cases bs with
    | nil => exact ⟨fun h => (by cases h), fun h => (by cases h)⟩
    | cons b bs => exact ⟨fun _ => .nil, fun _ => rfl⟩
  | cons a as ih =>
    intro bs
    cases bs with
    | nil => exact ⟨fun h => (by cases h), fun h => (by cases h)⟩
    | cons b bs =>
      rw [lex_cons_cons, andThen_lt]
      constructor
      · rintro (h | ⟨h1, h2⟩)
        · exact .head ((hr a b).1 h)
        · have := g.eq_imp a b h1; subst this
          exact .tail ((ih bs).1 h2)
      · intro h
        cases h with
        | head h => exact Or.inl ((hr a b).2 h)
        | tail ht => exact Or.inr ⟨g.refl a, (ih bs).2 ht⟩
/-- ASCII (code point) lexical order -/
def TextLt : Text → Text → Prop := LexLt (fun a b => a.toNat < b.toNat)

inductive IdentLt : Ident → Ident → Prop
  | num {a b : Nat} : a < b → IdentLt (.num a) (.num b)             -- numeric: numerically
  | numAlnum {a : Nat} {s : Text} : IdentLt (.num a) (.alnum s)      -- numeric below alphanumeric
  | alnum {s t : Text} : TextLt s t → IdentLt (.alnum s) (.alnum t)  -- alphanumeric: ASCII lexical

/-- a pre-release is below the release; two pre-releases compare identifier by identifier,
a larger set of fields is higher when all preceding ones are equal -/
def PreLt (p q : List Ident) : Prop := (p ≠ [] ∧ q = []) ∨ (p ≠ [] ∧ q ≠ [] ∧ LexLt IdentLt p q)

/-- `v` has lower precedence than `w` (build metadata is not part of a `Version`) -/
def Prec (v w : Version) : Prop :=
  v.major < w.major ∨ (v.major = w.major ∧ (v.minor < w.minor ∨ (v.minor = w.minor ∧
    (v.patch < w.patch ∨ (v.patch = w.patch ∧ PreLt v.pre w.pre)))))

theorem cmpText_lt_iff (s t : Text) : cmpText s t = .lt ↔ TextLt s t :=
  lex_lt_iff good_cmpChar (fun _ _ => cmpNat_lt _ _) s t

theorem cmpIdent_lt_iff (a b : Ident) : cmpIdent a b = .lt ↔ IdentLt a b := by
  cases a with
  | num a =>
    cases b with
    | num b =>
      exact ⟨fun h => .num ((cmpNat_lt _ _).1 h), fun h => by cases h with | num h => exact (cmpNat_lt _ _).2 h⟩
    | alnum t => exact ⟨fun _ => .numAlnum, fun _ => rfl⟩
  | alnum s =>
    cases b with
    | num b => exact ⟨fun h => by simp [cmpIdent] at h, fun h => by cases h⟩
    | alnum t =>
      exact ⟨fun h => .alnum ((cmpText_lt_iff _ _).1 h), fun h => by cases h with | alnum h => exact (cmpText_lt_iff _ _).2 h⟩

theorem cmpPre_lt_iff (p q : List Ident) : cmpPre p q = .lt ↔ PreLt p q := by
  unfold PreLt
  cases p with
  | nil => cases q <;> simp [cmpPre]
  | cons a as =>
    cases q with
    | nil => simp [cmpPre]
    | cons b bs =>
      simp only [cmpPre, ne_eq, reduceCtorEq, not_false_eq_true, true_and, and_false, false_or]
      exact lex_lt_iff good_cmpIdent cmpIdent_lt_iff _ _

/-- **`compare` is the declarative precedence** -/
theorem cmpVersion_lt_iff_prec (v w : Version) : cmpVersion v w = .lt ↔ Prec v w := by
  unfold cmpVersion Prec
  simp only [andThen_lt, cmpNat_lt, cmpNat_eq, cmpPre_lt_iff]

theorem cmpVersion_gt_iff_prec (v w : Version) : cmpVersion v w = .gt ↔ Prec w v := by
  rw [good_cmpVersion.gt_iff, cmpVersion_lt_iff_prec]

theorem prec_irrefl (v : Version) : ¬ Prec v v := by
  rw [← cmpVersion_lt_iff_prec, good_cmpVersion.refl]; simp

theorem prec_trans {u v w : Version} (h1 : Prec u v) (h2 : Prec v w) : Prec u w := by
  rw [← cmpVersion_lt_iff_prec] at *
  exact good_cmpVersion.trans _ _ _ h1 h2

theorem prec_asymm {v w : Version} (h : Prec v w) : ¬ Prec w v := fun h' => prec_irrefl v (prec_trans h h')

theorem prec_trichotomy (v w : Version) : Prec v w ∨ v = w ∨ Prec w v := by
  rw [← cmpVersion_lt_iff_prec, ← good_cmpVersion.eq_iff, ← cmpVersion_gt_iff_prec]
  cases cmpVersion v w <;> simp

theorem compareVersions_gt_iff (vn vo : Text) :
    compareVersions vn vo = some .gt ↔
      ∃ a b, parseVersion vn = some a ∧ parseVersion vo = some b ∧ Prec b a := by
  unfold compareVersions
  cases parseVersion vn <;> cases parseVersion vo <;> simp [cmpVersion_gt_iff_prec]

theorem compareVersions_swap (v w : Text) :
    compareVersions w v = (compareVersions v w).map Ordering.swap := by
  unfold compareVersions
  cases parseVersion v with
  | none => cases parseVersion w <;> rfl
  | some a =>
    cases parseVersion w with
    | none => rfl
    | some b =>
      show some (cmpVersion b a) = some ((cmpVersion a b).swap)
      rw [good_cmpVersion.swap a b]

theorem splitFirst_append_left (sep : Char) (t : List Char) : ∀ (s : List Char), sep ∉ s →
    splitFirst sep (s ++ t) = (s ++ (splitFirst sep t).1, (splitFirst sep t).2) := by
  intro s; induction s with
  | nil => intro _; rfl
  | cons c r ih =>
    intro h
    have hc : (c == sep) = false := beq_eq_false_iff_ne.2 fun e => h (by simp [e])
    simp [splitFirst, hc, ih fun hm => h (List.mem_cons_of_mem _ hm)]

theorem splitFirst_not_mem (sep : Char) (s : List Char) (h : sep ∉ s) : splitFirst sep s = (s, none) := by
  simpa [splitFirst] using splitFirst_append_left sep [] s h

theorem splitFirst_append (sep : Char) (s b : List Char) (h : sep ∉ s) :
    splitFirst sep (s ++ sep :: b) = (s, some b) := by
  simpa [splitFirst] using splitFirst_append_left sep (sep :: b) s h
/-- whether or not `s` is a version -/
theorem parseVersion_append_build (s b : Text) (hs : '+' ∉ s)
    (hb : (splitOn '.' b).all validBuildIdent = true) : parseVersion (s ++ '+' :: b) = parseVersion s := by
  unfold parseVersion
  rw [splitFirst_append '+' s b hs, splitFirst_not_mem '+' s hs]
  simp [hb]

-- `hv` is not needed (see `parseVersion_append_build`): the linter is told
set_option linter.unusedVariables false in
/-- **build metadata is ignored**: appending well-formed build metadata to a version string
without one gives the same parsed version (hence the same precedence) -/
theorem build_metadata_ignored (s b : Text) (hs : '+' ∉ s)
    (hb : (splitOn '.' b).all validBuildIdent = true) (hv : isValid s = true) :
    parseVersion (s ++ '+' :: b) = parseVersion s :=
  parseVersion_append_build s b hs hb

/-! ## 3. installation: the readable theorems on the stateful model -/

/-! `install st op = install1 (touchSt st op) op`: `touchSt` is the source chmod (only visible
when the source directory lies in the plugin root, see `srcChmod`), `install1` everything
else. The theorems about `install1` hold for every root `st`. -/

theorem install_eq (st : State) (op : Op) : install st op = install1 (touchSt st op) op := rfl

theorem touchSt_outside (st : State) (op : Op) (h : op.srcIn = []) : touchSt st op = st := by
  unfold touchSt srcChmod
  cases locate op with
  | none => rfl
  | some l => simp [h]

theorem touchR_versions (R : List PluginObs) (op : Op) :
    (touchR R op).map (fun p => (p.name, p.version)) = R.map (fun p => (p.name, p.version)) := by
  unfold touchR
  cases srcChmod op (specLocate op) with
  | none => rfl
  | some xf =>
    obtain ⟨X, fn⟩ := xf
    simp only [chmodInR, List.map_map]
    apply List.map_congr_left
    intro p _
    simp only [Function.comp]
    split <;> rfl

/-- the source chmod only happens once the name is accepted and the source is not inside the
plugin's own directory (the guard comes first) -/
theorem srcChmod_some {op : Op} {loc : Located} {X fn : Text} (h : srcChmod op (some loc) = some (X, fn)) :
    validName loc.name = true ∧ insideOwn op loc.name = false ∧ loc.chmod = true ∧
      X = op.srcIn ∧ fn = loc.exe.name := by
  unfold srcChmod at h
  simp only at h
  split at h
  · rename_i hc
    cases h
    simp only [Bool.and_eq_true, Bool.not_eq_true'] at hc
    exact ⟨hc.1.1.1.2, hc.1.1.2, hc.1.2, rfl, rfl⟩
  · cases h

theorem install1_refused_noop (st : State) (op : Op) (h : (install1 st op).1.err ≠ .ok) :
    (install1 st op).2 = st := by
  unfold install1 at h ⊢
  cases hn : newOf op (locate op) with
  | none => rfl
  | some nw =>
    simp only [hn] at h ⊢
    cases hr : versionRule st op.overwrite nw with
    | error e => rfl
    | ok ex => simp [hr] at h

/-- whatever the refusal (unusable source, invalid name, source inside
the plugin's own directory, invalid or misnamed metadata, lower / equal / invalid version,
missing plugin on uninstall), the plugin root is what it was - up to the source chmod
(`touchSt`), which is the identity unless the source directory itself lies in the root -/
theorem refused_is_noop (st : State) (op : Op) (h : (step st op).1.err ≠ .ok) :
    (step st op).2 = touchSt st op := by
  cases hk : op.kind with
  | install =>
    simp only [step, hk, install] at h ⊢
    exact install1_refused_noop _ op h
  | uninstall =>
    rw [touchSt_noninstall st op (by simp [hk])]
    simp only [step, hk, uninstall] at h ⊢
    by_cases hv : validName op.name = true
    · cases hf : findBy Plugin.name op.name st <;> simp [hv, hf] at h ⊢
    · simp [hv]
  | plant => simp [step, hk] at h
  | rmexe => simp [step, hk] at h
  | rminterp => simp [step, hk] at h

theorem refused_is_noop_outside (st : State) (op : Op) (ho : op.srcIn = [])
    (h : (step st op).1.err ≠ .ok) : (step st op).2 = st := by
  rw [refused_is_noop st op h, touchSt_outside st op ho]

theorem install_err (st : State) (op : Op) (nw : New) (hn : specNew op = some nw) :
    (install1 st op).1.err = (match versionRule st op.overwrite nw with | .error e => e | .ok _ => .ok) := by
  unfold install1
  rw [locate_eq_spec]
  have hn' : newOf op (specLocate op) = some nw := hn
  simp only [hn']
  cases versionRule st op.overwrite nw <;> rfl

/-- **a source inside the plugin's own installation directory** (the directory itself, its
executable, reached directly or through a symbolic link) **is refused, with or without
overwrite, before anything is touched** - not even the executable bit of a candidate -/
theorem own_directory_source_refused (st : State) (op : Op) (loc : Located)
    (hl : specLocate op = some loc) (ho : insideOwn op loc.name = true) :
    (install st op).1.err = .other ∧ (install st op).2 = st := by
  have hn : newOf op (locate op) = none := by
    rw [locate_eq_spec, hl]; exact newOf_blocked (by simp [blocked, ho])
  have ht : touchSt st op = st := by
    unfold touchSt
    rw [locate_eq_spec, hl]
    simp [srcChmod, ho]
  simp [install, ht, install1, hn]

/-- a context that is already done when Install is called: no plugin is executed, the
installation is refused, the root is what it was (up to the source chmod, which comes
before the first execution) -/
theorem cancelled_context_refused (st : State) (op : Op) (hc : op.ctx = "cancelled") :
    (install st op).1.err = .other ∧ (install st op).2 = touchSt st op := by
  have hn : newOf op (locate op) = none := by
    cases locate op with
    | none => rfl
    | some l => exact newOf_blocked (by simp [blocked, hc])
  simp [install, install1, hn]

/-- an existing, answering plugin (its executable is there and reports
version `vo`) is replaced by a usable source of the same name iff overwrite is requested or
the new version is strictly higher -/
theorem replace_iff (st : State) (op : Op) (nw : New) (hn : specNew op = some nw)
    (f : File) (hf : getExe st nw.name = some f) (vo : Text) (ha : metadata nw.name f = some vo) :
    (install1 st op).1.err = .ok ↔ (op.overwrite = true ∨ compareVersions nw.version vo = some .gt) := by
  rw [install_err st op nw hn]
  simp only [versionRule, hf, ha]
  cases op.overwrite with
  | true => simp
  | false =>
    simp only [versionCheck]
    cases compareVersions nw.version vo with
    | none => simp
    | some o => cases o <;> simp

theorem malfunctioning_replaced_iff_overwrite (st : State) (op : Op) (nw : New) (hn : specNew op = some nw)
    (f : File) (hf : getExe st nw.name = some f) (ha : metadata nw.name f = none) :
    (install1 st op).1.err = .ok ↔ op.overwrite = true := by
  rw [install_err st op nw hn]
  simp only [versionRule, hf, ha]
  cases op.overwrite <;> simp [versionCheck]

/-- no plugin of that name, or only a stale directory without its executable (interrupted
installation, deleted binary): a usable source installs, with or without overwrite -/
theorem absent_or_stale_installs (st : State) (op : Op) (nw : New)
    (hn : specNew op = some nw) (hp : getExe st nw.name = none) :
    (install1 st op).1.err = .ok := by
  rw [install_err st op nw hn]
  simp [versionRule, hp]

theorem install_ok_inv (st : State) (op : Op) (h : (install1 st op).1.err = .ok) :
    ∃ nw, specNew op = some nw ∧ (install1 st op).2 = replace st nw ∧
      (install1 st op).1.new = some nw.version ∧ insideOwn op nw.name = false := by
  unfold install1 at h ⊢
  rw [locate_eq_spec] at h ⊢
  cases hn : newOf op (specLocate op) with
  | none => simp [hn] at h
  | some nw =>
    simp only [hn] at h ⊢
    cases hr : versionRule st op.overwrite nw with
    | error e =>
      simp only [hr] at h
      exact absurd h (versionRule_err_ne_ok hr)
    | ok ex => exact ⟨nw, hn, rfl, rfl, newOf_not_inside hn⟩

theorem topFiles_names (es : List Entry) (n : Text) :
    n ∈ (topFiles es).map File.name ↔ ∃ e ∈ es, e.kind = .file ∧ e.name = n := by
  unfold topFiles
  rw [mem_sortBy_keys]
  simp only [List.mem_map, List.mem_filter]
  constructor
  · rintro ⟨f, ⟨e, ⟨he, hk⟩, rfl⟩, rfl⟩
    exact ⟨e, he, by simpa using hk, rfl⟩
  · rintro ⟨e, he, hk, rfl⟩
    exact ⟨e.toFile, ⟨e, ⟨he, by simp [hk]⟩, rfl⟩, rfl⟩

/-- after a successful Install the plugin's directory holds
exactly the regular top-level files of the source directory (same names, same contents),
resp. exactly the source file; every other plugin is untouched -/
theorem installed_exactly_toplevel (st : State) (op : Op) (h : (install1 st op).1.err = .ok) :
    ∃ nw, specNew op = some nw ∧
      findBy Plugin.name nw.name (install1 st op).2 = some ⟨nw.name, nw.files⟩ ∧
      (op.srcIsDir = true →
        nw.files.map (fun f => (f.name, f.cid, f.script)) =
          (topFiles op.entries).map (fun f => (f.name, f.cid, f.script))) ∧
      (op.srcIsDir = false → ∃ e, op.entries = [e] ∧ nw.files = [e.toFile]) ∧
      (∀ k, k ≠ nw.name → findBy Plugin.name k (install1 st op).2 = findBy Plugin.name k st) := by
  obtain ⟨nw, hn, hst, _, _⟩ := install_ok_inv st op h
  obtain ⟨loc, hl, hv, hb, hm, hname, hfiles⟩ := newOf_some hn
  refine ⟨nw, hn, ?_, ?_, ?_, ?_⟩
  · rw [hst]; unfold replace; exact findBy_putBy_self Plugin.name ⟨nw.name, nw.files⟩ _
  · intro hd
    rw [hfiles]
    simp only [copied, hd, if_true, List.map_map]
    apply List.map_congr_left
    intro f _
    simp only [Function.comp]
    split <;> rfl
  · intro hd
    unfold specLocate at hl
    simp only [hd] at hl
    obtain ⟨e, he, _, hx, hmk⟩ := locateFile_some hl
    obtain ⟨hexe, _, _⟩ := mkLocated_some hmk
    refine ⟨e, he, ?_⟩
    rw [hfiles]
    simp only [copied, hd, hexe]
    simp [Entry.toFile, hx]
  · intro k hk
    rw [hst]
    unfold replace
    rw [findBy_putBy_ne Plugin.name _ _ (fun e => hk e.symm), findBy_delBy_ne Plugin.name _ hk]

/-- after a successful Install the plugin is
listed, `Get` + `GetMetadata` answer with the new version, and `Uninstall` by its name
succeeds and removes it (and nothing else) -/
theorem then_listable_fetchable_uninstallable (st : State) (op : Op) (h : (install1 st op).1.err = .ok) :
    ∃ nw, specNew op = some nw ∧
      nw.name ∈ ((observe (install1 st op).2).map (·.name)) ∧
      (getExe (install1 st op).2 nw.name).bind (metadata nw.name) = some nw.version ∧
      (uninstall (install1 st op).2 nw.name).1.err = .ok ∧
      findBy Plugin.name nw.name (uninstall (install1 st op).2 nw.name).2 = none ∧
      (∀ k, k ≠ nw.name →
        findBy Plugin.name k (uninstall (install1 st op).2 nw.name).2 = findBy Plugin.name k st) := by
  obtain ⟨nw, hn, hfind, _, _, hother⟩ := installed_exactly_toplevel st op h
  have hv := newOf_valid hn
  have hu : uninstall (install1 st op).2 nw.name =
      (⟨.ok, none, none⟩, delBy Plugin.name nw.name (install1 st op).2) := by simp [uninstall, hv, hfind]
  refine ⟨nw, hn, ?_, ?_, ?_⟩
  · rw [observe_names]
    exact List.mem_map.2 ⟨_, (findBy_some Plugin.name hfind).1, rfl⟩
  · simp only [getExe, hv, hfind, Bool.not_true, Bool.false_eq_true, if_false]
    simpa [answer, hv] using answer_new hn
  · rw [hu]
    exact ⟨rfl, findBy_delBy_self Plugin.name _ _, fun k hk => by
      rw [findBy_delBy_ne Plugin.name _ hk, hother k hk]⟩

theorem dir_locates_its_executable (es : List Entry) (f : File) (h : execs (topFiles es) = [f])
    (e : Entry) (he : e.kind = .file) (hx : e.exec = true) (hf : e.toFile = f) :
    specLocateDir es = locateFile [e] := by
  unfold locateFile
  rw [specLocateDir_eq, h]
  simp [he, hx, hf]

/-- as coded: a source directory given as a symbolic link is not walked, so it is refused
(and, like every refusal, changes nothing) -/
theorem linked_directory_source_unusable (st : State) (op : Op) (hk : op.srcIsDir = true)
    (hl : op.viaLink = true) : (install1 st op).1.err = .other ∧ (install1 st op).2 = st := by
  simp [install1, locate, hk, hl, newOf]

theorem install1_outcome_congr (st : State) {op op' : Op} (hl : specLocate op = specLocate op')
    (hi : op.srcIn = op'.srcIn) (hc : op.ctx = op'.ctx) (ho : op.overwrite = op'.overwrite) :
    (install1 st op).1 = (install1 st op').1 := by
  have h2 := newOf_name_version op op' (specLocate op) hi hc
  simp only [install1, locate_eq_spec, ← hl, ← ho]
  -- by `h2` both sources are usable or neither is, and then name and version agree
  cases hn : newOf op (specLocate op) <;> cases hn' : newOf op' (specLocate op) <;>
    simp only [hn, hn', Option.map_none, Option.map_some, reduceCtorEq, Option.some.injEq, Prod.mk.injEq] at h2
  · rfl
  · simp only [versionRule, h2.1, h2.2]
    split <;> rfl

/-- a directory whose only executable `notation-*` file is `f` installs like the file `f` alone, whatever
else it contains (extra files, non-executable candidates, sub-directories, symlinks) -/
theorem dir_equals_file_source (st : State) (ow : Bool) (base inn : Text) (lnk : Bool) (cx : String) (es : List Entry)
    (f : File) (h : execs (topFiles es) = [f]) (e : Entry) (he : e.kind = .file) (hf : e.toFile = f) :
    let opD : Op := ⟨.install, [], ow, true, base, inn, false, es, cx⟩   -- not through a link: see `linked_directory_source_unusable`
    let opF : Op := ⟨.install, [], ow, false, f.name, inn, lnk, [e], cx⟩
    (install1 st opD).1 = (install1 st opF).1 ∧
    (∀ nw, specNew opD = some nw →
        ∃ nw', specNew opF = some nw' ∧ nw'.name = nw.name ∧ nw'.version = nw.version ∧
          nw'.files = [f] ∧ nw.files = topFiles es ∧
          findBy File.name (binName nw.name) nw.files = some f) := by
  intro opD opF
  have hmem : f ∈ execs (topFiles es) := by rw [h]; simp
  have hx : e.exec = true := by rw [← hf] at hmem; exact (List.mem_filter.1 hmem).2
  have hmk : specLocate opF = mkLocated f false := by simp [specLocate, opF, locateFile, he, hx, hf]
  have hloc : specLocate opD = specLocate opF := by
    rw [hmk, ← hf]; simp [specLocate, opD, dir_locates_its_executable es f h e he hx hf, locateFile, he, hx]
  refine ⟨install1_outcome_congr st hloc rfl rfl rfl, ?_⟩
  intro nw hn
  obtain ⟨loc, hl, hv, hb, hm, hname, hfiles⟩ := newOf_some hn
  have hl' : mkLocated f false = some loc := by rw [← hmk, ← hloc]; exact hl
  obtain ⟨hexe, _, hch⟩ := mkLocated_some hl'
  have hexe' : loc.exe = f := by rw [hexe]; cases f; simp
  refine ⟨⟨loc.name, nw.version, copied opF loc⟩, ?_, hname.symm, rfl, ?_, ?_, ?_⟩
  · rw [specNew, hmk, hl']; exact newOf_of hv hb hm
  · simp [copied, opF, hexe']
  · rw [hfiles]; simp [copied, opD, hch]
  · rw [hname, hfiles, find_copied hl, hexe']

/-! ### invariants over arbitrary operation sequences -/

/-- a well-formed plugin root: one directory per name (sorted listing), every name a single
path element, every directory a sorted set of files -/
def WFState (st : State) : Prop :=
  Sorted Plugin.name st ∧ ∀ p ∈ st, validName p.name = true ∧ Sorted File.name p.files

def finalState (st : State) (ops : List Op) : State := ops.foldl (fun s op => (step s op).2) st

theorem wf_delBy {st : State} (h : WFState st) (n : Text) : WFState (delBy Plugin.name n st) :=
  ⟨sorted_delBy Plugin.name _ h.1, fun p hm => h.2 p (mem_delBy hm)⟩

theorem wf_putBy {st : State} (h : WFState st) {p : Plugin} (hv : validName p.name = true)
    (hs : Sorted File.name p.files) : WFState (putBy Plugin.name p st) := by
  refine ⟨sorted_putBy Plugin.name _ h.1, fun q hm => ?_⟩
  rcases mem_putBy Plugin.name hm with rfl | hm
  · exact ⟨hv, hs⟩
  · exact h.2 q hm

theorem wf_mapAt {st : State} (h : WFState st) (n : Text) (g : List File → List File)
    (hg : ∀ fs, Sorted File.name fs → Sorted File.name (g fs)) :
    WFState (st.map fun p => if p.name == n then { p with files := g p.files } else p) := by
  refine ⟨sorted_map Plugin.name (by intro p; split <;> rfl) h.1, fun p hm => ?_⟩
  obtain ⟨q, hq, rfl⟩ := List.mem_map.1 hm
  obtain ⟨h1, h2⟩ := h.2 q hq
  split
  · exact ⟨h1, hg _ h2⟩
  · exact ⟨h1, h2⟩

theorem wf_touchSt {st : State} (h : WFState st) (op : Op) : WFState (touchSt st op) := by
  unfold touchSt
  cases srcChmod op (locate op) with
  | none => exact h
  | some xf => exact wf_mapAt h xf.1 _ fun _ hs => sorted_map File.name (by intro f; split <;> rfl) hs

theorem wf_step {st : State} (h : WFState st) (op : Op) : WFState (step st op).2 := by
  cases hk : op.kind with
  | install =>
    simp only [step, hk, install, install1, locate_eq_spec]
    cases hn : newOf op (specLocate op) with
    | none => exact wf_touchSt h op
    | some nw =>
      simp only []
      cases versionRule (touchSt st op) op.overwrite nw with
      | error e => exact wf_touchSt h op
      | ok ex =>
        obtain ⟨loc, _, _, _, _, _, hfiles⟩ := newOf_some hn
        exact wf_putBy (wf_delBy (wf_touchSt h op) _) (newOf_valid hn) (by rw [hfiles]; exact sorted_copied op loc)
  | uninstall =>
    simp only [step, hk, uninstall]
    split
    · exact h
    · split
      · exact wf_delBy h _
      · exact h
  | plant =>
    simp only [step, hk, plant]
    split
    · exact h
    · rename_i hv
      exact wf_putBy (wf_delBy h _) (by simpa using hv) (topFiles_sorted _)
  | rmexe => simp only [step, hk]; exact wf_mapAt h _ _ fun _ => sorted_delBy File.name _
  | rminterp => simp only [step, hk]; exact wf_mapAt h _ _ fun _ => sorted_map File.name breakInterp_name

theorem wf_finalState : ∀ (ops : List Op) {st : State}, WFState st → WFState (finalState st ops) := by
  intro ops
  induction ops with
  | nil => intro st h; exact h
  | cons op ops ih => intro st h; exact ih (wf_step h op)

theorem wf_from_empty (ops : List Op) : WFState (finalState [] ops) :=
  wf_finalState ops ⟨List.Pairwise.nil, fun _ h => by cases h⟩

/-- **no operation of the manager creates a directory that does not answer**: after a step,
a directory either answers (fetchable by its name, reports metadata), or a directory of that
name was there before the step and answered exactly the same, or the step was the world
planting / damaging that very directory -/
theorem healthy_step (st : State) (op : Op) (p : Plugin) (hp : p ∈ (step st op).2) :
    (answer p).isSome = true ∨ (∃ q ∈ st, q.name = p.name ∧ answer q = answer p) ∨
      touches op p.name = true := by
  -- by definition `(stepObs st op).root` is `observe (step st op).2` and `specStep R` is `specStep1 (touchR R op)`
  have hobs : pobs p ∈ (specStep1 (observe (touchSt st op)) op).root := by
    rw [observe_touchSt]
    exact congrArg StepObs.root (step_eq_spec st op) ▸ List.mem_map_of_mem hp
  rcases specStep1_root_mem _ op _ hobs with h | h | h
  · exact Or.inl h
  · obtain ⟨q, hq, he⟩ := List.mem_map.1 h
    obtain ⟨q', hq', hn, ha⟩ := mem_touchSt hq
    exact Or.inr (Or.inl ⟨q', hq', hn.trans (congrArg PluginObs.name he), ha.trans (congrArg PluginObs.version he)⟩)
  · exact Or.inr (Or.inr h)

/-- **never half-replaced, over whole histories**: after any sequence of operations, a
directory that does not answer bears a name the world planted or damaged at some point (or
was there from the start, answering the same) - install / uninstall alone never leave one -/
theorem never_half_replaced : ∀ (ops : List Op) (st : State) (p : Plugin), p ∈ finalState st ops →
    (answer p).isSome = true ∨ (∃ q ∈ st, q.name = p.name ∧ answer q = answer p) ∨
      ∃ op ∈ ops, touches op p.name = true := by
  intro ops
  induction ops with
  | nil => intro st p hp; exact Or.inr (Or.inl ⟨p, hp, rfl, rfl⟩)
  | cons op ops ih =>
    intro st p hp
    rcases ih (step st op).2 p hp with h | ⟨q, hq, hname, hans⟩ | ⟨o, ho, h⟩
    · exact Or.inl h
    · rcases healthy_step st op q hq with h | ⟨q', hq', h1, h2⟩ | h
      · exact Or.inl (by rw [← hans]; exact h)
      · exact Or.inr (Or.inl ⟨q', hq', h1.trans hname, h2.trans hans⟩)
      · exact Or.inr (Or.inr ⟨op, List.mem_cons_self, by rw [← hname]; exact h⟩)
    · exact Or.inr (Or.inr ⟨o, List.mem_cons_of_mem _ ho, h⟩)

theorem manager_only_histories_all_answer (ops : List Op)
    (h : ∀ op ∈ ops, op.kind = .install ∨ op.kind = .uninstall) :
    ∀ p ∈ finalState [] ops, (answer p).isSome = true := by
  intro p hp
  rcases never_half_replaced ops [] p hp with h1 | ⟨q, hq, _⟩ | ⟨o, ho, h1⟩
  · exact h1
  · cases hq
  · rcases h o ho with hk | hk <;> simp [touches, hk] at h1

/-! ## 3b. plugin names: any single path element, whatever characters it is made of

`Install`, `Get`, `List` and `Uninstall` accept the same names (`validatePluginName`): not empty,
not `.` / `..`, no separator, no NUL. Nothing else about the characters of a name matters to
any of the four - a name one of them filtered or normalised (`file.IsValidFileName` in `List`:
seeded C20-21) would install and answer but not be listed / fetched / removed. -/

/-- the characters `validatePluginName` (and, through `.` and `..`, the dot) looks at -/
def plainChar (c : Char) : Bool := !(c == '/' || c == '\\' || c == '\x00' || c == '.')

theorem validName_iff (n : Text) :
    validName n = true ↔
      n ≠ [] ∧ n ≠ ['.'] ∧ n ≠ ['.', '.'] ∧ ∀ c ∈ n, c ≠ '/' ∧ c ≠ '\\' ∧ c ≠ '\x00' := by
  simp only [validName, Bool.not_eq_true', Bool.or_eq_false_iff, List.isEmpty_eq_false_iff, beq_eq_false_iff_ne,
    ne_eq, List.any_eq_false, Bool.or_eq_true, beq_iff_eq, not_or, and_assoc]

/-- every non-empty name without separator, NUL and dot is a plugin name: `azure+kv`,
`my plugin`, `kms@eu-west-1`, `schlüssel`, `hsm(v2)`, `x~1`, `Foo`, `-rf`, `notation-foo`, ... -/
theorem plain_name_valid (n : Text) (hne : n ≠ []) (hc : ∀ c ∈ n, plainChar c = true) : validName n = true := by
  simp only [plainChar, Bool.not_eq_true', Bool.or_eq_false_iff, beq_eq_false_iff_ne, ne_eq, and_assoc] at hc
  rw [validName_iff]
  refine ⟨hne, ?_, ?_, fun c hm => ⟨(hc c hm).1, (hc c hm).2.1, (hc c hm).2.2.1⟩⟩
  · rintro rfl; exact (hc '.' (by simp)).2.2.2 rfl
  · rintro rfl; exact (hc '.' (by simp)).2.2.2 rfl

/-- whether a name is accepted does not depend on which plain
characters it is made of - replace every character that is not a separator, NUL or a dot by
any other such character (letters by `+`, ` `, `@`, `ü`, upper case by lower case, ...): the
verdict of `validatePluginName` is the same -/
theorem name_alphabet_irrelevant (σ : Char → Char)
    (hplain : ∀ c, plainChar c = true → plainChar (σ c) = true)
    (hfix : ∀ c, plainChar c = false → σ c = c) (n : Text) :
    validName (n.map σ) = validName n := by
  -- `σ` hits a special character only from that character
  have key : ∀ (c d : Char), plainChar d = false → (σ c = d ↔ c = d) := by
    intro c d hd
    constructor
    · intro h
      cases hc : plainChar c with
      | true => rw [← h, hplain c hc] at hd; cases hd
      | false => rw [hfix c hc] at h; exact h
    · intro h; subst h; exact hfix c hd
  -- so mapping `σ` reflects every name made of special characters
  have refl : ∀ (l m : Text), (∀ d ∈ l, plainChar d = false) → ((m.map σ == l) = (m == l)) := by
    intro l
    induction l with
    | nil => intro m _; cases m <;> rfl
    | cons d l ih =>
      intro m hl
      cases m with
      | nil => rfl
      | cons c m =>
        have h1 := key c d (hl d List.mem_cons_self)
        have h2 := ih m (fun x hx => hl x (List.mem_cons_of_mem _ hx))
        simp only [List.map_cons, List.cons_beq_cons, h2]
        rw [Bool.eq_iff_iff]
        simp only [Bool.and_eq_true, beq_iff_eq, h1]
  have hany : (n.map σ).any (fun c => c == '/' || c == '\\' || c == '\x00') =
      n.any (fun c => c == '/' || c == '\\' || c == '\x00') := by
    rw [List.any_map]
    apply List.any_congr rfl
    intro c
    simp only [Function.comp]
    rw [Bool.eq_iff_iff]
    simp only [Bool.or_eq_true, beq_iff_eq, key c '/' (by decide), key c '\\' (by decide), key c '\x00' (by decide)]
  unfold validName
  rw [hany, refl ['.'] n (by decide), refl ['.', '.'] n (by decide), List.isEmpty_map]

theorem listed_is_every_directory (st : State) (op : Op) :
    (stepObs st op).listed = (step st op).2.map Plugin.name :=
  observe_names _

theorem findBy_isSome_iff_name_mem (st : State) (n : Text) :
    (findBy Plugin.name n st).isSome = true ↔ n ∈ st.map Plugin.name := by
  unfold findBy
  rw [List.find?_isSome]
  simp only [beq_iff_eq, List.mem_map]

/-- for EVERY single-path-element name (no other
condition on its characters) the sites agree: `Uninstall(n)` succeeds iff `List` reports `n`,
fails with `os.ErrNotExist` otherwise, and what `Get(n)` finds is in a directory `List` reports -/
theorem list_get_uninstall_agree_on_every_name (st : State) (n : Text) (hv : validName n = true) :
    ((uninstall st n).1.err = .ok ↔ n ∈ (observe st).map (·.name)) ∧
    ((uninstall st n).1.err ≠ .ok → (uninstall st n).1.err = .notExist) ∧
    ((getExe st n).isSome = true → n ∈ (observe st).map (·.name)) := by
  rw [observe_names, ← findBy_isSome_iff_name_mem]
  refine ⟨?_, ?_, ?_⟩
  · cases h : (findBy Plugin.name n st).isSome <;> simp [uninstall, hv, h]
  · cases h : (findBy Plugin.name n st).isSome <;> simp [uninstall, hv, h]
  · unfold getExe
    simp only [hv, Bool.not_true, Bool.false_eq_true, if_false]
    cases h : findBy Plugin.name n st <;> simp

/-- a usable source whose executable is `notation-<n>` for a name `n`
made of plain characters only - ANY of them - installs on a root without that plugin, is then
listed, answers with the new version when fetched, and is removed by `Uninstall(n)` -/
theorem odd_name_lifecycle (st : State) (op : Op) (loc : Located) (v : Text)
    (hl : specLocate op = some loc) (hne : loc.name ≠ []) (hc : ∀ c ∈ loc.name, plainChar c = true)
    (hb : blocked op loc.name = false) (hm : metadata loc.name loc.exe = some v)
    (hp : getExe st loc.name = none) :
    (install1 st op).1.err = .ok ∧
    loc.name ∈ (observe (install1 st op).2).map (·.name) ∧
    (getExe (install1 st op).2 loc.name).bind (metadata loc.name) = some v ∧
    (uninstall (install1 st op).2 loc.name).1.err = .ok ∧
    findBy Plugin.name loc.name (uninstall (install1 st op).2 loc.name).2 = none := by
  have hv := plain_name_valid loc.name hne hc
  have hn : specNew op = some ⟨loc.name, v, copied op loc⟩ := by
    simp [specNew, newOf, hl, hv, hb, hm]
  have hok := absent_or_stale_installs st op _ hn hp
  obtain ⟨nw, hn', h1, h2, h3, h4, _⟩ := then_listable_fetchable_uninstallable st op hok
  rw [hn] at hn'
  cases hn'
  exact ⟨hok, h1, h2, h3, h4⟩

/-! ## 4. non-vacuity -/

section examples

private def t (s : String) : Text := s.toList

/-- the chain of semver.org item 11 -/
example : (["1.0.0-alpha", "1.0.0-alpha.1", "1.0.0-alpha.beta", "1.0.0-beta", "1.0.0-beta.2", "1.0.0-beta.11",
    "1.0.0-rc.1", "1.0.0"].zip ["1.0.0-alpha.1", "1.0.0-alpha.beta", "1.0.0-beta", "1.0.0-beta.2",
    "1.0.0-beta.11", "1.0.0-rc.1", "1.0.0", "1.0.1"]).all
    (fun p => compareVersions (t p.1) (t p.2) == some .lt) = true := by
  -- the characters of the literals are read off first: the kernel would encode and decode each `"..".toList`
  simp only [List.zip, List.zipWith, List.all, t, toList_lit]
  decide +kernel
example : compareVersions (t "1.1.0+build5") (t "1.1.0") = some .eq := by decide +kernel
example : compareVersions (t "10.0.0") (t "9.0.0") = some .gt := by decide +kernel
example : compareVersions (t "1.0.0-2") (t "1.0.0-11") = some .lt := by decide +kernel
example : compareVersions (t "1.0.0-11") (t "1.0.0-2a") = some .lt := by decide +kernel
example : (["1.0", "v1.0.0", "01.0.0", "", "1.0.0-01", "1.0.0+", "1.0.0-a..b", "1.0.0+a+b", "1.0.0 "].map
    (fun s => isValid (t s))) = [false, false, false, false, false, false, false, false, false] := by
  simp only [List.map, t, toList_lit]
  decide +kernel
example : (["0.0.0", "1.0.0-0a", "1.0.0--", "1.0.0-a.-.b+001", "1.2.3-rc.1+b.7"].map
    (fun s => isValid (t s))) = [true, true, true, true, true] := by
  simp only [List.map, t, toList_lit]
  decide +kernel

private def sFoo (v : String) : Script := ⟨t "foo", t v, true, false, 0⟩
private def exeFoo (v : String) (cid : Nat) (exe : Bool := true) : Entry :=
  ⟨.file, t "notation-foo", exe, false, cid, some (sFoo v), []⟩
private def extra (n : String) (cid : Nat) : Entry := ⟨.file, t n, false, false, cid, none, []⟩
private def instFile (v : String) (cid : Nat) (ow : Bool := false) : Op :=
  ⟨.install, [], ow, false, t "notation-foo", [], false, [exeFoo v cid], "background"⟩
private def instDir (es : List Entry) (ow : Bool := false) : Op := ⟨.install, [], ow, true, t "pkg", [], false, es, "background"⟩
private def seq (ops : List Op) : Input := ⟨"seq", false, "none", "canonical", false, ops, [], []⟩
private def errs (i : Input) : List Err := (run i).steps.map (·.err)
private def versions (i : Input) : List (List (Option Text)) := (run i).steps.map (fun s => s.root.map (·.version))

-- upgrade replaces, equal and lower are refused with their classes, overwrite replaces
example : errs (seq [instFile "1.0.0" 1, instFile "1.1.0-alpha" 2, instFile "1.1.0-alpha" 3, instFile "1.0.1" 4,
    instFile "1.0.1" 5 true, instFile "1.0" 6, ⟨.uninstall, t "foo", false, false, [], [], false, [], "background"⟩,
    ⟨.uninstall, t "foo", false, false, [], [], false, [], "background"⟩]) =
    [.ok, .ok, .equalVersion, .downgrade, .ok, .other, .ok, .notExist] := by decide +kernel
example : versions (seq [instFile "1.0.0" 1, instFile "1.1.0-alpha" 2, instFile "1.0.1" 4, instFile "1.0.1" 5 true]) =
    [[some (t "1.0.0")], [some (t "1.1.0-alpha")], [some (t "1.1.0-alpha")], [some (t "1.0.1")]] := by decide +kernel
private def fo (n : String) (cid : Nat) (exe : Bool) (gox : Bool := false) (ip : Bool := false) : FileObs := ⟨t n, cid, exe, gox, ip⟩
private def nf (n : String) (exe : Bool) (cid : Nat) (sc : Option Script) : File := ⟨t n, exe, false, cid, sc⟩
private def sub (n : String) (cid : Nat) (fs : List File) : Entry := ⟨.dir, t n, false, false, cid, none, fs⟩
private def exeBar (exe : Bool) (cid : Nat) : Entry :=
  ⟨.file, t "notation-bar", exe, false, cid, some ⟨t "bar", t "1.0.0", true, false, 0⟩, []⟩

-- a directory: exactly the regular top-level files, in listing order; the single
-- non-executable candidate is made executable although `zlib.so` sorts after it
example : (run (seq [instDir [extra "zlib.so" 3, exeFoo "2.0.0" 2 false, extra "LICENSE" 1,
      sub "sub" 4 [nf "notation-foo" true 5 none, nf "deep.txt" false 6 none],
      ⟨.symlink, t "link", true, false, 7, none, []⟩]])).steps.map (·.root) =
    [[⟨t "foo", [fo "LICENSE" 1 false, fo "notation-foo" 2 true, fo "zlib.so" 3 false], some (t "2.0.0")⟩]] := by
  decide +kernel
-- two executable candidates, two non-executable candidates, no candidate: refused
example : errs (seq [instDir [exeFoo "1.0.0" 1, exeBar true 2], instDir [exeFoo "1.0.0" 1 false, exeBar false 2],
    instDir [extra "LICENSE" 1]]) = [.other, .other, .other] := by decide +kernel

/-- "executable" is the OWNER execute bit: a `notation-foo` with mode 0654 (`exec = false`,
`gox = true`) is refused as a single file, is made owner-executable as the only candidate of
a directory, and does not count as a second executable next to a real one -/
private def foo654 (v : String) (cid : Nat) : Entry := ⟨.file, t "notation-foo", false, true, cid, some (sFoo v), []⟩
example : errs (seq [⟨.install, [], false, false, t "notation-foo", [], false, [foo654 "1.0.0" 1], "background"⟩]) = [.other] := by decide +kernel
example : (run (seq [instDir [foo654 "1.0.0" 1]])).steps.map (·.root) =
    [[⟨t "foo", [fo "notation-foo" 1 true true], some (t "1.0.0")⟩]] := by decide +kernel
example : (run (seq [instDir [exeBar true 1, foo654 "1.0.0" 2]])).steps.map (·.root) =
    [[⟨t "bar", [fo "notation-bar" 1 true, fo "notation-foo" 2 false true], some (t "1.0.0")⟩]] := by decide +kernel

/-- the witness of the defect repaired in ee0c8a6: the only candidate sits in a sub-directory
named like the source directory -/
private def halfReplace : Input :=
  seq [instFile "1.0.0" 1, instDir [extra "LICENSE" 2, sub "pkg" 3 [nf "notation-foo" true 4 (some (sFoo "2.0.0"))]]]

/-- the repaired code refuses it and keeps the installed plugin -/
example : errs halfReplace = [.ok, .other] ∧ versions halfReplace = [[some (t "1.0.0")], [some (t "1.0.0")]] := by decide +kernel
example : Holds halfReplace (run halfReplace) = true := by decide +kernel

/-- what the defective code did (observed before the repair): "success", the old executable
gone, the new one never copied. `Holds` is **false** of that observation. -/
private def halfReplaceObs : Obs :=
  ⟨[⟨.ok, none, some (t "1.0.0"), [⟨t "foo", [fo "notation-foo" 1 true], some (t "1.0.0")⟩], [t "foo"]⟩,
    ⟨.ok, some (t "1.0.0"), some (t "2.0.0"), [⟨t "foo", [fo "LICENSE" 2 false], none⟩], [t "foo"]⟩],
   false, false, none⟩
example : Holds halfReplace halfReplaceObs = false := by decide +kernel
example : (clauses halfReplace halfReplaceObs).failed =
    ["installed_exactly_toplevel_files_and_new_metadata", "replaced_only_if_higher_or_overwrite",
     "installs_when_the_rules_allow", "no_operation_leaves_a_plugin_that_does_not_answer"] := by decide +kernel

/-- a stale directory (interrupted installation: `libfoo-1.so` landed, `notation-foo` did not):
it is listed, cannot be fetched, counts as absent for Install - which succeeds without
overwrite and ends with EXACTLY the source's files -, and Uninstall removes it -/
private def plantFoo (es : List Entry) : Op := ⟨.plant, t "foo", false, false, [], [], false, es, "background"⟩
private def stale : Input :=
  seq [plantFoo [extra "libfoo-1.so" 1, extra "LICENSE" 2], instDir [extra "libfoo-2.so" 3, exeFoo "1.0.0" 4],
       plantFoo [extra "libfoo-1.so" 5], ⟨.uninstall, t "foo", false, false, [], [], false, [], "background"⟩]
example : (run stale).steps.map (fun s => (s.err, s.root, s.listed)) =
    [(.ok, [⟨t "foo", [fo "LICENSE" 2 false, fo "libfoo-1.so" 1 false], none⟩], [t "foo"]),
     (.ok, [⟨t "foo", [fo "libfoo-2.so" 3 false, fo "notation-foo" 4 true], some (t "1.0.0")⟩], [t "foo"]),
     (.ok, [⟨t "foo", [fo "libfoo-1.so" 5 false], none⟩], [t "foo"]),
     (.ok, [], [])] := by decide +kernel
/-- an installation that leaves the stale file next to the new ones violates exactness -/
example : Holds (seq [plantFoo [extra "libfoo-1.so" 1], instDir [exeFoo "1.0.0" 4]])
    ⟨[⟨.ok, none, none, [⟨t "foo", [fo "libfoo-1.so" 1 false], none⟩], [t "foo"]⟩,
      ⟨.ok, none, some (t "1.0.0"), [⟨t "foo", [fo "libfoo-1.so" 1 false, fo "notation-foo" 4 true], some (t "1.0.0")⟩], [t "foo"]⟩],
     false, false, none⟩ = false := by decide +kernel
/-- a malfunctioning existing plugin (its executable is there but does not answer) is kept
without overwrite and replaced with overwrite; deleting only the binary makes it "absent" -/
example : errs (seq [plantFoo [⟨.file, t "notation-foo", true, false, 1, some ⟨t "foo", t "1.0.0", false, false, 7⟩, []⟩],
    instFile "2.0.0" 2, instFile "2.0.0" 3 true, ⟨.rmexe, t "foo", false, false, [], [], false, [], "background"⟩, instFile "1.0.0" 4]) =
    [.ok, .other, .ok, .ok, .ok] := by decide +kernel

/-- the source is the installed plugin's own directory / its own executable (also through a
symbolic link): refused by the guard, with and without overwrite, nothing changes; from
ANOTHER plugin's directory it installs -/
private def fromRoot (dirName : String) (isDir : Bool) (es : List Entry) (ow : Bool) (lnk : Bool := false) : Op :=
  ⟨.install, [], ow, isDir, if isDir then t dirName else t "notation-foo", t dirName, lnk, es, "background"⟩
private def selfSrc : Input :=
  seq [instFile "1.0.0" 1, fromRoot "foo" true [exeFoo "1.0.0" 1] false, fromRoot "foo" true [exeFoo "1.0.0" 1] true,
       fromRoot "foo" false [exeFoo "1.0.0" 1] true true,
       ⟨.plant, t "bar", false, false, [], [], false, [exeFoo "2.0.0" 2, extra "LICENSE" 3], "background"⟩,
       fromRoot "bar" true [exeFoo "2.0.0" 2, extra "LICENSE" 3] false]
example : errs selfSrc = [.ok, .other, .other, .other, .ok, .ok] := by decide +kernel
example : ((run selfSrc).steps.map (·.root)).getLast? =
    some [⟨t "bar", [fo "LICENSE" 3 false, fo "notation-foo" 2 true], none⟩,
          ⟨t "foo", [fo "LICENSE" 3 false, fo "notation-foo" 2 true], some (t "2.0.0")⟩] := by decide +kernel
/-- what the code did before 3106bc6: an error AND the plugin gone. `Holds` is false of it. -/
example : Holds (seq [instFile "1.0.0" 1, fromRoot "foo" true [exeFoo "1.0.0" 1] true])
    ⟨[⟨.ok, none, some (t "1.0.0"), [⟨t "foo", [fo "notation-foo" 1 true], some (t "1.0.0")⟩], [t "foo"]⟩,
      ⟨.other, none, none, [], []⟩], false, false, none⟩ = false := by decide +kernel

/-- the plugin's own directory holds its binary WITHOUT the executable bit (a hand-copied,
not answering plugin) and is given as the source: refused before anything is touched - the
binary stays non-executable, the plugin keeps not answering -/
private def foo644 (v : String) (cid : Nat) : Entry := ⟨.file, t "notation-foo", false, false, cid, some (sFoo v), []⟩
private def ownNonExec : Input := seq [plantFoo [foo644 "1.0.0" 1], fromRoot "foo" true [foo644 "1.0.0" 1] false]
example : (run ownNonExec).steps.map (fun s => (s.err, s.root)) =
    [(.ok, [⟨t "foo", [fo "notation-foo" 1 false], none⟩]), (.other, [⟨t "foo", [fo "notation-foo" 1 false], none⟩])] := by
  decide +kernel
/-- what the code did before the repair (chmod inside `parsePluginFromDir`, before every
check): the installation is refused (`equalVersion`: it now compares the plugin with itself)
but the binary got the executable bit and the plugin answers. `Holds` is false of it. -/
example : Holds ownNonExec
    ⟨[⟨.ok, none, none, [⟨t "foo", [fo "notation-foo" 1 false], none⟩], [t "foo"]⟩,
      ⟨.equalVersion, none, none, [⟨t "foo", [fo "notation-foo" 1 true], some (t "1.0.0")⟩], [t "foo"]⟩],
     false, false, none⟩ = false := by decide +kernel
/-- the source is ANOTHER plugin's directory with a non-executable candidate: accepted name and
location, so the candidate gets the bit (the one write outside the plugin's own directory),
then the version check refuses: only that bit of `<root>/bar/notation-foo` differs, `bar`
and `foo` answer what they answered -/
example : (run (seq [instFile "2.0.0" 1, ⟨.plant, t "bar", false, false, [], [], false, [foo644 "1.0.0" 2], "background"⟩,
      fromRoot "bar" true [foo644 "1.0.0" 2] false])).steps.map (fun s => (s.err, s.root)) =
    [(.ok, [⟨t "foo", [fo "notation-foo" 1 true], some (t "2.0.0")⟩]),
     (.ok, [⟨t "bar", [fo "notation-foo" 2 false], none⟩, ⟨t "foo", [fo "notation-foo" 1 true], some (t "2.0.0")⟩]),
     (.downgrade, [⟨t "bar", [fo "notation-foo" 2 true], none⟩, ⟨t "foo", [fo "notation-foo" 1 true], some (t "2.0.0")⟩])] := by
  decide +kernel

/-- the installed plugin's files are intact but the private interpreter its `#!` line names has
disappeared: it stops answering, keeps its files; without overwrite NO version replaces it
(lower, equal, higher), with overwrite it is replaced -/
private def exeFooI (v : String) (cid : Nat) : Entry :=
  ⟨.file, t "notation-foo", true, false, cid, some ⟨t "foo", t v, true, true, 0⟩, []⟩
private def noInterp : Input :=
  seq [⟨.install, [], false, false, t "notation-foo", [], false, [exeFooI "2.0.0" 1], "background"⟩,
       ⟨.rminterp, t "foo", false, false, [], [], false, [], "background"⟩,
       instFile "1.0.0" 2, instFile "2.0.0" 3, instFile "3.0.0" 4, instFile "1.0.0" 5 true]
example : (run noInterp).steps.map (fun s => (s.err, s.root.map (fun p => (p.files.map (·.cid), p.version)))) =
    [(.ok, [([1], some (t "2.0.0"))]), (.ok, [([1], none)]), (.other, [([1], none)]), (.other, [([1], none)]),
     (.other, [([1], none)]), (.ok, [([5], some (t "1.0.0"))])] := by decide +kernel
/-- replacing it without overwrite (what seeded change C20-12 does) violates the rule -/
example : Holds (seq [⟨.install, [], false, false, t "notation-foo", [], false, [exeFooI "2.0.0" 1], "background"⟩,
      ⟨.rminterp, t "foo", false, false, [], [], false, [], "background"⟩, instFile "1.0.0" 2])
    ⟨[⟨.ok, none, some (t "2.0.0"), [⟨t "foo", [fo "notation-foo" 1 true false true], some (t "2.0.0")⟩], [t "foo"]⟩,
      ⟨.ok, none, none, [⟨t "foo", [fo "notation-foo" 1 true false true], none⟩], [t "foo"]⟩,
      ⟨.ok, none, some (t "1.0.0"), [⟨t "foo", [fo "notation-foo" 2 true], some (t "1.0.0")⟩], [t "foo"]⟩],
     false, false, none⟩ = false := by decide +kernel

/-- a downgrade that "succeeds" violates the version rule clause -/
example : Holds (seq [instFile "1.1.0" 1, instFile "1.0.0" 2])
    ⟨[⟨.ok, none, some (t "1.1.0"), [⟨t "foo", [fo "notation-foo" 1 true], some (t "1.1.0")⟩], [t "foo"]⟩,
      ⟨.ok, some (t "1.1.0"), some (t "1.0.0"), [⟨t "foo", [fo "notation-foo" 2 true], some (t "1.0.0")⟩], [t "foo"]⟩],
     false, false, none⟩ = false := by decide +kernel

/-- a refusal that nevertheless changed the root violates the no-op clause -/
example : Holds (seq [instFile "1.1.0" 1, instFile "1.0.0" 2])
    ⟨[⟨.ok, none, some (t "1.1.0"), [⟨t "foo", [fo "notation-foo" 1 true], some (t "1.1.0")⟩], [t "foo"]⟩,
      ⟨.downgrade, none, none, [], []⟩], false, false, none⟩ = false := by decide +kernel

/-- plugin names outside `[a-zA-Z0-9_.-]` (seeded C20-21: `List` filtered them with
`file.IsValidFileName`): the model installs, lists, refuses the downgrade, uninstalls -/
private def instNamed (n v : String) (cid : Nat) (ow : Bool := false) : Op :=
  ⟨.install, [], ow, false, t ("notation-" ++ n), [], false,
    [⟨.file, t ("notation-" ++ n), true, false, cid, some ⟨t n, t v, true, false, 0⟩, []⟩], "background"⟩
private def oddName : Input :=
  seq [instNamed "azure+kv" "2.0.0" 1, instNamed "azure+kv" "1.0.0" 2, instNamed "my plugin" "1.0.0" 3,
       ⟨.uninstall, t "azure+kv", false, false, [], [], false, [], "background"⟩]
example : (run oddName).steps.map (fun s => (s.err, s.listed)) =
    [(.ok, [t "azure+kv"]), (.downgrade, [t "azure+kv"]), (.ok, [t "azure+kv", t "my plugin"]), (.ok, [t "my plugin"])] := by
  simp only [oddName, seq, instNamed, t, String.reduceAppend, toList_lit]
  decide +kernel
example : Holds oddName (run oddName) = true := by
  simp only [oddName, seq, instNamed, t, String.reduceAppend, toList_lit]
  decide +kernel
example : (["azure+kv", "my plugin", "kms@eu-west-1", "schlüssel", "hsm(v2)", "x~1", "Foo", "-rf", "notation-foo", ".hidden", "...",
    ".", "..", "", "a/b", "a\\b"].map (fun s => validName (t s))) =
    [true, true, true, true, true, true, true, true, true, true, true, false, false, false, false, false] := by
  simp only [List.map, t, toList_lit]
  decide +kernel
/-- what the seeded change did: everything as the model says, but `List` does not report the
plugin. `Holds` is **false** of that observation, by the listing clause alone. -/
private def oddNameUnlisted : Obs :=
  let o := run oddName
  { o with steps := o.steps.map fun s => { s with listed := s.listed.filter (fun n => n.all (fun c => c.isAlphanum || c == '.' || c == '_' || c == '-')) } }
example : Holds oddName oddNameUnlisted = false := by
  simp only [oddNameUnlisted, oddName, seq, instNamed, t, String.reduceAppend, toList_lit]
  decide +kernel
example : (clauses oddName oddNameUnlisted).failed = ["listed_is_the_root_listing"] := by
  simp only [oddNameUnlisted, oddName, seq, instNamed, t, String.reduceAppend, toList_lit]
  decide +kernel

end examples

/-! ## 5. tie to the translated source (`Generated/SrcC20.lean`, `Generated/SrcC20b.lean`, rewritten from the Go code on every run) -/

namespace Tie
open NotationModel.Src

/-- what the two library oracles have to do for the tie: the regular expression engine on
`semVerRegEx` decides the model's grammar (the pattern text is pinned by
`semver_regex_pinned`, the agreement is what the semver stream of the harness samples), and
`x/mod/semver.Compare` on two "v"-prefixed valid versions is the model's precedence -/
structure EnvOk (env : semver.Env) : Prop where
  regex : ∀ s : String, env.MatchString s = isValid s.toList
  compare : ∀ (v w : String) (a b : Version), parseVersion v.toList = some a → parseVersion w.toList = some b →
    env.Compare ("v" ++ v) ("v" ++ w) = ordInt (cmpVersion a b)

/-- what a caller sees: the comparison result, or "error" -/
def shape (r : Int × Option GoLite.Err) : Option Int :=
  match r.2 with
  | some _ => none
  | none => some r.1

theorem source_IsValid_refines_model (env : semver.Env) (h : EnvOk env) (s : String) :
    semver.IsValid env s = isValid s.toList := by
  unfold semver.IsValid
  simp [Id.run, GoLite.idPure, h.regex]

/-- **`semver.ComparePluginVersion` as written in Go computes the model's `compareVersions`**,
for all strings: an error exactly when one of the two is not a version, else the precedence -/
theorem source_ComparePluginVersion_refines_model (env : semver.Env) (h : EnvOk env) (v w : String) :
    shape (semver.ComparePluginVersion env v w) = (compareVersions v.toList w.toList).map ordInt := by
  unfold semver.ComparePluginVersion compareVersions
  simp only [source_IsValid_refines_model env h, isValid, semver.add_eq_append]
  -- both parse results first: the order in which the Go code checks them does not matter
  cases hv : parseVersion v.toList with
  | none => cases hw : parseVersion w.toList <;> simp [Id.run, GoLite.idPure, shape]
  | some a =>
    cases hw : parseVersion w.toList with
    | none => simp [Id.run, GoLite.idPure, shape]
    | some b => simp [Id.run, GoLite.idPure, shape, h.compare v w a b hv hw]

/-- non-vacuity: the translated function runs (with a toy oracle that knows two versions) -/
example : (semver.ComparePluginVersion
    ⟨fun s => s == "1.0.0" || s == "1.1.0", fun a b => if a == b then 0 else if a == "v1.0.0" then -1 else 1⟩
    "1.0.0" "1.1.0").1 = -1 := by decide +kernel
example : shape (semver.ComparePluginVersion ⟨fun s => s == "1.0.0", fun _ _ => 0⟩ "1.0" "1.0.0") = none := by decide +kernel

/-! ### the tail of `CLIManager.Install`: existence, version decision, clean-up, copy -/

/-- the class of an error of Install as the harness observes it (typed errors by their type) -/
def classOf (e : GoLite.Err) : Err :=
  if e.kind = "PluginDowngradeError" then .downgrade
  else if e.kind = "InstallEqualVersionError" then .equalVersion else .other

/-- what a caller sees: the class of the error, or success and the existing plugin's version -/
def outcomeOf (r : Option plugin.GetMetadataResponse × Option plugin.GetMetadataResponse × Option GoLite.Err) :
    Err × Option Text :=
  match r.2.2 with
  | some e => (classOf e, none)
  | none => (.ok, r.1.map (·.Version.toList))

/-- the existing plugin as the oracles show it: `none` = `Get` fails (no such executable);
`some ex` = it is there and `ex` is what it answers (`none`: `GetMetadata` fails) -/
def existingOf (env : plugin.Env) (name : String) : Option (Option Text) :=
  match env.Get name with
  | (_, some _) => none
  | (p, none) =>
    match env.GetMetadata p default with
    | (some m, none) => some (some m.Version.toList)
    | _ => some none

/-- `versionCheck` on the existing plugin as the oracles show it (`existingOf`); no such plugin: install.
The shape of `versionRule`, but over oracle answers instead of a `State`: no lemma relates the two. -/
def decision (ex : Option (Option Text)) (ow : Bool) (vn : Text) : Err × Option Text :=
  match ex with
  | none => (.ok, none)
  | some ex =>
    match versionCheck ex ow vn with
    | .error e => (e, none)
    | .ok r => (.ok, r)

/-- the world the model assumes: `Get` fails only with "no such file", `GetMetadata` returns a
response or an error, the comparison is `compareVersions` (see
`source_ComparePluginVersion_refines_model`), clean-up and copy do not fail (I/O errors are
outside the model); the errors of the oracles are not of Install's two typed classes
(`fmt.Errorf("..%w..")` would let `errors.As` see through the wrapping) -/
structure WorldOk (env : plugin.Env) (name exe dir path : String) : Prop where
  get : ∀ e, (env.Get name).2 = some e → e = os.ErrNotExist
  md : ∀ p, (∃ m, env.GetMetadata p default = (some m, none)) ∨
    (∃ e, env.GetMetadata p default = (none, some e) ∧ classOf e = .other)
  cmpErr : ∀ (a b : String) (c : Int) (e : GoLite.Err), env.ComparePluginVersion a b = (c, some e) → classOf e = .other
  cmp : ∀ a b : String, shape (env.ComparePluginVersion a b) = (compareVersions a.toList b.toList).map ordInt
  uninstall : env.Uninstall name = none ∨ env.Uninstall name = some os.ErrNotExist
  copyFile : env.CopyToDir exe dir = none
  copyDir : env.CopyDirToDir path dir = none

section tail
-- each leaf of the tie runs the translated `do` block along one combination of oracle answers
attribute [local simp] Id.run GoLite.idPure GoLite.errIs GoLite.deref outcomeOf decision versionCheck

/-- the tail of `CLIManager.Install` as written in Go, run against oracles that satisfy `WorldOk`, ends as
`decision (existingOf env name) ow v` says: `versionCheck` on what `Get` / `GetMetadata` show of the existing
plugin (refusal classes, the overwrite rule, which existing metadata is returned); clean-up and copy come
after the decision and, under `WorldOk`, do not refuse -/
theorem source_installTail_refines_model (env : plugin.Env) (ow : Bool) (name : String)
    (nm : plugin.GetMetadataResponse) (nonDir : Bool) (exe dir : String) (opts : plugin.CLIInstallOptions)
    (h : WorldOk env name exe dir opts.PluginPath) :
    outcomeOf (plugin.installTail env ow name (some nm) nonDir exe dir opts none) =
      decision (existingOf env name) ow nm.Version.toList := by
  have hcp1 := h.copyFile
  have hcp2 := h.copyDir
  unfold plugin.installTail existingOf
  rcases hG : env.Get name with ⟨p, eg⟩
  cases eg with
  | some e =>
    have he : e = os.ErrNotExist := h.get e (by rw [hG])
    subst he
    rcases h.uninstall with hu | hu <;>
      simp [hu, hcp1, hcp2]
  | none =>
    rcases h.md p with ⟨m, hm⟩ | ⟨e, hm, hce⟩
    · cases ow
      · -- no overwrite: compare
        rcases hC : env.ComparePluginVersion nm.Version m.Version with ⟨c, ec⟩
        have hc := h.cmp nm.Version m.Version
        rw [hC] at hc
        cases hcv : compareVersions nm.Version.toList m.Version.toList with
        | none =>
          rw [hcv] at hc
          cases ec with
          | none => simp [shape] at hc
          | some e3 =>
            -- `wrapf` keeps the kind of the error it wraps, and the oracle's error classes as `.other`
            have hce := h.cmpErr _ _ _ _ hC
            simp [hm, hC, hcv, GoLite.wrapf, hce]
        | some o =>
          rw [hcv] at hc
          cases ec with
          | some e3 => simp [shape] at hc
          | none =>
            have hco : c = ordInt o := by simpa [shape] using hc
            subst hco
            rcases h.uninstall with hu | hu <;> cases o <;>
              simp [hm, hC, hu, hcp1, hcp2, hcv, classOf, GoLite.errT, ordInt]
      · rcases h.uninstall with hu | hu <;>
          simp [hm, hu, hcp1, hcp2]
    · cases ow
      · simp [hm, GoLite.wrapf, hce]
      · rcases h.uninstall with hu | hu <;>
          simp [hm, hu, hcp1, hcp2]

end tail

/-- the comparison oracle of the tail can be the translated `semver.ComparePluginVersion`: the
two ties compose -/
theorem worldOk_cmp_of_semver (senv : semver.Env) (h : EnvOk senv) (a b : String) :
    shape (semver.ComparePluginVersion senv a b) = (compareVersions a.toList b.toList).map ordInt ∧
    (∀ c e, semver.ComparePluginVersion senv a b = (c, some e) → classOf e = .other) := by
  refine ⟨source_ComparePluginVersion_refines_model senv h a b, ?_⟩
  intro c e hce
  unfold semver.ComparePluginVersion at hce
  simp only [Id.run, GoLite.idPure] at hce
  split at hce
  · cases hce; rfl
  · split at hce
    · cases hce; rfl
    · cases hce

/-- non-vacuity: the translated tail runs - an existing 1.0.0, a lower new version, no overwrite -/
private def toyEnv (c : Int) : plugin.Env :=
  ⟨fun _ => (some ⟨1⟩, none), fun _ _ => (some ⟨"1.0.0"⟩, none), fun _ _ => (c, none),
   fun _ => none, fun _ _ => none, fun _ _ => none⟩
example : (plugin.installTail (toyEnv (-1)) false "foo" (some ⟨"0.9.0"⟩) true "exe" "dir" ⟨"path", false⟩ none).2.2 =
    some (GoLite.errT "PluginDowngradeError" "") := by decide +kernel
example : outcomeOf (plugin.installTail (toyEnv 1) false "foo" (some ⟨"1.1.0"⟩) false "exe" "dir" ⟨"path", false⟩ none) =
    (.ok, some "1.0.0".toList) := by decide +kernel
example : outcomeOf (plugin.installTail (toyEnv (-1)) true "foo" (some ⟨"0.9.0"⟩) true "exe" "dir" ⟨"path", true⟩ none) =
    (.ok, some "1.0.0".toList) := by decide +kernel

end Tie

end NotationModel.C20
