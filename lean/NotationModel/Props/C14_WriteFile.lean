/-
C14 - the tie between the SOURCE of `file.WriteFile` (internal/file/file.go) and the writer of the
state machine of `Model/C14.lean`.

`Generated/SrcC14.lean` is the Go function translated on every run (extract/go2lean_fs.go) into a
program over a log of operating-system calls answered by an arbitrary oracle
(`Src/TypesC14.lean`). This file proves, for EVERY oracle - every pattern of failing calls,
including failures of the cleanup calls themselves, and every name `os.CreateTemp` may hand out:

* `source_WriteFile_refines_protocol`: the translated function makes exactly the calls of
  `protocol` - create a temp file in `tempDir`, write the content to IT, close IT, rename IT over
  `path`; leave at the first failure; after a failure that follows the creation, close and remove
  the temp file - and returns an error exactly when one of the four calls failed;
* `protocol_calls_are_writer_steps`: every one of those calls is a step of the model's writer
  (`callEvent`: the only names ever touched are the temp file's own and, by `rename` alone,
  the destination), so the schedules of `Props/C14.lean` - which quantify over all event lists -
  cover what this code does under any interleaving with other writers, readers and kills;
* `success_events`, `failure_events` (hence `failure_never_renames`, `failure_removes_temp`): on
  success the events are exactly `create, write (all), close, rename`; after a failure that follows
  the creation they are `create`, then writes and closes only - no `rename` -, and when the cleanup's
  `os.Remove` succeeded the last word is `giveup` (the temp file is gone);
* `success_installs_complete_entry`, `failure_keeps_every_key`, `failure_leaves_no_temp`: the same
  read off the state machine: from any state in which the writer is idle and the temp name free,
  success leaves the key name pointing to a fresh inode holding the complete data; failure leaves
  every key name as it was, and no temp file when the remove went through.

What stays assumed: the meaning of the five calls (`callEvent`, checked against the model's `step`
by the hook-stepped correspondence runs), and that they are all `WriteFile` does to the file
system (the translator refuses any other callee).
-/
import NotationModel.Props.C14
import NotationModel.Props.C15
import NotationModel.Generated.SrcC14

namespace NotationModel.C14.Tie
open NotationModel.Src NotationModel.Src.fsproto

/-- the pattern of `os.CreateTemp` is the constant of the translated source (`fact_temp_prefix` says the same of the
copy in `Facts`, which the name-level theorem `temp_never_key` is about) -/
theorem source_temp_pattern : tempFileNamePrefix.toList = tempPrefix ++ ['*'] := by decide +kernel

/-- **The protocol**, written down independently of the source: result and log after the call. -/
def protocol (o : Oracle) (log0 : List Call) (tempDir path : String) (content : Bytes) :
    Option GoLite.Err × List Call :=
  let l1 := log0 ++ [Call.createTemp tempDir "notation-*"]
  match o.fault l1 with
  | some e => (some e, l1)
  | none =>
    let f : File := ⟨o.tempName l1⟩
    let l2 := l1 ++ [.write f content]
    match o.fault l2 with
    | some e => (some e, l2 ++ [.close f, .remove f.name])
    | none =>
      let l3 := l2 ++ [.close f]
      match o.fault l3 with
      | some e => (some e, l3 ++ [.close f, .remove f.name])
      | none =>
        let l4 := l3 ++ [.rename f.name path]
        match o.fault l4 with
        | some e => (some e, l4 ++ [.close f, .remove f.name])
        | none => (none, l4)

/-- the calls `protocol` adds to the log -/
def protocolCalls (o : Oracle) (log0 : List Call) (tempDir path : String) (content : Bytes) : List Call :=
  (protocol o log0 tempDir path content).2.drop log0.length

/-- **case on the first failing call** (create, write, close, rename), with the oracle's answers on the logs up to it -/
theorem first_failing_call {motive : Prop} (o : Oracle) (log0 : List Call) (tempDir path : String)
    (content : Bytes) :
    let c1 := Call.createTemp tempDir "notation-*"
    let f : File := ⟨o.tempName (log0 ++ [c1])⟩
    let l1 := log0 ++ [c1]
    let l2 := log0 ++ [c1, .write f content]
    let l3 := log0 ++ [c1, .write f content, .close f]
    let l4 := log0 ++ [c1, .write f content, .close f, .rename f.name path]
    (∀ e, o.fault l1 = some e → motive) →
    (∀ e, o.fault l1 = none → o.fault l2 = some e → motive) →
    (∀ e, o.fault l1 = none → o.fault l2 = none → o.fault l3 = some e → motive) →
    (∀ e, o.fault l1 = none → o.fault l2 = none → o.fault l3 = none → o.fault l4 = some e → motive) →
    (o.fault l1 = none → o.fault l2 = none → o.fault l3 = none → o.fault l4 = none → motive) → motive := by
  intro c1 f l1 l2 l3 l4 create write close rename success
  cases h1 : o.fault l1 with
  | some e => exact create e h1
  | none =>
    cases h2 : o.fault l2 with
    | some e => exact write e h1 h2
    | none =>
      cases h3 : o.fault l3 with
      | some e => exact close e h1 h2 h3
      | none =>
        cases h4 : o.fault l4 with
        | some e => exact rename e h1 h2 h3 h4
        | none => exact success h1 h2 h3 h4

attribute [local simp] runFS WriteFile os.CreateTemp os.Remove os.Rename File.Write File.Close File.Name perform
  tempFileNamePrefix GoLite.wrapf in
/-- **Tie.** For every oracle, starting log, directory, destination and content, the translated
`file.WriteFile` returns what the protocol returns (the error KIND of the failing call, `none`
when nothing failed) and has made exactly the protocol's calls, in order, with its arguments. -/
theorem source_WriteFile_refines_protocol (o : Oracle) (log0 : List Call) (tempDir path : String)
    (content : Bytes) :
    runFS (WriteFile tempDir path content) o log0 = protocol o log0 tempDir path content := by
  apply first_failing_call o log0 tempDir path content
  · intro e h1; simp [protocol, h1]
  · intro e h1 h2; simp [protocol, h1, h2]
  · intro e h1 h2 h3; simp [protocol, h1, h2, h3]
  · intro e h1 h2 h3 h4; simp [protocol, h1, h2, h3, h4]
  · intro h1 h2 h3 h4; simp [protocol, h1, h2, h3, h4]

/-- the function returns no error exactly when the protocol's run is the four calls create / write /
close / rename, none of them failed (failures of the cleanup do not change the result) -/
theorem source_WriteFile_error_iff (o : Oracle) (log0 : List Call) (tempDir path : String) (content : Bytes) :
    (runFS (WriteFile tempDir path content) o log0).1 = none ↔
      (protocolCalls o log0 tempDir path content =
        [Call.createTemp tempDir "notation-*",
         Call.write ⟨o.tempName (log0 ++ [Call.createTemp tempDir "notation-*"])⟩ content,
         Call.close ⟨o.tempName (log0 ++ [Call.createTemp tempDir "notation-*"])⟩,
         Call.rename (o.tempName (log0 ++ [Call.createTemp tempDir "notation-*"])) path]) := by
  rw [source_WriteFile_refines_protocol]
  apply first_failing_call o log0 tempDir path content
  · intro e h1; simp [protocolCalls, protocol, h1]
  · intro e h1 h2; simp [protocolCalls, protocol, h1, h2]
  · intro e h1 h2 h3; simp [protocolCalls, protocol, h1, h2, h3]
  · intro e h1 h2 h3 h4; simp [protocolCalls, protocol, h1, h2, h3, h4]
  · intro h1 h2 h3 h4; simp [protocolCalls, protocol, h1, h2, h3, h4]

/-! ### the calls read as events of the model's writer -/

/-- One answered call of writer `w` - whose temp file is named `tmp` (index `t` among the temp
names), whose destination is `path`, whose data has `len` cells - as events of `Model/C14.step`.
`n` = how many cells a FAILING write stored before it failed. `none`: the model's writer has no
such step - the call touches a name it never touches. -/
def callEvent (w t len n : Nat) (tmp path : String) (c : Call) (failed : Bool) : Option (List Event) :=
  match c with
  | .createTemp _ _ => some (if failed then [] else [.create w t])
  | .write f _ => if f.name = tmp then some (if failed then [.write w n] else [.write w len]) else none
  | .close f => if f.name = tmp then some (if failed then [] else [.close w]) else none
  | .remove name => if name = tmp then some (if failed then [] else [.giveup w]) else none
  | .rename old new => if old = tmp ∧ new = path then some (if failed then [] else [.rename w]) else none

/-- a run of calls, each answered by the oracle on the log so far -/
def interp (o : Oracle) (w t len n : Nat) (tmp path : String) : List Call → List Call → Option (List Event)
  | _, [] => some []
  | pre, c :: cs =>
    match callEvent w t len n tmp path c (o.fault (pre ++ [c])).isSome, interp o w t len n tmp path (pre ++ [c]) cs with
    | some e, some es => some (e ++ es)
    | _, _ => none

/-- the events of one `WriteFile` call -/
def eventsOf (o : Oracle) (log0 : List Call) (tempDir path : String) (content : Bytes) (w t n : Nat) :
    Option (List Event) :=
  interp o w t content.length n (o.tempName (log0 ++ [Call.createTemp tempDir "notation-*"])) path log0
    (protocolCalls o log0 tempDir path content)

/-- the answers of the oracle that decide the run -/
structure Answers where
  create : Bool     -- true = failed
  write : Bool
  close : Bool
  rename : Bool
  cleanupClose : Bool
  cleanupRemove : Bool
  deriving DecidableEq, Repr

/-- the events as a function of the answers (the cleanup answers of the path actually taken) -/
def eventsFor (a : Answers) (w t len n : Nat) : List Event :=
  let cleanup := (if a.cleanupClose then [] else [.close w]) ++ (if a.cleanupRemove then [] else [.giveup w])
  if a.create then []
  else if a.write then [.create w t, .write w n] ++ cleanup
  else if a.close then [.create w t, .write w len] ++ cleanup
  else if a.rename then [.create w t, .write w len, .close w] ++ cleanup
  else [.create w t, .write w len, .close w, .rename w]

/-- the answers the oracle gives along the run -/
def answersOf (o : Oracle) (log0 : List Call) (tempDir path : String) (content : Bytes) : Answers :=
  let c1 := Call.createTemp tempDir "notation-*"
  let f : File := ⟨o.tempName (log0 ++ [c1])⟩
  let cw := Call.write f content
  let cc := Call.close f
  let cr := Call.rename f.name path
  let main : List Call :=
    if (o.fault (log0 ++ [c1])).isSome then [c1]
    else if (o.fault (log0 ++ [c1, cw])).isSome then [c1, cw]
    else if (o.fault (log0 ++ [c1, cw, cc])).isSome then [c1, cw, cc]
    else [c1, cw, cc, cr]
  { create := (o.fault (log0 ++ [c1])).isSome
    write := (o.fault (log0 ++ [c1, cw])).isSome
    close := (o.fault (log0 ++ [c1, cw, cc])).isSome
    rename := (o.fault (log0 ++ [c1, cw, cc, cr])).isSome
    cleanupClose := (o.fault (log0 ++ main ++ [cc])).isSome
    cleanupRemove := (o.fault (log0 ++ main ++ [cc, .remove f.name])).isSome }

attribute [local simp] eventsOf protocolCalls protocol answersOf eventsFor interp callEvent in
/-- **Every call is a step of the model's writer**, and the steps are `eventsFor` of the oracle's
answers: for every oracle the interpretation is defined (no call touches a name outside the
writer's own temp file and, by rename alone, the destination). -/
theorem protocol_calls_are_writer_steps (o : Oracle) (log0 : List Call) (tempDir path : String)
    (content : Bytes) (w t n : Nat) :
    eventsOf o log0 tempDir path content w t n =
      some (eventsFor (answersOf o log0 tempDir path content) w t content.length n) := by
  apply first_failing_call o log0 tempDir path content
  · intro e h1; simp [h1]
  · intro e h1 h2; simp [h1, h2]
  · intro e h1 h2 h3; simp [h1, h2, h3]
  · intro e h1 h2 h3 h4; simp [h1, h2, h3, h4]
  · intro h1 h2 h3 h4; simp [h1, h2, h3, h4]

/-- the result in terms of the answers -/
theorem source_WriteFile_result (o : Oracle) (log0 : List Call) (tempDir path : String) (content : Bytes) :
    ((runFS (WriteFile tempDir path content) o log0).1 = none) ↔
      (let a := answersOf o log0 tempDir path content
       a.create = false ∧ a.write = false ∧ a.close = false ∧ a.rename = false) := by
  rw [source_WriteFile_refines_protocol]
  apply first_failing_call o log0 tempDir path content
  · intro e h1; simp [protocol, answersOf, h1]
  · intro e h1 h2; simp [protocol, answersOf, h1, h2]
  · intro e h1 h2 h3; simp [protocol, answersOf, h1, h2, h3]
  · intro e h1 h2 h3 h4; simp [protocol, answersOf, h1, h2, h3, h4]
  · intro h1 h2 h3 h4; simp [protocol, answersOf, h1, h2, h3, h4]

/-! ### what the events are, per outcome -/

def succeeded (a : Answers) : Bool := !a.create && !a.write && !a.close && !a.rename

theorem succeeded_iff (a : Answers) :
    succeeded a = true ↔ a.create = false ∧ a.write = false ∧ a.close = false ∧ a.rename = false := by
  simp [succeeded, and_assoc]

/-- success = the model's atomic protocol, nothing else -/
theorem success_events (a : Answers) (w t len n : Nat) (h : succeeded a = true) :
    eventsFor a w t len n = [.create w t, .write w len, .close w, .rename w] := by
  simp [succeeded] at h
  simp [eventsFor, h]

theorem failure_events (a : Answers) (w t len n : Nat) (h : succeeded a = false) (hc : a.create = false) :
    ∃ mid, (∀ e ∈ mid, IsWork w e) ∧
      eventsFor a w t len n = .create w t :: mid ++ (if a.cleanupRemove then [] else [.giveup w]) := by
  have hcl : ∀ e ∈ (if a.cleanupClose then [] else [Event.close w]), IsWork w e := by
    intro e he
    split at he
    · cases he
    · exact Or.inl (List.mem_singleton.1 he)
  have hwr : ∀ m (l : List Event), (∀ e ∈ l, IsWork w e) → ∀ e ∈ Event.write w m :: l, IsWork w e :=
    fun m l hl => List.forall_mem_cons.2 ⟨Or.inr ⟨m, rfl⟩, hl⟩
  unfold eventsFor
  rw [hc]
  cases hw : a.write with
  | true => exact ⟨_, hwr n _ hcl, rfl⟩
  | false =>
    cases hcs : a.close with
    | true => exact ⟨_, hwr _ _ hcl, rfl⟩
    | false =>
      cases hrn : a.rename with
      | true => exact ⟨.write w len :: .close w :: _, hwr _ _ (List.forall_mem_cons.2 ⟨Or.inl rfl, hcl⟩), rfl⟩
      | false => simp [succeeded, *] at h

/-- a call that reports an error has never renamed -/
theorem failure_never_renames (a : Answers) (w t len n : Nat) (h : succeeded a = false) (w' : Nat) :
    Event.rename w' ∉ eventsFor a w t len n := by
  cases hc : a.create with
  | true => simp [eventsFor, hc]
  | false =>
    obtain ⟨mid, hmid, e⟩ := failure_events a w t len n h hc
    rw [e]
    intro hmem
    simp only [List.mem_cons, List.mem_append] at hmem
    rcases hmem with (h1 | h1) | h1
    · cases h1
    · rcases hmid _ h1 with h2 | ⟨m, h2⟩
      · cases h2
      · cases h2
    · split at h1
      · cases h1
      · simp at h1

/-- a failure after the creation ends with the removal of the temp file, when that removal went through -/
theorem failure_removes_temp (a : Answers) (w t len n : Nat) (h : succeeded a = false)
    (hc : a.create = false) (hr : a.cleanupRemove = false) :
    (eventsFor a w t len n).getLast? = some (.giveup w) := by
  obtain ⟨mid, _, e⟩ := failure_events a w t len n h hc
  rw [e, hr]
  exact List.getLast?_concat

/-! ### the same, read off the state machine -/

/-- **A `WriteFile` that reports an error has changed no key name**, whatever the oracle answered
and wherever it failed (from ANY state: no assumption on what other writers are doing). -/
theorem failure_keeps_every_key (p : Prog) (s : Sys) (a : Answers) (w t len n : Nat)
    (h : succeeded a = false) (k : Nat) :
    (runFrom p s (eventsFor a w t len n)).dir (.key k) = s.dir (.key k) := by
  apply run_keeps_keys
  intro e he w' heq
  subst heq
  exact failure_never_renames a w t len n h w' he

/-- **Success installs the complete entry**: from a state in which writer `w` is idle and its temp
name free, the key name of `w` points to a fresh inode holding all of `w`'s data, the temp name
is gone and the writer is done. -/
theorem success_installs_complete_entry (p : Prog) (s : Sys) (a : Answers) (w t n : Nat)
    (h : succeeded a = true) (hidle : s.wst w = .idle) (hfree : s.dir (.tmp t) = none) :
    let s' := runFrom p s (eventsFor a w t (p.wdata w).length n)
    s'.dir (.key (p.wkey w)) = some s.next ∧ s'.ino s.next = p.wdata w ∧
      s'.dir (.tmp t) = none ∧ s'.wst w = .done := by
  rw [success_events a w t _ n h]
  exact protocol_installs p s w t hidle hfree

/-- **Failure leaves no temp file** when the cleanup's remove went through: the temp name is free
again and the writer has given up. -/
theorem failure_leaves_no_temp (p : Prog) (s : Sys) (a : Answers) (w t n : Nat)
    (h : succeeded a = false) (hc : a.create = false) (hr : a.cleanupRemove = false)
    (hidle : s.wst w = .idle) (hfree : s.dir (.tmp t) = none) :
    let s' := runFrom p s (eventsFor a w t (p.wdata w).length n)
    s'.dir (.tmp t) = none ∧ s'.wst w = .dead := by
  obtain ⟨mid, hmid, e⟩ := failure_events a w t (p.wdata w).length n h hc
  rw [e, hr, runFrom_append]
  exact giveup_of_hasTemp p _ w t (hasTemp_runFrom p w t mid hmid _ (hasTemp_create p s w t hidle hfree))

/-- a failed creation changes nothing at all -/
theorem failed_create_is_noop (p : Prog) (s : Sys) (a : Answers) (w t len n : Nat) (hc : a.create = true) :
    runFrom p s (eventsFor a w t len n) = s := by
  simp [eventsFor, hc, runFrom]

/-- `wfail` (the event the trace replay uses for a write fault) is a partial write followed by the
cleanup (for a writer that has not already closed its temp file: a write cannot fail after the close) -/
theorem wfail_is_write_then_giveup (p : Prog) (s : Sys) (w n : Nat) (hnc : ∀ t i, s.wst w ≠ .closed t i) :
    step p s (.wfail w n) = runFrom p s [.write w n, .giveup w] := by
  cases hw : s.wst w with
  | opened t i off => simp [runFrom, step, hw, upd_upd]
  | closed t i => exact absurd hw (hnc t i)
  | _ => simp [runFrom, step, hw]

/-! ### the cache's `Set` on top of it (composition with the tie of `crl.FileCache.Set`, Props/C15) -/

/-- the oracle environment of `crl.FileCache.Set` whose `file.WriteFile` IS the translated function,
run against the call oracle `o` from the log `log0` -/
def envWith (env : crl.Env) (o : Oracle) (log0 : List Call) : crl.Env :=
  { env with write := fun d pth b => (runFS (WriteFile d pth b) o log0).1 }

/-- **`Set` runs the protocol in the cache's own directory.** For every bundle `Set` accepts and
every oracle: the result of `Set` is the result of the protocol run with the temp file created in
the ROOT of the cache - the directory of the destination, so the rename never crosses a file
system - on the destination `root/hex(sha256(url))` with the marshalled entry as content. -/
theorem source_Set_runs_protocol (env : crl.Env) (o : Oracle) (log0 : List Call) (c : crl.FileCache)
    (ctx : context.Context) (url : String) (bundle : Option corecrl.Bundle) (b : Src.Bytes) (d : Option Src.Bytes)
    (bytes : Src.Bytes)
    (hop : C15.Tie.opOf url bundle = .set url (some b) d)
    (hm : env.marshal (C15.Tie.contentOf b d) = .ok bytes) :
    crl.FileCache.Set (envWith env o log0) c ctx url bundle =
      (protocol o log0 c.root (C15.Tie.pathOf env c url) bytes).1 := by
  rw [C15.Tie.source_Set_decision, hop]
  simp only [envWith, hm, source_WriteFile_refines_protocol]
  -- the destination path does not depend on the `write` oracle
  rfl

/-! ### non-vacuity: the translated function run on concrete oracles -/

def okOracle : Oracle := { fault := fun _ => none, tempName := fun _ => "notation-123" }

/-- fails the `k`-th call (0-based) of the run -/
def failAt (k : Nat) : Oracle :=
  { fault := fun l => if l.length = k + 1 then some ⟨"EIO"⟩ else none, tempName := fun _ => "notation-123" }

example : runFS (WriteFile "/c" "/c/k" [1, 2]) okOracle =
    (none, [.createTemp "/c" "notation-*", .write ⟨"notation-123"⟩ [1, 2], .close ⟨"notation-123"⟩,
            .rename "notation-123" "/c/k"]) := by decide +kernel

example : runFS (WriteFile "/c" "/c/k" [1, 2]) (failAt 0) = (some ⟨"EIO"⟩, [.createTemp "/c" "notation-*"]) := by
  decide +kernel

example : runFS (WriteFile "/c" "/c/k" [1, 2]) (failAt 1) =
    (some ⟨"EIO"⟩, [.createTemp "/c" "notation-*", .write ⟨"notation-123"⟩ [1, 2], .close ⟨"notation-123"⟩,
                    .remove "notation-123"]) := by decide +kernel

example : runFS (WriteFile "/c" "/c/k" [1, 2]) (failAt 3) =
    (some ⟨"EIO"⟩, [.createTemp "/c" "notation-*", .write ⟨"notation-123"⟩ [1, 2], .close ⟨"notation-123"⟩,
                    .rename "notation-123" "/c/k", .close ⟨"notation-123"⟩, .remove "notation-123"]) := by decide +kernel

example : eventsOf (failAt 2) [] "/c" "/c/k" [1, 2] 0 0 1 = some [.create 0 0, .write 0 2, .close 0, .giveup 0] := by
  decide +kernel

end NotationModel.C14.Tie
