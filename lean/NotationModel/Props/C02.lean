/-
C02 - The verification level alone decides which failed validations reject.
Model in `Model/C02.lean`; the proof that the model's exits satisfy the clauses (`holds_process`) in `Lemmas/C02.lean`. Here the
property theorems, the level tables, the concretisation, and the ties to the translated source.
-/
import NotationModel.Lemmas.C02
import NotationModel.Generated.SrcLevels
import NotationModel.Generated.SrcVerifier
import NotationModel.Generated.SrcAttrs

namespace NotationModel.C02

/-! ### property theorems -/

/-- **C02, the whole property**: every clause of `Holds` is true of the model's behaviour for
every scenario outside the known finding F-C02b. -/
theorem model_holds (i : Input) (hF : knownFinding i (enfOf i) = false) : Holds i (run i) = true := by
  unfold Holds clauses run
  cases heff : effective i.level i.override with
  | error e =>
    exact Inv.holds (s := {}) ⟨by simp, Nat.zero_le _, by simp⟩ false
      (fun hd => by simp [inDomain, levelOK, heff] at hd) nofun
  | ok p =>
    obtain ⟨nm, enf⟩ := p
    have henf : enfOf i = enf := by simp [enfOf, heff]
    rw [henf] at hF ⊢
    exact holds_process i enf hF

/-- a scenario of the known finding F-C02b -/
def findingWitness : Input :=
  { level := "strict", override := [("revocation", "skip")], pluginAttr := .named, minVerAttr := .absent,
    extAttrs := [{ key := "com.example.mustUnderstand", critical := true }], pluginState := .installed,
    pluginVersion := .ok, capIdentity := false, capRevocation := true, trust := .found,
    identityMatch := true, wildcardIdentity := false, expired := false, timestampOk := true, revocation := .ok,
    pluginCallError := false, processed := [], verdictIdentity := .success, verdictRevocation := .success }

/-- the known finding is real in the model: a usable plugin that is never executed lets a critical
extended attribute through (this is what the unchanged code does; KNOWN_FINDINGS.txt F-C02b) -/
theorem finding_counterexample :
    knownFinding findingWitness (enfOf findingWitness) = true ∧ Holds findingWitness (run findingWitness) = false := by
  decide +kernel

/-- reading of the main clause: inside the property's domain and outside the known finding, the
signature is accepted iff no reported result with action enforce failed and the plugin conditions hold -/
theorem reject_iff (i : Input) (hd : inDomain i = true) (hF : knownFinding i (enfOf i) = false) :
    (run i).accepted = true ↔
      ((run i).results.all (fun r => !(r.action == Facts.actionEnforce && r.failed)) = true ∧ pluginOK i (enfOf i) = true) := by
  have h1 := Clauses.holds_at (model_holds i hF) 0 "reject_iff_enforced_failure_or_plugin" rfl
  simp only [hd, Bool.not_true, Bool.false_or, beq_iff_eq] at h1
  rw [h1]
  simp [enforcedFailure, isCritical, List.all_eq_not_any_not]

/-- every reported result carries the action the level assigns to its type -/
theorem results_carry_level_action (i : Input) (hF : knownFinding i (enfOf i) = false) :
    ∀ r ∈ (run i).results, r.action = (enfOf i).get r.type := by
  simpa using Clauses.holds_at (model_holds i hF) 2 "results_carry_level_action" rfl

/-- a skipped revocation validation is not performed at all, natively or by plugin -/
theorem skip_revocation_not_performed (i : Input) (hF : knownFinding i (enfOf i) = false)
    (hs : revSkippedBy (enfOf i) = true) :
    (run i).validatorCalls = 0 ∧ (run i).results.all (fun r => r.type != Facts.typeRevocation) = true ∧
    ∀ caps, (run i).pluginVerifyCaps = some caps → capRevocation ∉ caps := by
  have h := Clauses.holds_at (model_holds i hF) 7 "skipped_revocation_not_performed" rfl
  simp only [hs, Bool.not_true, Bool.false_or, Bool.and_eq_true, beq_iff_eq] at h
  refine ⟨h.1.1, ?_, ?_⟩
  · have := h.1.2
    simp [resultOf] at this
    simpa using this
  · intro caps hc
    have := h.2
    simp [hc] at this
    exact this

/-- a revocation capability declared by the named plugin replaces the native validator -/
theorem capability_replaces_native (i : Input) (hF : knownFinding i (enfOf i) = false)
    (hn : named i = true) (hc : i.capRevocation = true) : (run i).validatorCalls = 0 := by
  simpa [hn, hc] using Clauses.holds_at (model_holds i hF) 8 "plugin_revocation_replaces_native" rfl

/-! ### monotonicity -/

/-- `enf'` is pointwise weaker than `enf`: whatever `enf'` enforces `enf` enforces too, and both
skip revocation or neither does -/
def Weaker (enf enf' : Enf) : Prop :=
  (∀ t, enforced enf' t = true → enforced enf t = true) ∧ revSkippedBy enf = revSkippedBy enf'

theorem pluginOK_congr (i : Input) (enf enf' : Enf) (h : revSkippedBy enf = revSkippedBy enf') :
    pluginOK i enf = pluginOK i enf' := by
  simp [pluginOK, pluginExecuted, askedRevocation, h]

theorem revFailedTruth_congr (i : Input) (enf enf' : Enf) (h : revSkippedBy enf = revSkippedBy enf') :
    revFailedTruth i enf = revFailedTruth i enf' := by
  simp [revFailedTruth, askedRevocation, h]

theorem knownFinding_congr (i : Input) (enf enf' : Enf) (h : revSkippedBy enf = revSkippedBy enf') :
    knownFinding i enf = knownFinding i enf' := by
  simp [knownFinding, pluginExecuted, askedRevocation, h]

theorem not_and_mono {a a' x : Bool} (h : a' = true → a = true) (hx : (!(a && x)) = true) : (!(a' && x)) = true := by
  cases a' with
  | false => rfl
  | true => rw [h rfl] at hx; exact hx

theorem acceptSpec_mono (i : Input) (enf enf' : Enf) (hw : Weaker enf enf')
    (h : acceptSpec i enf = true) : acceptSpec i enf' = true := by
  obtain ⟨he, hs⟩ := hw
  have hp := pluginOK_congr i enf enf' hs
  have hr := revFailedTruth_congr i enf enf' hs
  simp only [acceptSpec, Bool.and_eq_true, Bool.and_assoc] at h ⊢
  rw [← hp, ← hr, ← hs]
  exact ⟨not_and_mono (he _) h.1, not_and_mono (he _) h.2.1, not_and_mono (he _) h.2.2.1,
    not_and_mono (he _) h.2.2.2.1, h.2.2.2.2⟩

/-- **C02, monotonicity**: weakening the level (enforce -> log, same skipped types) never turns an
accepted signature into a rejected one - for all enforcement maps, not only the preset ones. -/
theorem accept_mono (i : Input) (enf enf' : Enf) (hd : inDomain i = true)
    (hF : knownFinding i enf = false) (hw : Weaker enf enf')
    (h : (process i enf).accepted = true) : (process i enf').accepted = true := by
  have hF' : knownFinding i enf' = false := by rw [← knownFinding_congr i enf enf' hw.2]; exact hF
  have e1 := Clauses.holds_at (holds_process i enf hF) 1 "accepted_iff_closed_formula" rfl
  have e2 := Clauses.holds_at (holds_process i enf' hF') 1 "accepted_iff_closed_formula" rfl
  simp only [hd, hF, hF', Bool.not_true, Bool.false_or, beq_iff_eq] at e1 e2
  rw [e2]
  exact acceptSpec_mono i enf enf' hw (by rw [← e1]; exact h)

/-! ### levels (over the tables regenerated from trustpolicy.go) -/

/-- the tables have the expected shape: five types, three actions, four levels in order -/
theorem level_tables_shape :
    Facts.validationTypes = [Facts.typeIntegrity, Facts.typeAuthenticity, Facts.typeAuthenticTimestamp,
      Facts.typeExpiry, Facts.typeRevocation] ∧
    Facts.validationActions = [Facts.actionEnforce, Facts.actionLog, Facts.actionSkip] ∧
    Facts.levels.map (·.1) = ["strict", "permissive", "audit", "skip"] ∧
    (Facts.levels.all fun l => Facts.validationTypes.all fun t => Facts.validationActions.contains (Enf.get l.2 t)) = true := by
  decide +kernel

/-- every preset level other than skip enforces integrity; skip skips everything -/
theorem presets_enforce_integrity :
    (Facts.levels.all fun l => l.1 == "skip" || Enf.get l.2 Facts.typeIntegrity == Facts.actionEnforce) = true ∧
    (Facts.levels.all fun l => l.1 != "skip" ||
      Facts.validationTypes.all fun t => Enf.get l.2 t == Facts.actionSkip) = true := by
  decide +kernel

/-- strict is stronger than permissive, permissive stronger than audit, pointwise, and none of
the three skips revocation (over the regenerated tables) -/
theorem presets_ordered :
    ∀ e1 e2 e3, Facts.levels.lookup "strict" = some e1 → Facts.levels.lookup "permissive" = some e2 →
      Facts.levels.lookup "audit" = some e3 →
      (Facts.validationTypes.all fun t =>
        (!enforced e2 t || enforced e1 t) && (!enforced e3 t || enforced e2 t)) = true ∧
      revSkippedBy e1 = false ∧ revSkippedBy e2 = false ∧ revSkippedBy e3 = false := by
  intro e1 e2 e3 h1 h2 h3
  simp only [Facts.levels, List.lookup] at h1 h2 h3
  simp at h1 h2 h3
  subst h1 h2 h3
  decide +kernel

theorem Enf.get_set (e : Enf) (t a t' : String) :
    (e.set t a).get t' = if t' = t then a else e.get t' := by
  -- `Enf.set` is `GoLite.Map.set` word for word, and `Enf.get` reads `List.lookup`
  have hs : e.set t a = GoLite.Map.set e t a := rfl
  unfold Enf.get
  rw [hs, ← GoLite.Map.get?_eq_lookup, ← GoLite.Map.get?_eq_lookup]
  by_cases ht : t' = t
  · rw [ht, GoLite.Map.get?_set_self, if_pos rfl]; rfl
  · rw [GoLite.Map.get?_set_ne e t t' a (by simpa using Ne.symm ht), if_neg ht]
theorem foldl_applyOverride_error (e : String) (l : List (String × String)) :
    l.foldl applyOverride (.error e) = .error e := by
  induction l with
  | nil => rfl
  | cons a l ih => exact ih

theorem applyOverride_ok {acc acc' : Enf} {kv : String × String} (h : applyOverride (.ok acc) kv = .ok acc') :
    kv.1 ≠ Facts.typeIntegrity ∧ acc' = acc.set kv.1 kv.2 := by
  simp only [applyOverride] at h
  split at h
  · cases h
  split at h
  · cases h
  split at h
  · cases h
  rename_i hni
  split at h
  · cases h
  exact ⟨by simpa using hni, (Except.ok.inj h).symm⟩

theorem foldl_applyOverride_integrity (ov : List (String × String)) (acc r : Enf)
    (h : ov.foldl applyOverride (.ok acc) = .ok r) : r.get Facts.typeIntegrity = acc.get Facts.typeIntegrity := by
  induction ov generalizing acc with
  | nil => cases h; rfl
  | cons kv rest ih =>
    rw [List.foldl_cons] at h
    cases hstep : applyOverride (.ok acc) kv with
    | error e => rw [hstep, foldl_applyOverride_error] at h; cases h
    | ok acc' =>
      obtain ⟨hne, rfl⟩ := applyOverride_ok hstep
      rw [hstep] at h
      rw [ih _ h, Enf.get_set, if_neg (Ne.symm hne)]

/-- `GetVerificationLevel`: whatever overrides are given (any list, any order, duplicates), a
level that is accepted and is not the skip preset enforces integrity -/
theorem effective_enforces_integrity (level : String) (override : List (String × String))
    (nm : String) (enf : Enf) (h : effective level override = .ok (nm, enf)) (hns : nm ≠ "skip") :
    enf.get Facts.typeIntegrity = Facts.actionEnforce := by
  unfold effective at h
  split at h
  · cases h
  split at h
  · cases h
  rename_i name enf0 hfl
  have hbase : name ≠ "skip" → enf0.get Facts.typeIntegrity = Facts.actionEnforce := by
    intro hn
    have hmem : (name, enf0) ∈ Facts.levels := (List.mem_filter.1 (List.mem_of_getLast? hfl)).1
    have := List.all_eq_true.1 presets_enforce_integrity.1 (name, enf0) hmem
    simpa [hn] using this
  split at h
  · cases h; exact hbase hns
  split at h
  · cases h
  rename_i hnskip
  split at h
  · cases h
  rename_i enf' hfold
  cases h
  rw [foldl_applyOverride_integrity _ _ _ hfold]
  exact hbase (by simpa using hnskip)

/-! ### non-vacuity -/

/-- a scenario inside the domain, outside the finding, accepted with a logged failure -/
def sampleAccepted : Input :=
  { level := "permissive", override := [], pluginAttr := .named, minVerAttr := .valid,
    extAttrs := [{ key := "com.example.a", critical := true }], pluginState := .installed,
    pluginVersion := .ok, capIdentity := true, capRevocation := true, trust := .found,
    identityMatch := false, wildcardIdentity := false, expired := true, timestampOk := true, revocation := .revoked,
    pluginCallError := false, processed := ["com.example.a"], verdictIdentity := .success,
    verdictRevocation := .failure }

example : inDomain sampleAccepted = true ∧ knownFinding sampleAccepted (enfOf sampleAccepted) = false ∧
    (run sampleAccepted).accepted = true ∧ (run sampleAccepted).validatorCalls = 0 ∧
    (run sampleAccepted).results.length = 4 := by decide +kernel

/-- the same scenario under strict is rejected (revocation verdict of the plugin is enforced) -/
example : (run { sampleAccepted with level := "strict" }).accepted = false := by decide +kernel

/-- `Holds` is not trivially true: claiming acceptance of the strict run is refuted -/
example : Holds { sampleAccepted with level := "strict" }
    { (run { sampleAccepted with level := "strict" }) with accepted := true } = false := by decide +kernel

/-! ### concretisation: several trust stores, constructors, revocation supply -/

section Irrel
variable (i : Input) (st : List StoreKind) (impl ctor supply : String) (sch : String) (cl bc : Nat) (bh : String) (ts : Bool) (vt bb eg : String)

theorem respondCaps_irrel (enf : Enf) (l : List String) (s : St) :
    respondCaps { i with stores := st, storeImpl := impl, ctor := ctor, revSupply := supply, scheme := sch, chainLen := cl, badCert := bc, badHow := bh, tsaStore := ts, verifyTimestamp := vt, badBy := bb, edge := eg } enf l s = respondCaps i enf l s := by
  induction l generalizing s with
  | nil => rfl
  | cons c rest ih => simp only [respondCaps, respondCap, ih]

/-- The verdict, every reported result and every clause of the property are the same whatever
the concrete configuration that realises the scenario: how many trust stores the statement
lists and where the unloadable one stands, which trust store implementation serves them, which
public constructor built the verifier, through which option the revocation checker was
supplied, and - once the truth of the authentic-timestamp validation is given - under which scheme, chain,
timestamp configuration of the statement (tsa store, verifyTimestamp) and distance from the end points of a
validity period that truth came about. (The harness varies exactly these and the real code has to agree with the model.) -/
theorem concretisation_irrelevant (o : Obs) :
    run { i with stores := st, storeImpl := impl, ctor := ctor, revSupply := supply, scheme := sch, chainLen := cl, badCert := bc, badHow := bh, tsaStore := ts, verifyTimestamp := vt, badBy := bb, edge := eg } = run i ∧
    clauses { i with stores := st, storeImpl := impl, ctor := ctor, revSupply := supply, scheme := sch, chainLen := cl, badCert := bc, badHow := bh, tsaStore := ts, verifyTimestamp := vt, badBy := bb, edge := eg } o = clauses i o ∧
    inDomain { i with stores := st, storeImpl := impl, ctor := ctor, revSupply := supply, scheme := sch, chainLen := cl, badCert := bc, badHow := bh, tsaStore := ts, verifyTimestamp := vt, badBy := bb, edge := eg } = inDomain i := by
  refine ⟨?_, ?_, ?_⟩
  · -- the loop over the capabilities is the only recursion; everything else reads the same fields on both sides
    unfold run process processE pluginStage processResponse
    simp only [respondCaps_irrel]
    rfl
  · rfl
  · rfl
end Irrel

/-! #### end points of a validity period, the statement's timestamp configuration -/

theorem certWindow_other (i : Input) (k : Nat) (hk : k ≠ i.badCert) : certWindow i k = (-far, far) := by
  simp [certWindow, hk]

/-- only certificate `badCert` decides: every other certificate of the minted chain is valid -/
theorem windows_all_validAt (i : Input) (hb : i.badCert < chainLenOf i) :
    (windows i).all validAt = validAt (certWindow i i.badCert) := by
  rw [Bool.eq_iff_iff]
  simp only [windows, List.all_map, List.all_eq_true, List.mem_range, Function.comp_apply]
  refine ⟨fun h => h _ hb, fun hv k _ => ?_⟩
  by_cases hk : k = i.badCert
  · rw [hk]; exact hv
  · rw [certWindow_other i k hk]; decide

theorem windows_any_expiredAt (i : Input) (hb : i.badCert < chainLenOf i) :
    (windows i).any expiredAt = expiredAt (certWindow i i.badCert) := by
  rw [Bool.eq_iff_iff]
  simp only [windows, List.any_map, List.any_eq_true, List.mem_range, Function.comp_apply]
  refine ⟨fun ⟨k, _, h⟩ => ?_, fun h => ⟨_, hb, h⟩⟩
  by_cases hk : k = i.badCert
  · rw [← hk]; exact h
  · rw [certWindow_other i k hk] at h; exact absurd h (by decide)

/-- BOTH end points of a validity period belong to it (seeded change C02-21 counts them as outside) ... -/
theorem end_points_belong (a b : Int) (ha : 0 ≤ a) (hb : b ≤ 0) : validAt (0, a) = true ∧ validAt (b, 0) = true := by
  simp [validAt, ha, hb]

/-- ... and one second beyond either end point is outside, however long the period -/
theorem one_second_outside (a b : Int) : validAt (1, a) = false ∧ validAt (b, -1) = false := by
  simp [validAt]

/-- a certificate is outside its period exactly when it has expired or is not yet valid: the two ways are
exclusive for a non-empty period and neither is "more harmless" -/
theorem not_validAt_iff (w : Int × Int) : validAt w = false ↔ (expiredAt w = true ∨ notYetValidAt w = true) := by
  simp only [validAt, expiredAt, notYetValidAt, Bool.and_eq_false_iff, decide_eq_false_iff_not, decide_eq_true_eq]
  omega

/-- The family of seeded change C02-20: WHATEVER the scheme, the tsa store and the verifyTimestamp option, a
chain with a certificate that is not valid at the prescribed time (expired OR not yet valid) never passes the
authentic-timestamp validation of a signature without countersignature. -/
theorem invalid_certificate_never_passes (i : Input) (ws : List (Int × Int)) (w : Int × Int)
    (hw : w ∈ ws) (hv : validAt w = false) : timestampSpec i ws = false := by
  have : ws.all validAt = false := List.all_eq_false.mpr ⟨w, hw, by simp [hv]⟩
  unfold timestampSpec
  split <;> simp [this]

/-- under `notary.x509` the option `afterCertExpiry` over a chain without an expired certificate judges exactly
like a statement without tsa store ... -/
theorem afterCertExpiry_unexpired_as_without_tsa (i : Input) (ws : List (Int × Int))
    (ho : i.verifyTimestamp = "afterCertExpiry") (he : ws.any expiredAt = false) :
    timestampSpec i ws = timestampSpec { i with tsaStore := false } ws := by
  simp [timestampSpec, timestampDemanded, ho, he, isSA]

/-- ... and every statement that demands a timestamp fails a signature that has none, valid chain or not -/
theorem demanded_timestamp_missing_fails (i : Input) (ws : List (Int × Int)) (hs : isSA i = false)
    (hd : timestampDemanded i ws = true) : timestampSpec i ws = false := by
  simp [timestampSpec, hs, hd]

/-- the signing-authority scheme does not look at the statement's timestamp configuration -/
theorem timestampSpec_signingAuthority_config_irrelevant (i : Input) (ws : List (Int × Int)) (ts : Bool) (vt : String)
    (hs : isSA i = true) : timestampSpec { i with tsaStore := ts, verifyTimestamp := vt } ws = timestampSpec i ws := by
  have : isSA { i with tsaStore := ts, verifyTimestamp := vt } = true := hs
  simp [timestampSpec, hs, this]

theorem validAt_certWindow (i : Input) :
    validAt (certWindow i i.badCert) = (i.timestampOk || i.badHow == "noCountersignature") := by
  simp only [certWindow, bne_self_eq_false, Bool.false_eq_true, if_false]
  cases i.timestampOk
  · by_cases hn : i.badHow = "noCountersignature"
    · simp only [hn, Bool.false_eq_true, if_false, beq_self_eq_true, if_true]; decide
    · have hb : (i.badHow == "noCountersignature") = false := by simpa using hn
      simp only [hb, Bool.false_eq_true, if_false, Bool.false_or]
      split
      · split <;> decide
      · split <;> decide
  · simp only [if_true, Bool.true_or]
    split
    · decide
    · split <;> decide

theorem expiredAt_certWindow (i : Input) (h : i.timestampOk = true) : expiredAt (certWindow i i.badCert) = false := by
  simp only [certWindow, bne_self_eq_false, Bool.false_eq_true, if_false, h, if_true]
  split
  · decide
  · split <;> decide

/-- what the concretisation mints realises `timestampOk`: whichever certificate is the special one (leaf, middle,
LAST, only - seeded change C02-18 forgets the last), whether it lies outside by half an hour or by one second,
whether the prescribed time is an end point of its period (C02-21), and whichever timestamp configuration the
statement has (C02-20: a not-yet-valid certificate under tsa store + afterCertExpiry) -/
theorem timestampSpec_realised (i : Input) (h : concretisationOK i = true) :
    timestampSpec i (windows i) = i.timestampOk := by
  simp only [concretisationOK, Bool.and_eq_true] at h
  obtain ⟨⟨⟨⟨⟨⟨⟨⟨_, _⟩, hnc⟩, hok⟩, hb⟩, _⟩, _⟩, _⟩, _⟩ := h
  have hb' : i.badCert < chainLenOf i := by simpa [chainLenOf] using hb
  clear hb
  simp only [Bool.or_eq_true, Bool.and_eq_true, Bool.not_eq_true', bne_iff_ne, ne_eq, beq_iff_eq] at hnc hok
  unfold timestampSpec timestampDemanded
  rw [windows_all_validAt i hb', windows_any_expiredAt i hb', validAt_certWindow]
  clear hb'
  cases hts : i.timestampOk with
  | true =>
    rw [expiredAt_certWindow i hts]
    rcases hok with ((h | h) | h) | h
    · rw [hts] at h; cases h
    · simp [h]
    · simp [h]
    · simp [h]
  | false =>
    cases hn : (i.badHow == "noCountersignature")
    · simp
    · rcases hnc with (h | h) | ⟨⟨hS, hT⟩, hV⟩
      · rw [hts] at h; cases h
      · exact absurd (by simpa using hn) h
      · simp [hS, hT, hV]

theorem timestampTruth_chainValidity (i : Input) (h : concretisationOK i = true) :
    timestampTruth (chainValidity i) = (i.timestampOk || i.badHow == "noCountersignature") := by
  simp only [concretisationOK, Bool.and_eq_true, decide_eq_true_eq] at h
  have hb' : i.badCert < chainLenOf i := by simpa [chainLenOf] using h.1.1.1.1.2
  rw [← validAt_certWindow, ← windows_all_validAt i hb']
  simp [timestampTruth, chainValidity, List.all_map, Function.comp_def]

/-- dropping the last certificate from the check is observable: a chain whose only bad certificate is the last one -/
example : timestampTruth [true, true, false] = false ∧ timestampTruth ([true, true, false].dropLast) = true := by decide +kernel

/-- an unloadable store of the needed type fails the load at every position of the list -/
theorem trustOf_broken_anywhere (pre post : List StoreKind) :
    trustOf (pre ++ .broken :: post) = .storeError := by
  simp [trustOf]

/-- stores of another type never matter, loadable or not -/
theorem trustOf_ignores_other_types (l : List StoreKind) :
    trustOf (l.filter (fun k => k != .otherType && k != .otherTypeBroken && k != .dup)) = trustOf l := by
  simp [trustOf, List.contains_eq_mem, List.mem_filter]

/-- without an unloadable store the anchor is found wherever its store stands -/
theorem trustOf_anchor_anywhere (pre post : List StoreKind)
    (h : (pre ++ post).contains .broken = false) :
    trustOf (pre ++ .anchor :: post) = .found := by
  have h1 : pre.contains StoreKind.broken = false ∧ post.contains StoreKind.broken = false := by
    simpa [List.contains_eq_mem] using h
  simp [trustOf, List.contains_eq_mem] at h1 ⊢
  exact ⟨h1.1, h1.2⟩

/-- the baseline of the scenarios below: no plugin, every validation passes, accepted under strict -/
def plainAccepted : Input :=
  { level := "strict", override := [], pluginAttr := .absent, minVerAttr := .absent, extAttrs := [],
    pluginState := .installed, pluginVersion := .ok, capIdentity := false, capRevocation := false, trust := .found,
    identityMatch := true, wildcardIdentity := false, expired := false, timestampOk := true, revocation := .ok,
    pluginCallError := false, processed := [], verdictIdentity := .success, verdictRevocation := .success,
    stores := [.otherTypeBroken, .other, .anchor, .dup], storeImpl := "fs", ctor := "NewFromConfig", revSupply := "none" }
example : concretisationOK plainAccepted = true ∧ inDomain plainAccepted = true ∧
    (run plainAccepted).accepted = true := by decide +kernel
/-- a well-formed multi-store scenario with the unloadable store listed BEFORE the good one
(seeded change C02-13) is rejected under strict and accepted with a logged failure under audit -/
def brokenBeforeGood : Input :=
  { plainAccepted with
    trust := .storeError, stores := [.broken, .anchor],
    storeImpl := "fake", ctor := "NewVerifierWithOptions", revSupply := "validator" }
example : concretisationOK brokenBeforeGood = true ∧ (run brokenBeforeGood).accepted = false := by decide +kernel
example : (run { brokenBeforeGood with level := "audit" }).accepted = true ∧
    (run { brokenBeforeGood with level := "audit" }).results.head? =
      some { type := "authenticity", action := "log", failed := true } := by decide +kernel
/-- an observation that accepts it under strict (what C02-13 makes the code do) violates the property -/
example : Holds brokenBeforeGood { (run { brokenBeforeGood with trust := .found }) with accepted := true } = false := by decide +kernel
/-- a self-signed signing certificate that had expired before the signing time, signing-authority scheme
(seeded change C02-18): rejected under strict, reported with action log under audit -/
def selfSignedExpiredSA : Input :=
  { plainAccepted with
    timestampOk := false, scheme := "signingAuthority", chainLen := 1, badCert := 0, badHow := "expired",
    stores := [.anchor], storeImpl := "fake", ctor := "NewVerifierWithOptions", revSupply := "validator" }
example : concretisationOK selfSignedExpiredSA = true ∧ (run selfSignedExpiredSA).accepted = false ∧
    chainValidity selfSignedExpiredSA = [false] := by decide +kernel
example : (run { selfSignedExpiredSA with level := "audit" }).accepted = true ∧
    (run { selfSignedExpiredSA with level := "audit" }).results.contains
      { type := "authenticTimestamp", action := "log", failed := true } = true := by decide +kernel
/-- what C02-18 makes the code report (the validation passed) violates the property -/
example : Holds selfSignedExpiredSA (run { selfSignedExpiredSA with timestampOk := true }) = false := by decide +kernel
/-- a signing certificate that becomes valid only in an hour, no certificate expired, under a statement with a tsa
store and verifyTimestamp = afterCertExpiry (seeded change C02-20): no timestamp is demanded, and the validation fails -/
def notYetValidAfterCertExpiry : Input :=
  { plainAccepted with
    timestampOk := false, scheme := "x509", chainLen := 2, badCert := 0, badHow := "notYetValid",
    tsaStore := true, verifyTimestamp := "afterCertExpiry",
    stores := [.anchor], storeImpl := "fake", ctor := "NewVerifierWithOptions", revSupply := "validator" }
example : concretisationOK notYetValidAfterCertExpiry = true ∧ (run notYetValidAfterCertExpiry).accepted = false ∧
    timestampDemanded notYetValidAfterCertExpiry (windows notYetValidAfterCertExpiry) = false ∧
    timestampSpec notYetValidAfterCertExpiry (windows notYetValidAfterCertExpiry) = false := by decide +kernel
/-- what C02-20 makes the code do (report the validation as passed and accept) violates the property -/
example : Holds notYetValidAfterCertExpiry (run { notYetValidAfterCertExpiry with timestampOk := true }) = false := by decide +kernel
/-- the same valid chain under tsa store + always: the timestamp is demanded and missing -/
example : concretisationOK { notYetValidAfterCertExpiry with badHow := "noCountersignature", verifyTimestamp := "always" } = true ∧
    chainValidity { notYetValidAfterCertExpiry with badHow := "noCountersignature", verifyTimestamp := "always" } = [true, true] ∧
    timestampSpec { notYetValidAfterCertExpiry with badHow := "noCountersignature", verifyTimestamp := "always" }
      (windows { notYetValidAfterCertExpiry with badHow := "noCountersignature", verifyTimestamp := "always" }) = false := by decide +kernel
/-- a signing-authority signature produced in the very second the root's validity begins (seeded change C02-21):
every validation passes, the signature is accepted under strict -/
def signedAtNotBefore : Input :=
  { plainAccepted with
    scheme := "signingAuthority", chainLen := 2, badCert := 1, edge := "notBefore",
    stores := [.anchor], storeImpl := "fake", ctor := "NewVerifierWithOptions", revSupply := "validator" }
example : concretisationOK signedAtNotBefore = true ∧ (run signedAtNotBefore).accepted = true ∧
    windows signedAtNotBefore = [(-far, far), (0, far)] ∧
    timestampSpec signedAtNotBefore (windows signedAtNotBefore) = true := by decide +kernel
/-- what C02-21 makes the code do (report a failed authentic-timestamp validation, reject under strict) violates
the property - also under audit, where the signature is still accepted but a failure is reported that did not happen -/
example : Holds signedAtNotBefore (run { signedAtNotBefore with timestampOk := false }) = false ∧
    Holds { signedAtNotBefore with level := "audit" } (run { signedAtNotBefore with level := "audit", timestampOk := false }) = false := by decide +kernel
/-- one second later than notAfter is outside -/
example : concretisationOK { signedAtNotBefore with timestampOk := false, badHow := "expired", badBy := "second", edge := "" } = true ∧
    windows { signedAtNotBefore with timestampOk := false, badHow := "expired", badBy := "second", edge := "" } = [(-far, far), (-far - far, -1)] := by decide +kernel
/-- deprecated constructor + deprecated client reporting revoked (seeded change C02-14): rejected under strict -/
def clientRevoked : Input :=
  { plainAccepted with revocation := .revoked, ctor := "NewWithOptions", revSupply := "client", storeImpl := "fake" }
example : concretisationOK clientRevoked = true ∧ (run clientRevoked).accepted = false ∧
    (run clientRevoked).validatorCalls = 1 := by decide +kernel
example : Holds clientRevoked (run { clientRevoked with revocation := .ok }) = false := by decide +kernel

/-! ### tie to the translated source -/

namespace Tie
open NotationModel.Src NotationModel.Src.trustpolicy

/-- the fact tables and the translated declarations say the same -/
theorem levels_agree : Facts.levels = VerificationLevels.map (fun l => (l.Name, l.Enforcement)) := by decide +kernel
theorem types_agree : Facts.validationTypes = ValidationTypes := by decide +kernel
theorem actions_agree : Facts.validationActions = ValidationActions := by decide +kernel

/-- result shape: the level (if any) and whether an error is returned -/
def shape (r : Option VerificationLevel × Option GoLite.Err) : Option (String × Enf) × Bool :=
  (r.1.map (fun l => (l.Name, l.Enforcement)), r.2.isSome)

def ofModel : Except String (String × Enf) → Option (String × Enf) × Bool
  | .ok p => (some p, false)
  | .error _ => (none, true)

theorem foldE_foldl (l : List (String × String)) (t : Enf) :
    (match GoLite.foldE (fun t kv => applyOverride (.ok t) kv) l t with
      | .ok t' => Except.ok t'
      | .error (_, e) => Except.error e) = l.foldl applyOverride (.ok t) := by
  induction l generalizing t with
  | nil => simp [GoLite.foldE]
  | cons a l ih =>
    simp only [GoLite.foldE, List.foldl]
    cases h : applyOverride (.ok t) a with
    | ok t' => simpa using ih t'
    | error e => simp [foldl_applyOverride_error]

theorem findLevel_src (lvl : String) :
    findLevel lvl = ((VerificationLevels.filter (fun l => l.Name == lvl)).getLast?).map (fun l => (l.Name, l.Enforcement)) := by
  unfold findLevel
  rw [levels_agree, List.filter_map, List.getLast?_map]
  rfl

/-- the loop state of the override loop, seen from the model: the enforcement map built so far -/
abbrev absSt (t : Enf) : Option (Option VerificationLevel × Option GoLite.Err) × VerificationLevel :=
  (none, { Name := "custom", Enforcement := t })
abbrev stopSt (t : Enf) (_e : String) : Option (Option VerificationLevel × Option GoLite.Err) × VerificationLevel :=
  (some (none, some (GoLite.errorf "")), { Name := "custom", Enforcement := t })

-- `BEq.comm` / `bne_comm` below fire only when the regenerated text writes a comparison the other way round
set_option linter.unusedSimpArgs false in
/-- TIE (translated source): `SignatureVerification.GetVerificationLevel`, translated from
verifier/trustpolicy/trustpolicy.go on every run (`Generated/SrcLevels.lean`, together with the
level tables and the lists of types and actions), returns for EVERY level name and override map
exactly the level and enforcement map of the hand-written `effective`, and an error exactly when
`effective` fails. (Override maps are association lists: the statement holds for every iteration
order Go may choose.) -/
theorem source_GetVerificationLevel_refines_model (sv : SignatureVerification) : shape (GetVerificationLevel sv) = ofModel (effective sv.VerificationLevel sv.Override) := by
  unfold GetVerificationLevel
  simp only [Id.run]
  simp only [GoLite.forIn_lastMatch, GoLite.forIn_firstEq, pure_bind]
  unfold effective
  rw [findLevel_src]
  by_cases h0 : sv.VerificationLevel = ""
  · simp [h0, shape, ofModel, GoLite.idPure]
  · have hne : (sv.VerificationLevel == "") = false := by simpa using h0
    simp only [hne, Bool.false_eq_true, if_false]
    cases hb : (VerificationLevels.filter (fun l => l.Name == sv.VerificationLevel)).getLast? with
    | none => simp [shape, ofModel, GoLite.idPure]
    | some b =>
      have hmem : b ∈ VerificationLevels.filter (fun l => l.Name == sv.VerificationLevel) := List.mem_of_getLast? hb
      simp only [Option.isNone_some, Bool.false_eq_true, if_false, Option.map_some]
      by_cases hov : sv.Override = []
      · simp [hov, shape, ofModel, GoLite.idPure, GoLite.len_beq_zero, GoLite.zero_beq_len]
      · have hemp : sv.Override.isEmpty = false := by simp [hov]
        simp only [GoLite.len_beq_zero, GoLite.zero_beq_len, hemp, Bool.false_eq_true, if_false]
        have hb4 : b = LevelStrict ∨ b = LevelPermissive ∨ b = LevelAudit ∨ b = LevelSkip := by
          have := (List.mem_filter.1 hmem).1
          simpa [VerificationLevels] using this
        -- evaluated on each of the four tables: with distinct keys the copy is the table
        have hcopy : (forIn (GoLite.deref (some b)).Enforcement ({ Name := "custom", Enforcement := [] } : VerificationLevel)
              (fun x __s => (pure (ForInStep.yield { Name := __s.Name, Enforcement := __s.Enforcement.set x.fst x.snd }) : Id _))) =
            pure ({ Name := "custom", Enforcement := b.Enforcement } : VerificationLevel) := by
          rcases hb4 with rfl | rfl | rfl | rfl <;> rfl
        rw [hcopy]
        simp only [pure_bind]
        rw [GoLite.forIn_eq_foldE' _ (fun t kv => applyOverride (.ok t) kv) absSt stopSt ?h _ _ b.Enforcement rfl]
        case h =>
          intro x t
          have hT : ValidationTypes = Facts.validationTypes := types_agree.symm
          have hA : ValidationActions = Facts.validationActions := actions_agree.symm
          have hI : TypeIntegrity = Facts.typeIntegrity := by decide
          have hR : TypeRevocation = Facts.typeRevocation := by decide
          have hS : ActionSkip = Facts.actionSkip := by decide
          -- looking a key up in a list of non-empty strings and testing the result for "" is the model's guard
          have sel : ∀ (l : List String) (k : String),
              ((if l.contains k = true then k else default) == "") = (!l.contains k || k == "") := by
            intro l k; cases l.contains k <;> simp <;> rfl
          rcases x with ⟨k, v⟩
          simp only [hT, hA, hI, hR, hS, applyOverride, BEq.comm (a := ""), BEq.comm (a := Facts.typeIntegrity),
            bne_comm (a := Facts.typeRevocation), BEq.comm (a := Facts.actionSkip), sel]
          by_cases c1 : (!Facts.validationTypes.contains k || k == "") = true
          · simp only [c1, if_true]; rfl
          · simp only [c1]
            simp only [Bool.or_eq_true, not_or, Bool.not_eq_true, Bool.not_eq_false'] at c1
            by_cases c2 : (!Facts.validationActions.contains v || v == "") = true
            · simp only [c2, if_true]; rfl
            · simp only [c2]
              simp only [Bool.or_eq_true, not_or, Bool.not_eq_true, Bool.not_eq_false'] at c2
              simp only [c1.1, c2.1, if_true]
              by_cases c3 : (k == Facts.typeIntegrity) = true
              · simp only [c3, if_true]; rfl
              · simp only [c3]
                by_cases c4 : (k != Facts.typeRevocation && v == Facts.actionSkip) = true
                · simp only [c4, if_true]; rfl
                · simp only [c4]; rfl
        have hskip : (some b == some LevelSkip) = (b.Name == "skip") := by
          rcases hb4 with rfl | rfl | rfl | rfl <;> decide
        rw [hskip, ← foldE_foldl]
        by_cases hs : (b.Name == "skip") = true
        · simp [hs, shape, ofModel, GoLite.idPure]
        · simp only [hs, Bool.false_eq_true, if_false, pure_bind]
          cases hf : GoLite.foldE (fun t kv => applyOverride (Except.ok t) kv) sv.Override b.Enforcement with
          | ok t' => simp [shape, ofModel, GoLite.idPure]
          | error p => obtain ⟨t', e⟩ := p; simp [shape, ofModel, GoLite.idPure]

/-- TIE (translated source): `verifier.isCriticalFailure` is the model's `isCritical` -/
theorem source_isCriticalFailure_refines_model (r : «notation».ValidationResult) :
    verifier.isCriticalFailure r = isCritical { type := r.«Type», action := r.Action, failed := r.Error.isSome } := by
  simp [verifier.isCriticalFailure, isCritical, Id.run, GoLite.idPure]
  rfl

/-- non-vacuity: the translated function on a customised level -/
example : (GetVerificationLevel { VerificationLevel := "strict", Override := [("revocation", "skip")] }).1.map (·.Enforcement) =
    some [("integrity", "enforce"), ("authenticity", "enforce"), ("authenticTimestamp", "enforce"),
          ("expiry", "enforce"), ("revocation", "skip")] := by decide +kernel
example : (GetVerificationLevel { VerificationLevel := "audit", Override := [("integrity", "log")] }).2.isSome = true := by decide +kernel

/-! #### reading the verification-plugin attributes -/
section Attrs
open NotationModel.Src.verifier NotationModel.Src.signature

/-- what a signature's extended attributes say about the verification plugin, as the model's input puts it -/
def classifyPlugin (si : SignerInfo) : PluginAttr :=
  match si.SignedAttributes.ExtendedAttributes.find? (fun a => a.Key == .str HeaderVerificationPlugin) with
  | none => .absent
  | some a =>
    if !a.Critical then .notCritical
    else match a.Value with
      | .other _ => .notString
      | .str s => if GoLite.trimSpace s == "" then .blank else .named

def classifyMinVer (isValidSemver : String → Bool) (si : SignerInfo) : MinVerAttr :=
  match si.SignedAttributes.ExtendedAttributes.find? (fun a => a.Key == .str HeaderVerificationPluginMinVersion) with
  | none => .absent
  | some a =>
    if !a.Critical then .notCritical
    else match a.Value with
      | .other _ => .notString
      | .str s => if GoLite.trimSpace s == "" then .blank else if !isValidSemver s then .invalidSemver else .valid

theorem extract_eq (si : SignerInfo) (key : String) :
    extractCriticalStringExtendedAttribute si key =
      match si.SignedAttributes.ExtendedAttributes.find? (fun a => a.Key == .str key) with
      | none => ("", some errExtendedAttributeNotExist)
      | some a =>
        if !a.Critical then ("", some (GoLite.errorf ""))
        else match a.Value with
          | .other _ => ("", some (GoLite.errorf ""))
          | .str s => (s, none) := by
  unfold extractCriticalStringExtendedAttribute SignerInfo.ExtendedAttribute
  cases si.SignedAttributes.ExtendedAttributes.find? (fun a => a.Key == .str key) with
  | none => rfl
  | some a => cases hc : a.Critical <;> cases hv : a.Value <;> simp [Id.run, hc, hv, AVal.asString, GoLite.idPure, GoLite.errorf]

/-- TIE: `getVerificationPlugin` (with `extractCriticalStringExtendedAttribute`) classifies the plugin
attribute exactly as the model's input enumeration does: absent -> the not-exist sentinel (no plugin
demanded), a critical non-blank string -> that name, everything else -> another error -/
theorem source_getVerificationPlugin_refines_model (si : SignerInfo) :
    (classifyPlugin si = .absent → getVerificationPlugin si = ("", some errExtendedAttributeNotExist)) ∧
    (classifyPlugin si = .named → (getVerificationPlugin si).2 = none ∧
        ∃ a, si.SignedAttributes.ExtendedAttributes.find? (fun a => a.Key == .str HeaderVerificationPlugin) = some a ∧
          a.Value = .str (getVerificationPlugin si).1) ∧
    (classifyPlugin si ≠ .absent → classifyPlugin si ≠ .named →
        (getVerificationPlugin si).1 = "" ∧ (getVerificationPlugin si).2.isSome = true ∧
        (getVerificationPlugin si).2 ≠ some errExtendedAttributeNotExist) := by
  unfold getVerificationPlugin classifyPlugin
  rw [extract_eq]
  cases si.SignedAttributes.ExtendedAttributes.find? (fun a => a.Key == .str HeaderVerificationPlugin) with
  | none => simp [Id.run, GoLite.idPure]
  | some a =>
    cases hc : a.Critical <;> cases hv : a.Value <;>
      simp [Id.run, hc, hv, GoLite.idPure, GoLite.errorf, errExtendedAttributeNotExist]
    rename_i s
    cases hb : (GoLite.trimSpace s == "") <;> simp_all

theorem source_getVerificationPluginMinVersion_refines_model (isValidSemver : String → Bool) (si : SignerInfo) :
    (classifyMinVer isValidSemver si = .absent →
        getVerificationPluginMinVersion isValidSemver si = ("", some errExtendedAttributeNotExist)) ∧
    (classifyMinVer isValidSemver si = .valid → (getVerificationPluginMinVersion isValidSemver si).2 = none ∧
        ∃ a, si.SignedAttributes.ExtendedAttributes.find? (fun a => a.Key == .str HeaderVerificationPluginMinVersion) = some a ∧
          a.Value = .str (getVerificationPluginMinVersion isValidSemver si).1) ∧
    (classifyMinVer isValidSemver si ≠ .absent → classifyMinVer isValidSemver si ≠ .valid →
        (getVerificationPluginMinVersion isValidSemver si).1 = "" ∧
        (getVerificationPluginMinVersion isValidSemver si).2.isSome = true ∧
        (getVerificationPluginMinVersion isValidSemver si).2 ≠ some errExtendedAttributeNotExist) := by
  unfold getVerificationPluginMinVersion classifyMinVer
  rw [extract_eq]
  cases si.SignedAttributes.ExtendedAttributes.find? (fun a => a.Key == .str HeaderVerificationPluginMinVersion) with
  | none => simp [Id.run, GoLite.idPure]
  | some a =>
    cases hc : a.Critical <;> cases hv : a.Value <;>
      simp [Id.run, hc, hv, GoLite.idPure, GoLite.errorf, errExtendedAttributeNotExist]
    rename_i s
    cases hb : (GoLite.trimSpace s == "") <;> cases hs : isValidSemver s <;> simp_all

/-- TIE: the attributes handed to the plugin for processing are ALL extended attributes with a string
key other than the two plugin headers - critical or not, in signature order (the function's name
notwithstanding) -/
theorem source_getNonPluginExtendedCriticalAttributes_refines_model (si : SignerInfo) :
    getNonPluginExtendedCriticalAttributes si =
      si.SignedAttributes.ExtendedAttributes.filter (fun a =>
        match a.Key with
        | .str k => !(VerificationPluginHeaders.contains k)
        | .other _ => false) := by
  unfold getNonPluginExtendedCriticalAttributes
  simp only [Id.run]
  rw [GoLite.forIn_appendIf]
  simp only [pure_bind]
  show ([] ++ List.filter _ _) = _
  rw [List.nil_append]
  apply List.filter_congr
  intro a _
  cases a.Key <;> simp [AVal.asString, GoLite.contains]

/-- non-vacuity: a critical attribute with a sharing-the-prefix key is NOT a plugin header and is handed on -/
example : (getNonPluginExtendedCriticalAttributes { SignedAttributes := { ExtendedAttributes :=
    [{ Key := .str "io.cncf.notary.verificationPlugin", Critical := true, Value := .str "p" },
     { Key := .str "io.cncf.notary.verificationPluginConfigDigest", Critical := true, Value := .str "x" },
     { Key := .other 7, Critical := true, Value := .str "y" }] } }).map (·.Key) =
    [.str "io.cncf.notary.verificationPluginConfigDigest"] := by decide +kernel
example : getVerificationPlugin { SignedAttributes := { ExtendedAttributes :=
    [{ Key := .str "io.cncf.notary.verificationPlugin", Critical := true, Value := .str "  " }] } } =
    ("", some ⟨"error"⟩) := by decide +kernel
end Attrs

end Tie

end NotationModel.C02
