/-
C04 - Identity pinning matches only the signing certificate's own subject.
Property theorems and (namespace `Tie`) the tie to the translated Go functions; the model is in
`Model/C04.lean`, the loop lemmas in `Lemmas/C04.lean`.

Reading guide: `verifyIdentities ids chain` is the model of
`verifyX509TrustedIdentities(_, ids, chain) == nil`; `usable id` says that `id` is an
`x509.subject:` identity with a non-empty, interpretable value; `attrsOf d.rdns` are the
attributes (after the S->ST alias) of a parsed name; `validDN` is "notation can interpret
this name" (spelled out by `validDN_iff`).
-/
import NotationModel.Lemmas.C04
import NotationModel.Generated.C04
import NotationModel.Generated.SrcC04
import NotationModel.Generated.SrcC04c
-- `eq_comm (a := c)` in the ties is for the other spelling of a comparison in the translated text
set_option linter.unusedSimpArgs false

namespace NotationModel.C04

/-! ### the facts read from the Go source are the ones the property is about -/

/-- the constants of the identity check as read from the Go source on this run are the ones the
model and the property use: the leaf is `certs[0]`, the wildcard is `*`, identities are
`x509.subject:<DN>` cut at the first `:`, `S` is an alias of `ST`, an RDN has at most one attribute,
`C`, `ST`, `O` are mandatory, `=#` is refused. A change of any of them in the Go source changes
`Generated/C04.lean` and makes this theorem fail. -/
theorem facts_wf :
    Facts.c04LeafIndex = leafIndex ∧ Facts.c04Wildcard = wildcard ∧ Facts.c04Separator = separator ∧
    Facts.c04X509Subject = x509Subject ∧ Facts.c04AliasFrom = aliasFrom ∧ Facts.c04AliasTo = aliasTo ∧
    Facts.c04MaxAttrsPerRDN = maxAttrs ∧
    (Facts.c04Mandatory.all (mandatory.contains ·) && mandatory.all (Facts.c04Mandatory.contains ·)) = true ∧
    Facts.c04Unsupported = unsupported := by decide +kernel

/-! ### what "interpretable" means -/

/-- a name is interpretable iff its text has no `=#`, go-ldap parses it, no RDN is multi-valued,
no attribute type occurs twice (after the alias) and every mandatory attribute is present with
a non-empty value -/
theorem validDN_iff (text : Text) (rdns : Option (List (List Attr))) :
    validDN text rdns = true ↔
      hasInfix unsupported text = false ∧
      ∃ rs, rdns = some rs ∧ (∀ r ∈ rs, r.length ≤ maxAttrs) ∧ ((flat rs).map Prod.fst).Nodup ∧
        ∀ f ∈ mandatory, ∃ v, v ≠ [] ∧ (f, v) ∈ flat rs := by
  unfold validDN
  cases rdns with
  | none => simp
  | some rs =>
    have hm : hasMandatory (flat rs) = true ↔ ∀ f ∈ mandatory, ∃ v, v ≠ [] ∧ (f, v) ∈ flat rs := by
      simp only [hasMandatory, List.all_eq_true, List.any_eq_true, Bool.and_eq_true, beq_iff_eq,
        Bool.not_eq_true', List.isEmpty_eq_false_iff]
      refine forall₂_congr fun f _ => ⟨?_, ?_⟩
      · rintro ⟨⟨k, v⟩, ha, rfl, hv⟩; exact ⟨v, hv, ha⟩
      · rintro ⟨v, hv, ha⟩; exact ⟨(f, v), ha, rfl, hv⟩
    simp only [Bool.and_eq_true, Bool.not_eq_true', List.all_eq_true, decide_eq_true_eq, nodupKeys_iff, hm,
      Option.some.injEq, keys, exists_eq_left', and_assoc]

theorem usable_iff (id : Identity) :
    usable id = true ↔ ∃ val, cut id.raw = some (x509Subject, val) ∧ val ≠ [] ∧ validDN val id.rdns = true := by
  unfold usable x509Value
  rcases cut id.raw with _ | ⟨pfx, val⟩
  · simp
  · by_cases hp : pfx = x509Subject
    · simp [hp, List.isEmpty_eq_false_iff]
    · simp [hp]

/-- `malformed` spelled out: no separator, or an `x509.subject:` identity whose value is empty or
cannot be interpreted -/
theorem malformed_iff (id : Identity) :
    malformed id = true ↔
      cut id.raw = none ∨
      ∃ val, cut id.raw = some (x509Subject, val) ∧ (val = [] ∨ validDN val id.rdns = false) := by
  unfold malformed
  rcases cut id.raw with _ | ⟨pfx, val⟩
  · simp
  · by_cases hp : pfx = x509Subject
    · simp [hp, List.isEmpty_iff]
    · simp [hp]

/-! ### `run`: the applicable statement and the plugin -/

theorem verifyIdentities_nil (chain : List DN) : verifyIdentities [] chain = false := rfl

theorem run_applicable (i : Input) (s : Statement) (h : applicable i = some s) : run i = process i := by
  simp [run, h]

theorem run_native (i : Input) (h : nativeCheck i = true) :
    (run i).pass = verifyIdentities i.identities i.chain := by
  cases ha : applicable i with
  | none => simp [run, ha, Input.identities, verifyIdentities_nil]
  | some s => simp [run, ha, process, h]

/-- **plugins**: a signature that names no plugin, or a plugin whose exactly spelled capabilities
do not include the trusted-identity one (e.g. revocation only), leaves the identity check native:
the plugin and its answers do not matter. -/
theorem plugin_without_identity_capability_does_not_matter (i : Input) (h : nativeCheck i = true) :
    (run i).pass = verifyIdentities i.identities i.chain := run_native i h

/-- a capability counts only in its exact spelling: declaring other strings (another letter case,
white space) next to the revocation capability does not take the identity check away -/
theorem only_exact_spelling_counts (i : Input) (p : Plugin) (h : i.plugin = some p)
    (hr : capRevocationCheck ∈ p.capabilities) (ht : capTrustedIdentity ∉ p.capabilities) :
    (run i).pass = verifyIdentities i.identities i.chain := by
  apply run_native
  have h1 : capRevocationCheck ∈ pluginCaps p := by simp [pluginCaps, hr]
  have h2 : capTrustedIdentity ∉ pluginCaps p := fun hm => ht (List.mem_filter.1 hm).1
  simp [nativeCheck, h, List.isEmpty_eq_false_iff_exists_mem.2 ⟨_, h1⟩, h2]

theorem revocation_only_plugin_is_native (i : Input) (b : Bool)
    (h : i.plugin = some { capabilities := [capRevocationCheck], identitySuccess := b }) :
    (run i).pass = verifyIdentities i.identities i.chain := by
  apply only_exact_spelling_counts i _ h
  · simp
  · show capTrustedIdentity ∉ [capRevocationCheck]
    decide

/-- a plugin that declares the trusted-identity capability (exactly) decides -/
theorem plugin_with_identity_capability_decides (i : Input) (p : Plugin) (h : i.plugin = some p)
    (hc : capTrustedIdentity ∈ p.capabilities) (s : Statement) (ha : applicable i = some s) :
    (run i).pass = p.identitySuccess := by
  have h1 : capTrustedIdentity ∈ pluginCaps p := by simp [pluginCaps, hc]
  have h3 := List.isEmpty_eq_false_iff_exists_mem.2 ⟨_, h1⟩
  have : nativeCheck i = false := by simp [nativeCheck, h, h1]
  simp [run, ha, process, this, pluginVerdict, h, h3]

theorem not_native_of_refused (i : Input) (h : refused i = true) :
    nativeCheck i = false ∧ pluginVerdict i = false := by
  unfold refused at h
  unfold nativeCheck pluginVerdict
  generalize i.plugin = q at h ⊢
  cases q with
  | none => cases h
  | some p => simp only at h; simp [h]

theorem plugin_without_capability_is_refused (i : Input) (h : refused i = true) : (run i).pass = false := by
  obtain ⟨hn, hv⟩ := not_native_of_refused i h
  cases ha : applicable i <;> simp [run, ha, process, hn, hv]

/-! ### what a pass means: soundness, completeness, leaf only, fail closed -/

theorem mem_all_contains {l attrs : List Attr} :
    l.all (fun a => attrs.contains a) = true ↔ ∀ a ∈ l, a ∈ attrs := by
  simp [List.all_eq_true]

def NoWildcard (ids : List Identity) : Prop := ∀ id ∈ ids, id.raw ≠ wildcard

theorem anyWild_false {ids : List Identity} (h : NoWildcard ids) : ids.any isWild = false := by
  rw [List.any_eq_false]
  intro id hid
  simpa [isWild] using h id hid

/-- **soundness**: if the check passes and the list has no wildcard, then the chain has a leaf
whose subject is interpretable, and some *listed* `x509.subject` identity is interpretable and
all of its attributes occur with equal value among the attributes of the **leaf** subject. -/
theorem identity_pass_sound (ids : List Identity) (chain : List DN) (hnw : NoWildcard ids)
    (h : verifyIdentities ids chain = true) :
    ∃ leaf rest, chain = leaf :: rest ∧ validDN leaf.text leaf.rdns = true ∧
      ∃ id ∈ ids, usable id = true ∧ ∀ a ∈ attrsOf id.rdns, a ∈ attrsOf leaf.rdns := by
  rw [verifyIdentities_eq, anyWild_false hnw, Bool.false_or] at h
  cases chain with
  | nil => simp at h
  | cons leaf rest =>
    simp only [List.head?_cons, Bool.and_eq_true, List.any_eq_true, within] at h
    obtain ⟨_, hv, id, hid, hu, hall⟩ := h
    exact ⟨leaf, rest, rfl, hv, id, hid, hu, mem_all_contains.1 hall⟩

/-- **completeness** (converse): with no malformed identity in the list, an interpretable leaf
subject and a listed interpretable identity whose attributes all occur in it, the check passes. -/
theorem identity_pass_complete (ids : List Identity) (leaf : DN) (rest : List DN)
    (hm : ∀ id ∈ ids, malformed id = false) (hv : validDN leaf.text leaf.rdns = true)
    (h : ∃ id ∈ ids, usable id = true ∧ ∀ a ∈ attrsOf id.rdns, a ∈ attrsOf leaf.rdns) :
    verifyIdentities ids (leaf :: rest) = true := by
  obtain ⟨id, hid, hu, hall⟩ := h
  have hmal : ids.any malformed = false := List.any_eq_false.2 fun x hx => by simp [hm x hx]
  have hw : ids.any (fun id => within id (attrsOf leaf.rdns)) = true :=
    List.any_eq_true.2 ⟨id, hid, by simp only [within, hu, Bool.true_and]; exact mem_all_contains.2 hall⟩
  simp [verifyIdentities_eq, hmal, hv, hw]

/-- **leaf only**: the result is a function of the identity list and the *head* of the chain -
intermediate and root subjects cannot influence it. -/
theorem leaf_only (ids : List Identity) (chain chain' : List DN) (h : chain.head? = chain'.head?) :
    verifyIdentities ids chain = verifyIdentities ids chain' := by
  simp only [verifyIdentities_eq, h]

theorem leaf_only_cons (ids : List Identity) (leaf : DN) (cas cas' : List DN) :
    verifyIdentities ids (leaf :: cas) = verifyIdentities ids (leaf :: cas') :=
  leaf_only ids _ _ rfl

/-- in particular: an identity that fits a CA subject but not the leaf subject does not pass -/
theorem ca_subject_is_not_enough (ids : List Identity) (leaf : DN) (cas : List DN)
    (hnw : NoWildcard ids)
    (hleaf : ∀ id ∈ ids, usable id = true → ∃ a ∈ attrsOf id.rdns, a ∉ attrsOf leaf.rdns) :
    verifyIdentities ids (leaf :: cas) = false := by
  cases hres : verifyIdentities ids (leaf :: cas) with
  | false => rfl
  | true =>
    obtain ⟨l, r, e, _, id, hid, hu, hall⟩ := identity_pass_sound ids _ hnw hres
    simp only [List.cons.injEq] at e
    obtain ⟨a, ha, hna⟩ := hleaf id hid hu
    rw [← e.1] at hall
    exact absurd (hall a ha) hna

/-- **wildcard**: a list that contains `*` accepts every chain -/
theorem wildcard_accepts (ids : List Identity) (chain : List DN) (h : ∃ id ∈ ids, id.raw = wildcard) :
    verifyIdentities ids chain = true := by
  obtain ⟨id, hid, e⟩ := h
  have : ids.any (fun id => id.raw == wildcard) = true := by
    rw [List.any_eq_true]; exact ⟨id, hid, by simp [e]⟩
  simp [verifyIdentities, this]

/-- **fail closed** (no wildcard in the list): a malformed identity (no separator, empty or
uninterpretable `x509.subject` value), a list without any `x509.subject` identity, an empty chain
or an uninterpretable leaf subject each make the check fail. -/
theorem fail_closed (ids : List Identity) (chain : List DN) (hnw : NoWildcard ids)
    (h : (∃ id ∈ ids, malformed id = true) ∨ (∀ id ∈ ids, isX509 id = false) ∨
         chain = [] ∨ (∃ leaf rest, chain = leaf :: rest ∧ validDN leaf.text leaf.rdns = false)) :
    verifyIdentities ids chain = false := by
  rw [verifyIdentities_eq, anyWild_false hnw, Bool.false_or]
  rcases h with ⟨id, hid, hm⟩ | h | h | ⟨leaf, rest, e, hv⟩
  · simp [List.any_eq_true.2 ⟨id, hid, hm⟩]
  · have : ∀ attrs, ids.any (fun id => within id attrs) = false := fun attrs =>
      List.any_eq_false.2 fun x hx hw => by
        rw [within, Bool.and_eq_true] at hw
        exact absurd ((isX509_of_usable hw.1).symm.trans (h x hx)) (by simp)
    cases chain.head? <;> simp [this]
  · subst h; simp
  · subst e; simp [hv]

/-- uninterpretable names, concretely: go-ldap refused the string, `=#` occurs in it, an RDN is
multi-valued, a type occurs twice (`S` counting as `ST`), or a mandatory attribute is absent -/
theorem uninterpretable (text : Text) (rdns : Option (List (List Attr)))
    (h : rdns = none ∨ hasInfix unsupported text = true ∨
      (∃ rs, rdns = some rs ∧ ((∃ r ∈ rs, maxAttrs < r.length) ∨ ¬ ((flat rs).map Prod.fst).Nodup ∨
        ∃ f ∈ mandatory, ∀ v, (f, v) ∈ flat rs → v = []))) :
    validDN text rdns = false := by
  rw [Bool.eq_false_iff]
  intro hv
  obtain ⟨h0, rs, e, h1, h2, h3⟩ := (validDN_iff text rdns).1 hv
  rcases h with h | h | ⟨rs', e', h⟩
  · rw [h] at e; cases e
  · rw [h] at h0; cases h0
  · rw [e] at e'
    simp only [Option.some.injEq] at e'
    subst e'
    rcases h with ⟨r, hr, hl⟩ | h | ⟨f, hf, hall⟩
    · have := h1 r hr; omega
    · exact h h2
    · obtain ⟨v, hv1, hv2⟩ := h3 f hf
      exact hv1 (hall v hv2)

/-! ### invariance -/

/-- two identities the check cannot tell apart -/
structure IdEquiv (a b : Identity) : Prop where
  wild : isWild a = isWild b
  malformed : malformed a = malformed b
  x509 : isX509 a = isX509 b
  usable : usable a = usable b
  attrs : ∀ x, x ∈ attrsOf a.rdns ↔ x ∈ attrsOf b.rdns

/-- two subjects the check cannot tell apart -/
structure DNEquiv (a b : DN) : Prop where
  valid : validDN a.text a.rdns = validDN b.text b.rdns
  attrs : ∀ x, x ∈ attrsOf a.rdns ↔ x ∈ attrsOf b.rdns

theorem within_congr {a b : Identity} {attrs attrs' : List Attr} (h : IdEquiv a b)
    (h2 : ∀ x, x ∈ attrs ↔ x ∈ attrs') : within a attrs = within b attrs' := by
  unfold within
  rw [h.usable]
  congr 1
  rw [Bool.eq_iff_iff, mem_all_contains, mem_all_contains]
  exact ⟨fun H x hx => (h2 x).1 (H x ((h.attrs x).2 hx)), fun H x hx => (h2 x).2 (H x ((h.attrs x).1 hx))⟩

theorem IdEquiv.refl (a : Identity) : IdEquiv a a := ⟨rfl, rfl, rfl, rfl, fun _ => Iff.rfl⟩

theorem verify_congr_id (pre post : List Identity) (a b : Identity) (chain : List DN) (h : IdEquiv a b) :
    verifyIdentities (pre ++ a :: post) chain = verifyIdentities (pre ++ b :: post) chain := by
  simp only [verifyIdentities_eq, List.any_append, List.any_cons, h.wild, h.malformed,
    within_congr h fun _ => Iff.rfl]

theorem verify_congr_leaf (ids : List Identity) (leaf leaf' : DN) (cas cas' : List DN) (h : DNEquiv leaf leaf') :
    verifyIdentities ids (leaf :: cas) = verifyIdentities ids (leaf' :: cas') := by
  simp only [verifyIdentities_eq, List.head?_cons, h.valid, fun id => within_congr (IdEquiv.refl id) h.attrs]

/-- two answers of go-ldap the check cannot tell apart: the same RDNs over the limit (none or
some) and the same attributes after the alias, in any order -/
structure RdnsEquiv (rs rs' : List (List Attr)) : Prop where
  sizes : rs.all (fun r => decide (r.length ≤ maxAttrs)) = rs'.all (fun r => decide (r.length ≤ maxAttrs))
  attrs : (flat rs).Perm (flat rs')

theorem RdnsEquiv.of_perm {rs rs' : List (List Attr)} (h : rs.Perm rs') : RdnsEquiv rs rs' :=
  ⟨h.all_eq, (h.flatten).map norm⟩

theorem RdnsEquiv.of_alias {rs rs' : List (List Attr)} (h : rs.map (List.map norm) = rs'.map (List.map norm)) :
    RdnsEquiv rs rs' := by
  have hflat : ∀ l : List (List Attr), flat (l.map (List.map norm)) = flat l := fun l => by
    simp only [flat, ← List.map_flatten, List.map_map]
    exact List.map_congr_left fun a _ => norm_norm a
  have hsizes : ∀ l : List (List Attr), l.all (fun r => decide (r.length ≤ maxAttrs)) =
      (l.map (List.map norm)).all (fun r => decide (r.length ≤ maxAttrs)) := fun l => by
    simp [List.all_map, Function.comp_def]
  exact ⟨by rw [hsizes rs, hsizes rs', h], by rw [← hflat rs, ← hflat rs', h]⟩

theorem RdnsEquiv.validDN_eq {rs rs' : List (List Attr)} (h : RdnsEquiv rs rs') {t t' : Text}
    (ht : hasInfix unsupported t = hasInfix unsupported t') :
    validDN t (some rs) = validDN t' (some rs') := by
  have hn : nodupKeys (flat rs) = nodupKeys (flat rs') := by
    rw [Bool.eq_iff_iff, nodupKeys_iff, nodupKeys_iff]
    exact (h.attrs.map Prod.fst).nodup_iff
  have hm : hasMandatory (flat rs) = hasMandatory (flat rs') :=
    List.all_congr rfl fun f => h.attrs.any_eq
  simp only [validDN, ht, h.sizes, hn, hm]

theorem RdnsEquiv.dnEquiv {rs rs' : List (List Attr)} (h : RdnsEquiv rs rs') {t t' : Text}
    (ht : hasInfix unsupported t = hasInfix unsupported t') :
    DNEquiv { text := t, rdns := some rs } { text := t', rdns := some rs' } :=
  ⟨h.validDN_eq ht, fun _ => h.attrs.mem_iff⟩

theorem cut_wildcard : cut wildcard = none := by decide +kernel

/-- the identity value and what go-ldap made of it changed, the rest of the string did not -/
theorem RdnsEquiv.idEquiv {rs rs' : List (List Attr)} (h : RdnsEquiv rs rs') {a b : Identity} {pfx v v' : Text}
    (ha : cut a.raw = some (pfx, v)) (hb : cut b.raw = some (pfx, v'))
    (hra : a.rdns = some rs) (hrb : b.rdns = some rs')
    (hempty : v.isEmpty = v'.isEmpty) (ht : hasInfix unsupported v = hasInfix unsupported v') : IdEquiv a b := by
  have hw : ∀ {c : Identity} {w : Text}, cut c.raw = some (pfx, w) → isWild c = false := fun hc => by
    simp only [isWild, beq_eq_false_iff_ne]
    intro e; rw [e, cut_wildcard] at hc; cases hc
  have hvalid := h.validDN_eq ht
  refine ⟨by rw [hw ha, hw hb], ?_, ?_, ?_, by rw [hra, hrb]; exact fun _ => h.attrs.mem_iff⟩
  · simp only [malformed, ha, hb, hra, hrb, hempty, hvalid]
  · simp only [isX509, x509Value, ha, hb]
    by_cases hp : pfx = x509Subject <;> simp [hp]
  · simp only [usable, x509Value, ha, hb, hra, hrb]
    by_cases hp : pfx = x509Subject <;> simp only [hp, if_true, if_false, hempty, hvalid]

/-- **order invariance, subject**: permuting the RDNs of the leaf subject (any `List.Perm`) does
not change the result (the `=#` test looks at the text, so it has to agree on the two texts;
it does whenever neither rendering contains `=#`). -/
theorem order_invariant_subject (ids : List Identity) (t t' : Text) (rs rs' : List (List Attr))
    (cas cas' : List DN) (hp : rs.Perm rs') (ht : hasInfix unsupported t = hasInfix unsupported t') :
    verifyIdentities ids ({ text := t, rdns := some rs } :: cas) =
    verifyIdentities ids ({ text := t', rdns := some rs' } :: cas') :=
  verify_congr_leaf ids _ _ cas cas' ((RdnsEquiv.of_perm hp).dnEquiv ht)

/-- **order invariance, identity**: permuting the RDNs of one listed identity does not change
the result. `a` and `b` are `pfx:v` and `pfx:v'` where go-ldap parses `v` to `rs` and `v'` to a
permutation `rs'` of `rs`. -/
theorem order_invariant_identity (pre post : List Identity) (a b : Identity) (chain : List DN)
    (pfx v v' : Text) (rs rs' : List (List Attr))
    (ha : cut a.raw = some (pfx, v)) (hb : cut b.raw = some (pfx, v'))
    (hra : a.rdns = some rs) (hrb : b.rdns = some rs') (hp : rs.Perm rs')
    (hempty : v.isEmpty = v'.isEmpty) (ht : hasInfix unsupported v = hasInfix unsupported v') :
    verifyIdentities (pre ++ a :: post) chain = verifyIdentities (pre ++ b :: post) chain :=
  verify_congr_id pre post a b chain ((RdnsEquiv.of_perm hp).idEquiv ha hb hra hrb hempty ht)

/-- **alias invariance, subject**: writing `S` or `ST` (RDN by RDN, in either direction) does
not change the result: two parses that agree after the alias are indistinguishable. -/
theorem alias_invariant_subject (ids : List Identity) (t t' : Text) (rs rs' : List (List Attr))
    (cas cas' : List DN) (h : rs.map (List.map norm) = rs'.map (List.map norm))
    (ht : hasInfix unsupported t = hasInfix unsupported t') :
    verifyIdentities ids ({ text := t, rdns := some rs } :: cas) =
    verifyIdentities ids ({ text := t', rdns := some rs' } :: cas') :=
  verify_congr_leaf ids _ _ cas cas' ((RdnsEquiv.of_alias h).dnEquiv ht)

/-- **alias invariance, identity**: the same for one listed identity -/
theorem alias_invariant_identity (pre post : List Identity) (a b : Identity) (chain : List DN)
    (pfx v v' : Text) (rs rs' : List (List Attr))
    (ha : cut a.raw = some (pfx, v)) (hb : cut b.raw = some (pfx, v'))
    (hra : a.rdns = some rs) (hrb : b.rdns = some rs')
    (h : rs.map (List.map norm) = rs'.map (List.map norm))
    (hempty : v.isEmpty = v'.isEmpty) (ht : hasInfix unsupported v = hasInfix unsupported v') :
    verifyIdentities (pre ++ a :: post) chain = verifyIdentities (pre ++ b :: post) chain :=
  verify_congr_id pre post a b chain ((RdnsEquiv.of_alias h).idEquiv ha hb hra hrb hempty ht)

/-- the alias itself: `S=v` and `ST=v` are the same attribute -/
theorem alias_S_ST (v : Text) : norm (['S'], v) = norm (['S', 'T'], v) := by
  simp [norm, aliasFrom, aliasTo]

/-! ### the whole property -/

/-- the conjunct `anyX509` of `spec` is implied by `anyWithinLeaf` -/
theorem anyX509_of_anyWithinLeaf (i : Input) (h : anyWithinLeaf i = true) : anyX509 i = true := by
  simp only [anyWithinLeaf, anyX509, List.any_eq_true] at h ⊢
  obtain ⟨id, hid, hw⟩ := h
  rw [within, Bool.and_eq_true] at hw
  exact ⟨id, hid, isX509_of_usable hw.1⟩

/-- beyond the closed form of the check, `spec` has the conjunct `anyX509` (redundant by
`anyX509_of_anyWithinLeaf`) and `leafAttrs`, which is `attrsOf` of the leaf once the leaf is valid -/
theorem spec_eq (i : Input) : spec i = verifyIdentities i.identities i.chain := by
  have hx := anyX509_of_anyWithinLeaf i
  rw [verifyIdentities_eq]
  unfold spec
  unfold anyWithinLeaf leafValid leafAttrs leafOf at *
  generalize i.chain.head? = c at hx ⊢
  cases c with
  | none => simp [anyWild, anyMalformed]
  | some d =>
    cases hv : validDN d.text d.rdns with
    | false => simp [anyWild, anyMalformed, hv]
    | true =>
      simp only [hv, if_true] at hx ⊢
      cases hw : i.identities.any (fun id => within id (attrsOf d.rdns)) with
      | false => simp [anyWild, anyMalformed]
      | true => simp [anyWild, anyMalformed, hx hw]

theorem run_eq_spec (i : Input) (h : nativeCheck i = true) : (run i).pass = spec i := by
  rw [run_native i h, spec_eq]

theorem holds_guarded (g : Bool) (cs : Clauses) : (guarded g cs).holds = (!g || cs.holds) := by
  cases g <;> simp [guarded, Clauses.holds, List.all_map, Function.comp_def]

/-- **C04, the property relative to the rendered subject**: whenever the check is native, every
core clause is true of the model's behaviour, for all identity lists and chains, without any
assumption. -/
theorem model_holds_core (i : Input) (hn : nativeCheck i = true) : (coreClauses i (run i)).holds = true := by
  have hrun := run_eq_spec i hn
  have hax := anyX509_of_anyWithinLeaf i
  unfold coreClauses
  simp only [Clauses.holds_cons, Clauses.holds_nil, Bool.and_true, hrun]
  unfold spec
  -- a truth table over five Booleans and the implication `hax`
  generalize anyWild i = w
  generalize anyMalformed i = m
  generalize anyX509 i = x at hax
  generalize leafValid i = lv
  generalize anyWithinLeaf i = a at hax
  cases a
  · cases w <;> cases m <;> cases x <;> cases lv <;> rfl
  · rw [hax rfl]
    cases w <;> cases m <;> cases lv <;> rfl

theorem within_mono {id : Identity} {attrs attrs' : List Attr} (h : ∀ a ∈ attrs, a ∈ attrs')
    (hw : within id attrs = true) : within id attrs' = true := by
  rw [within, Bool.and_eq_true, mem_all_contains] at hw ⊢
  exact ⟨hw.1, fun a ha => h a (hw.2 a ha)⟩

theorem model_holds_minted (i : Input) (hn : nativeCheck i = true) (hwf : wf i = true) :
    (mintedClauses i (run i)).holds = true := by
  unfold mintedClauses
  simp only [Clauses.holds_cons, Clauses.holds_nil, Bool.and_true, run_eq_spec i hn]
  cases hs : spec i with
  | false => rfl
  | true =>
    cases hw : anyWild i with
    | true => rfl
    | false =>
      simp only [spec, hw, Bool.false_or, Bool.and_eq_true] at hs
      obtain ⟨id, hid, hwi⟩ := List.any_eq_true.1 hs.2
      rw [List.any_eq_true.2 ⟨id, hid, within_mono (mem_all_contains.1 hwf) hwi⟩]
      rfl

theorem model_holds_plugin (i : Input) : (pluginClauses i (run i)).holds = true := by
  unfold pluginClauses
  simp only [Clauses.holds_cons, Clauses.holds_nil, Bool.and_true]
  cases hr : refused i with
  | true =>
    obtain ⟨hn, hv⟩ := not_native_of_refused i hr
    simp [plugin_without_capability_is_refused i hr, hn, hv]
  | false =>
    cases hn : nativeCheck i with
    | true => rfl
    | false =>
      cases ha : applicable i with
      | none => simp
      | some s => simp [run, ha, process, hn]

theorem model_holds_statement (i : Input) : (statementClauses i (run i)).holds = true := by
  unfold statementClauses
  simp only [Clauses.holds_cons, Clauses.holds_nil, Bool.and_true]
  cases ha : applicable i with
  | none => simp [run, ha]
  | some s => simp

/-- **C04, the whole property**: every clause of `Holds` is true of the model's behaviour, for
all identity lists, chains and plugins, under the (decidable, per-case checked) assumption `wf`
on the trusted rendering: an interpretable leaf subject shows only attributes the certificate
was minted with. `wf` is itself the last clause, so the driver evaluates it on every case. -/
theorem model_holds (i : Input) (hwf : wf i = true) : Holds i (run i) = true := by
  unfold Holds clauses
  rw [Clauses.holds_append, Clauses.holds_append, Clauses.holds_append, holds_guarded, Clauses.holds_append, model_holds_plugin, model_holds_statement]
  have ha : (assumptionClauses i).holds = true := by
    simp [assumptionClauses, Clauses.holds_cons, Clauses.holds_nil, hwf]
  rw [ha]
  cases hn : nativeCheck i with
  | false => rfl
  | true => rw [model_holds_core i hn, model_holds_minted i hn hwf]; rfl

/-! ### non-vacuity -/

section examples

def C : Text := ['C']
def ST : Text := ['S', 'T']
def S : Text := ['S']
def O : Text := ['O']
def CN : Text := ['C', 'N']
def us : Text := ['U', 'S']
def wa : Text := ['W', 'A']
def org : Text := ['N']
def leafCN : Text := ['l']
def rootCN : Text := ['r']

/-- leaf `CN=l,O=N,ST=WA,C=US`, root `CN=r,O=N,ST=WA,C=US` -/
def exChain : List DN :=
  [ { text := ['l'], rdns := some [[(CN, leafCN)], [(O, org)], [(ST, wa)], [(C, us)]] },
    { text := ['r'], rdns := some [[(CN, rootCN)], [(O, org)], [(ST, wa)], [(C, us)]] } ]

def pfx : Text := ['x', '5', '0', '9', '.', 's', 'u', 'b', 'j', 'e', 'c', 't', ':']

/-- `x509.subject:<v>` with the given parse -/
def exId (v : Text) (rs : List (List Attr)) : Identity := { raw := pfx ++ v, rdns := some rs }

def minted : List Attr := [(CN, leafCN), (O, org), (ST, wa), (C, us)]

-- a permuted subset of the leaf subject written with the S alias passes
example : run (ociInput [exId ['a'] [[(C, us)], [(S, wa)], [(O, org)]]] exChain minted none)
    = { pass := true } := by decide +kernel
-- the root's subject does not
example : run (ociInput [exId ['a'] [[(CN, rootCN)], [(O, org)], [(ST, wa)], [(C, us)]]] exChain minted none)
    = { pass := false } := by decide +kernel
-- a superset of the leaf subject does not
example : run (ociInput [exId ['a'] [[(CN, leafCN)], [(O, org)], [(ST, wa)], [(C, us)], [(['L'], [])]]] exChain minted none)
    = { pass := false } := by decide +kernel
-- the lone wildcard does
example : run (ociInput [{ raw := ['*'], rdns := none }] exChain minted none)
    = { pass := true } := by decide +kernel
-- a list without any x509.subject identity does not
example : run (ociInput [{ raw := ['a', ':', 'b'], rdns := none }] exChain minted none)
    = { pass := false } := by decide +kernel
-- `Holds` rejects a wrong observation: passing on the strength of the root's subject
example : Holds (ociInput [exId ['a'] [[(CN, rootCN)], [(O, org)], [(ST, wa)], [(C, us)]]] exChain minted none)
    { pass := true } = false := by decide +kernel
-- ... and failing although a listed identity is within the leaf subject
example : Holds (ociInput [exId ['a'] [[(C, us)], [(ST, wa)], [(O, org)]]] exChain minted none)
    { pass := false } = false := by decide +kernel
example : Holds (ociInput [exId ['a'] [[(C, us)], [(ST, wa)], [(O, org)]]] exChain minted none)
    { pass := true } = true := by decide +kernel
example : wf (ociInput [] exChain minted none) = true := by decide +kernel
-- a revocation-only plugin changes nothing: the root's subject still does not pass ...
example : run (ociInput [exId ['a'] [[(CN, rootCN)], [(O, org)], [(ST, wa)], [(C, us)]]] exChain minted (some { capabilities := [capRevocationCheck], identitySuccess := true })) = { pass := false } := by decide +kernel
-- ... and `Holds` rejects an implementation that lets it pass
example : Holds (ociInput [exId ['a'] [[(CN, rootCN)], [(O, org)], [(ST, wa)], [(C, us)]]] exChain minted (some { capabilities := [capRevocationCheck], identitySuccess := true })) { pass := true } = false := by decide +kernel
-- a plugin owning the trusted-identity capability decides
example : run (ociInput [exId ['a'] [[(CN, rootCN)], [(O, org)], [(ST, wa)], [(C, us)]]] exChain minted (some { capabilities := [capTrustedIdentity, capRevocationCheck], identitySuccess := true })) = { pass := true } := by decide +kernel
example : Holds (ociInput [{ raw := ['*'], rdns := none }] exChain minted (some { capabilities := [capTrustedIdentity], identitySuccess := false })) { pass := true } = false := by decide +kernel

-- another letter case is another string: with the revocation capability next to it the check stays native ...
example : run (ociInput [exId ['a'] [[(CN, rootCN)], [(O, org)], [(ST, wa)], [(C, us)]]] exChain minted (some { capabilities := [capTrustedIdentity.map Char.toLower, capRevocationCheck], identitySuccess := true })) = { pass := false } := by decide +kernel
example : Holds (ociInput [exId ['a'] [[(CN, rootCN)], [(O, org)], [(ST, wa)], [(C, us)]]] exChain minted (some { capabilities := [capTrustedIdentity.map Char.toLower, capRevocationCheck], identitySuccess := true })) { pass := true } = false := by decide +kernel
-- ... and alone it is no verification capability at all: refused
example : run (ociInput [{ raw := ['*'], rdns := none }] exChain minted (some { capabilities := [capTrustedIdentity.map Char.toLower], identitySuccess := true })) = { pass := false } := by decide +kernel

end examples


/-! ### tie to the translated source

`extract/go2lean_c04.go` translates `pkix.IsSubsetDN`, `pkix.ParseDistinguishedName`
(internal/pkix/pkix.go) and `verifier.verifyX509TrustedIdentities` (verifier/verifier.go) into
Lean on every run (`Generated/SrcC04.lean`, `SrcC04c.lean`; the two constants of
internal/trustpolicy in `SrcC04b.lean`). The theorems below say that the translated functions
compute, for ALL inputs, what the hand-written model computes. Go strings are `String` there and
`List Char` in the model (`String.toList`); Go maps are association lists, and the statements hold
for every list, i.e. for every iteration order Go may choose. Oracles: go-ldap's `ParseDN` (a
parameter of the translated `ParseDistinguishedName`) and, in the verifier,
`pkix.ParseDistinguishedName` itself (instantiated with the translated one at the end).
`GoLite.errorf` forgets its message: under `rfl` the translated error with its text IS the `errorf ""` of the
step functions. -/

namespace Tie
open NotationModel.Src

def toAttr (p : String × String) : Attr := (p.1.toList, p.2.toList)
/-- a Go `map[string]string` (association list of strings) as the model's map -/
def toMap (m : GoLite.Map String String) : AttrMap := m.map toAttr

theorem lookup_toMap (m : GoLite.Map String String) (k : String) :
    lookup k.toList (toMap m) = (GoLite.Map.get? m k).map String.toList := by
  induction m with
  | nil => rfl
  | cons a r ih =>
    simp only [toMap, List.map_cons, toAttr, lookup, GoLite.Map.get?, List.find?_cons, String.toList_inj] at ih ⊢
    by_cases h : a.1 = k
    · simp [h]
    · simp only [h, if_false, beq_eq_false_iff_ne.2 h, ih]

/-- `got, ok := m[k]; !ok || got != v` is the negation of the model's presence test -/
theorem lookup_test (m : GoLite.Map String String) (k v : String) :
    (!(GoLite.Map.lookup m k).2 || (GoLite.Map.lookup m k).1 != v) =
      !present (fun got => got == v.toList) (lookup k.toList (toMap m)) := by
  rw [lookup_toMap]
  unfold GoLite.Map.lookup
  cases GoLite.Map.get? m k with
  | none => rfl
  | some g => simp [present, beq_toList, bne]

/-- TIE: `pkix.IsSubsetDN`, for every association list, i.e. whatever order Go iterates the map in -/
theorem source_IsSubsetDN_refines_model (dn1 dn2 : GoLite.Map String String) :
    pkix.IsSubsetDN dn1 dn2 = isSubset (toMap dn1) (toMap dn2) := by
  have hm : isSubset (toMap dn1) (toMap dn2) =
      !dn1.any (fun x => !(GoLite.Map.lookup dn2 x.1).2 || (GoLite.Map.lookup dn2 x.1).1 != x.2) := by
    simp only [isSubset, toMap, List.any_map, lookup_test, List.all_eq_not_any_not, toAttr,
      Function.comp_def]
  unfold pkix.IsSubsetDN
  simp only [Id.run]
  rw [GoLite.forIn_any (fun x => !(GoLite.Map.lookup dn2 x.1).2 || (GoLite.Map.lookup dn2 x.1).1 != x.2)
    _ ?sd _ ?h dn1]
  case h =>
    -- both sides are evaluated for each outcome of the two tests, so that neither their nesting nor their
    -- spelling in the source matters; the state in which the loop stops is read off the first branch that stops (`rfl`)
    intro x
    rcases Bool.eq_false_or_eq_true (GoLite.Map.lookup dn2 x.1).2 with hb | hb
    · by_cases he : (GoLite.Map.lookup dn2 x.1).1 = x.2
      · simp [hb, he]
      · simp [hb, he, eq_comm (a := x.2)]
        rfl
    · simp [hb]
  rw [hm, pure_bind]
  cases dn1.any (fun x => !(GoLite.Map.lookup dn2 x.1).2 || (GoLite.Map.lookup dn2 x.1).1 != x.2) <;> rfl

example : pkix.IsSubsetDN [("C", "US"), ("O", "x")] [("O", "x"), ("CN", "y"), ("C", "US")] = true := by decide +kernel
example : pkix.IsSubsetDN [("C", "US"), ("L", "")] [("O", "x"), ("C", "US")] = false := by decide +kernel

/-! #### ParseDistinguishedName -/

/-- go-ldap's attribute as the model's -/
def toA (a : ldapv3.AttributeTypeAndValue) : Attr := (a.«Type».toList, a.Value.toList)
def toRdns (dn : ldapv3.DN) : List (List Attr) := dn.RDNs.map (fun r => r.Attributes.map toA)
/-- what the oracle `ldap.ParseDN` answered, as the model's input -/
def rdnsOf (r : Option ldapv3.DN × Option GoLite.Err) : Option (List (List Attr)) :=
  if r.2.isSome then none else some (toRdns (GoLite.deref r.1))

def goAlias (t : String) : String := if t == "S" then "ST" else t

/-- one round of the attribute loop on the Go map -/
def innerStep (m : GoLite.Map String String) (a : ldapv3.AttributeTypeAndValue) : Except Unit (GoLite.Map String String) :=
  if (GoLite.Map.lookup m (goAlias a.«Type»)).2 = true then .error ()
  else .ok (GoLite.Map.set m (goAlias a.«Type») a.Value)

/-- one round of the RDN loop -/
def outerStep (m : GoLite.Map String String) (rdn : ldapv3.RelativeDN) :
    Except (GoLite.Map String String) (GoLite.Map String String) :=
  if rdn.Attributes.length > 1 then .error m
  else match GoLite.foldE innerStep rdn.Attributes m with
    | .ok m' => .ok m'
    | .error (mf, _) => .error mf

abbrev PRes := Option (GoLite.Map String String) × Option GoLite.Err
abbrev absP (m : GoLite.Map String String) : Option PRes × GoLite.Map String String := (none, m)
abbrev stopP (m : GoLite.Map String String) (_ : Unit) : Option PRes × GoLite.Map String String :=
  (some (none, some (GoLite.errorf "")), m)
/-- the RDN loop stops with the map as it was when the error occurred -/
abbrev stopO (_ : GoLite.Map String String) (mf : GoLite.Map String String) : Option PRes × GoLite.Map String String :=
  (some (none, some (GoLite.errorf "")), mf)

theorem alias_toList (t : String) :
    (goAlias t).toList = (if t.toList = aliasFrom then aliasTo else t.toList) := by
  have : aliasFrom = "S".toList := rfl
  simp only [goAlias, this, String.toList_inj, beq_iff_eq]
  split <;> rfl

theorem toMap_set_absent (m : GoLite.Map String String) (k v : String) (h : GoLite.Map.get? m k = none) :
    toMap (GoLite.Map.set m k v) = toMap m ++ [(k.toList, v.toList)] := by
  have : m.any (fun p => p.1 == k) = false := by
    rw [List.any_eq_false]
    intro p hp hpk
    simp only [GoLite.Map.get?, Option.map_eq_none_iff, List.find?_eq_none] at h
    exact h p hp hpk
  simp [GoLite.Map.set, this, toMap, toAttr]

theorem foldE_inner (attrs : List ldapv3.AttributeTypeAndValue) : ∀ m : GoLite.Map String String,
    (match GoLite.foldE innerStep attrs m with
      | .ok m' => some (toMap m')
      | .error _ => none) = addAttrs (attrs.map toA) (toMap m) := by
  induction attrs with
  | nil => intro m; simp [GoLite.foldE, addAttrs]
  | cons a r ih =>
    intro m
    simp only [GoLite.foldE, List.map_cons, addAttrs, norm, toA, ← alias_toList, lookup_toMap]
    rcases Option.eq_none_or_eq_some (GoLite.Map.get? m (goAlias a.«Type»)) with hg | ⟨g, hg⟩
    · simp only [innerStep, GoLite.Map.lookup, hg, Bool.false_eq_true, if_false, Option.map_none,
        ← toMap_set_absent m _ _ hg]
      exact ih _
    · simp [innerStep, GoLite.Map.lookup, hg]

theorem foldE_outer (rdns : List ldapv3.RelativeDN) : ∀ m : GoLite.Map String String,
    (match GoLite.foldE outerStep rdns m with
      | .ok m' => some (toMap m')
      | .error _ => none) = addRDNs (rdns.map (fun r => r.Attributes.map toA)) (toMap m) := by
  induction rdns with
  | nil => intro m; simp [GoLite.foldE, addRDNs]
  | cons r rs ih =>
    intro m
    simp only [GoLite.foldE, List.map_cons, addRDNs, outerStep, List.length_map, maxAttrs]
    by_cases hl : r.Attributes.length > 1
    · simp [hl]
    · simp only [hl, if_false]
      rw [← foldE_inner]
      cases GoLite.foldE innerStep r.Attributes m with
      | ok m' => simpa using ih m'
      | error e => simp

/-- `attrKeyValue[field] == ""` -/
theorem get_empty_test (m : GoLite.Map String String) (k : String) :
    (GoLite.Map.get m k == "") = !present (fun v => !v.isEmpty) (lookup k.toList (toMap m)) := by
  rw [lookup_toMap]
  unfold GoLite.Map.get GoLite.Map.lookup
  cases GoLite.Map.get? m k with
  | none => rfl
  | some g => simp [present, beq_empty]

/-- the mandatory-field loop over `fields`, in whatever order the source lists the three -/
theorem any_mandatory_empty (m : GoLite.Map String String) (fields : List String)
    (h : (fields.map String.toList).Perm mandatory) :
    fields.any (fun f => GoLite.Map.get m f == "") = !mandatoryPresent (toMap m) := by
  simp only [mandatoryPresent, ← h.all_eq, List.any_map, List.all_eq_not_any_not, Function.comp_def,
    get_empty_test, Bool.not_not]

def shapeP (r : PRes) : Option AttrMap × Bool := (r.1.map toMap, r.2.isSome)
def ofModelP : Option AttrMap → Option AttrMap × Bool
  | some m => (some m, false)
  | none => (none, true)

theorem hasInfixL_eq (p : List Char) (s : List Char) : strings.hasInfixL p s = hasInfix p s := by
  induction s with
  | nil => rfl
  | cons c r ih => simp [strings.hasInfixL, hasInfix, ih]

/-- TIE: `pkix.ParseDistinguishedName` with go-ldap's `ParseDN` as an oracle: the map of the model's `parseDN`
(through `toMap`), an error exactly when `parseDN` has none -/
theorem source_ParseDistinguishedName_refines_model
    (ldapParseDN : String → Option ldapv3.DN × Option GoLite.Err) (name : String) :
    shapeP (pkix.ParseDistinguishedName ldapParseDN name) =
      ofModelP (parseDN name.toList (rdnsOf (ldapParseDN name))) := by
  unfold pkix.ParseDistinguishedName
  simp only [Id.run]
  unfold parseDN rdnsOf
  have hinf : strings.Contains name "=#" = hasInfix unsupported name.toList := by
    unfold strings.Contains; rw [hasInfixL_eq]; rfl
  rw [hinf]
  cases hasInfix unsupported name.toList with
  | true => rfl
  | false =>
    cases (ldapParseDN name).2.isSome with
    | true => rfl
    | false =>
      simp only [Bool.false_eq_true, if_false]
      rw [GoLite.forIn_eq_foldE' _ outerStep absP stopO ?h _ _ [] rfl]
      case h =>
        -- comparisons are brought to one spelling on both sides (the constant to the right), then decided
        intro rdn m
        have hd : decide (GoLite.len rdn.Attributes > 1) = decide (rdn.Attributes.length > 1) := by
          simp [GoLite.len]; omega
        simp only [hd, outerStep]
        by_cases hl : rdn.Attributes.length > 1
        · simp only [hl, decide_true, if_true]; rfl
        · simp only [hl, decide_false, Bool.false_eq_true, if_false]
          rw [GoLite.forIn_eq_foldE' _ innerStep absP stopP ?hi rdn.Attributes _ m rfl]
          case hi =>
            intro a m'
            simp only [innerStep, goAlias, beq_iff_eq, eq_comm (a := "S")]
            by_cases h : a.«Type» = "S" <;> simp only [h, if_true, if_false]
            · rcases Bool.eq_false_or_eq_true (GoLite.Map.lookup m' "ST").2 with hb | hb <;> simp only [hb] <;> rfl
            · rcases Bool.eq_false_or_eq_true (GoLite.Map.lookup m' a.«Type»).2 with hb | hb <;> simp only [hb] <;> rfl
          rw [pure_bind]
          cases GoLite.foldE innerStep rdn.Attributes m with
          | ok m' => rfl
          | error p => rfl
      rw [pure_bind, toRdns, ← show _ = addRDNs _ [] from foldE_outer (GoLite.deref (ldapParseDN name).fst).RDNs []]
      cases GoLite.foldE outerStep (GoLite.deref (ldapParseDN name).fst).RDNs [] with
      | error p => rfl
      | ok m' =>
        simp only []
        rw [GoLite.forIn_any (fun f => GoLite.Map.get m' f == "") _ ?sd _ ?hm]
        case hm =>
          intro f
          simp only [beq_iff_eq, eq_comm (a := "")]
          by_cases h : GoLite.Map.get m' f = "" <;> simp only [h, if_true, if_false] <;> rfl
        rw [any_mandatory_empty m' _ ?perm, pure_bind]
        case perm => decide
        cases mandatoryPresent (toMap m') <;> rfl

example : (pkix.ParseDistinguishedName (fun _ => (some { RDNs := [{ Attributes := [{ «Type» := "C", Value := "US" }] },
    { Attributes := [{ «Type» := "S", Value := "WA" }] }, { Attributes := [{ «Type» := "O", Value := "x" }] }] }, none)) "C=US,S=WA,O=x").1
    = some [("C", "US"), ("ST", "WA"), ("O", "x")] := by decide +kernel


/-! #### verifyX509TrustedIdentities -/

theorem cut_eq (l : List Char) :
    cut l = if l.contains ':' then some (l.takeWhile (· != ':'), (l.dropWhile (· != ':')).drop 1) else none := by
  induction l with
  | nil => rfl
  | cons c r ih =>
    by_cases h : c = ':'
    · simp [cut, separator, h]
    · simp only [cut, separator, h, if_false, ih, List.contains_cons, beq_eq_false_iff_ne.2 (Ne.symm h), Bool.false_or,
        List.takeWhile_cons, List.dropWhile_cons, bne_iff_ne, ne_eq, not_false_eq_true, if_true]
      cases r.contains ':' <;> rfl

/-- `strings.Cut(s, ":")` and the model's `cut` -/
theorem cut_src (s : String) :
    cut s.toList = if (GoLite.cut s (Char.ofNat 58)).2.2 = true
      then some ((GoLite.cut s (Char.ofNat 58)).1.toList, (GoLite.cut s (Char.ofNat 58)).2.1.toList) else none := by
  rw [cut_eq, GoLite.cut, show Char.ofNat 58 = ':' from rfl]
  cases s.toList.contains ':' <;> simp [String.toList_ofList]

/-- the oracle `pkix.ParseDistinguishedName`, seen from the model: an error, or the parsed map -/
def ofP (r : GoLite.Map String String × Option GoLite.Err) : Option AttrMap :=
  if r.2.isSome then none else some (toMap r.1)

variable (P : String → GoLite.Map String String × Option GoLite.Err)
variable (R : String → Option (List (List Attr)))

/-- an identity string of the policy as the model's input -/
def mkId (s : String) : Identity := { raw := s.toList, rdns := R (GoLite.cut s (Char.ofNat 58)).2.1 }
/-- a certificate as the model's input -/
def mkDN (c : x509.Certificate) : DN := { text := c.Subject.text.toList, rdns := R c.Subject.text }

/-- one round of the identity loop, on the Go values -/
def idStep (acc : List (GoLite.Map String String)) (s : String) :
    Except GoLite.Err (List (GoLite.Map String String)) :=
  if (GoLite.cut s (Char.ofNat 58)).2.2 = false then .error (GoLite.errorf "")
  else if (GoLite.cut s (Char.ofNat 58)).1 == trustpolicyInternal.X509Subject then
    if (GoLite.cut s (Char.ofNat 58)).2.1 == "" then .error (GoLite.errorf "")
    else match (P (GoLite.cut s (Char.ofNat 58)).2.1).2 with
      | some e => .error e
      | none => .ok (acc ++ [(P (GoLite.cut s (Char.ofNat 58)).2.1).1])
  else .ok acc

theorem foldE_collect (hP : ∀ s, ofP (P s) = parseDN s.toList (R s)) (ids : List String) :
    ∀ acc : List (GoLite.Map String String),
    (match GoLite.foldE (idStep P) ids acc with
      | .ok acc' => some (acc'.map toMap)
      | .error _ => none) = collect (ids.map (mkId R)) (acc.map toMap) := by
  induction ids with
  | nil => intro acc; rfl
  | cons s r ih =>
    intro acc
    have hx : x509Subject = trustpolicyInternal.X509Subject.toList := rfl
    simp only [GoLite.foldE, List.map_cons, collect, mkId, cut_src, idStep]
    cases (GoLite.cut s (Char.ofNat 58)).2.2 with
    | false => rfl
    | true =>
      simp only [if_true, Bool.true_eq_false, if_false, hx, String.toList_inj, ← beq_empty, ← hP, ofP]
      by_cases hp : (GoLite.cut s (Char.ofNat 58)).1 = trustpolicyInternal.X509Subject
      · simp only [hp, beq_self_eq_true, if_true]
        cases (GoLite.cut s (Char.ofNat 58)).2.1 == "" with
        | true => rfl
        | false =>
          simp only [Bool.false_eq_true, if_false]
          cases (P (GoLite.cut s (Char.ofNat 58)).2.1).2 with
          | some e => rfl
          | none => simpa using ih (acc ++ [(P (GoLite.cut s (Char.ofNat 58)).2.1).1])
      · simp only [hp, beq_eq_false_iff_ne.2 hp, if_false, Bool.false_eq_true]
        exact ih acc

theorem wildcard_src (ids : List String) :
    GoLite.contains ids trustpolicyInternal.Wildcard = (ids.map (mkId R)).any (fun id => id.raw == wildcard) := by
  have hw : wildcard = trustpolicyInternal.Wildcard.toList := rfl
  simp only [GoLite.contains, List.contains_eq_any_beq, List.any_map, Function.comp_def, mkId, hw, beq_toList]
  exact List.any_congr rfl fun s => Bool.beq_comm

/-- TIE (translated source): `verifier.verifyX509TrustedIdentities` returns no error exactly when
the model's `verifyIdentities` says so - for every identity list, every non-empty chain and every
`ParseDistinguishedName` oracle `P` that behaves like the model's `parseDN` on what go-ldap
answered (`R`). -/
theorem source_verifyX509TrustedIdentities_refines_model
    (hP : ∀ s, ofP (P s) = parseDN s.toList (R s))
    (policyName : String) (ids : List String) (certs : List x509.Certificate) (hc : certs ≠ []) :
    (verifier.verifyX509TrustedIdentities P policyName ids certs).isNone =
      verifyIdentities (ids.map (mkId R)) (certs.map (mkDN R)) := by
  obtain ⟨c0, cs, rfl⟩ := List.exists_cons_of_ne_nil hc
  unfold verifier.verifyX509TrustedIdentities
  simp only [Id.run]
  unfold verifyIdentities
  rw [wildcard_src R]
  cases (ids.map (mkId R)).any (fun id => id.raw == wildcard) with
  | true => rfl
  | false =>
    simp only [Bool.false_eq_true, if_false]
    rw [show (default : List (GoLite.Map String String)) = [] from rfl,
      GoLite.forIn_eq_foldE' _ (idStep P) (fun acc => (none, acc)) (fun acc e => (some (some e), acc)) ?h _ _ [] rfl]
    case h =>
      -- as in `source_IsSubsetDN_refines_model`, for the four tests
      intro s acc
      rcases Bool.eq_false_or_eq_true (GoLite.cut s (Char.ofNat 58)).2.2 with hf | hf
      · by_cases hp : (GoLite.cut s (Char.ofNat 58)).1 = trustpolicyInternal.X509Subject
        · by_cases he : (GoLite.cut s (Char.ofNat 58)).2.1 = ""
          · simp [idStep, hf, hp, he, GoLite.errorf]
          · rcases Option.eq_none_or_eq_some (P (GoLite.cut s (Char.ofNat 58)).2.1).2 with hq | ⟨e, hq⟩ <;>
              simp [idStep, hf, hp, he, hq, eq_comm (a := "")]
        · simp [idStep, hf, hp, eq_comm (a := trustpolicyInternal.X509Subject)]
      · simp [idStep, hf, GoLite.errorf]
    rw [pure_bind, ← show _ = collect _ [] from foldE_collect P R hP ids []]
    cases GoLite.foldE (idStep P) ids [] with
    | error p => rfl
    | ok acc =>
      cases acc with
      | nil => rfl
      | cons m0 ms =>
        simp only [GoLite.len_beq_zero, GoLite.zero_beq_len, GoLite.len_lt_one, List.isEmpty_cons, Bool.false_eq_true,
          if_false]
        rw [show GoLite.idx (c0 :: cs) 0 = c0 from rfl,
          show (List.map (mkDN R) (c0 :: cs))[leafIndex]? = some (mkDN R c0) from rfl]
        simp only [mkDN, pkix.Name.String, ← hP, ofP]
        by_cases hs : (P c0.Subject.text).2.isSome = true
        · simp only [hs, if_true]; rfl
        · simp only [hs, Bool.false_eq_true, if_false]
          change _ = (List.map toMap (m0 :: ms)).any (fun m => isSubset m (toMap (P c0.Subject.text).1))
          rw [List.any_map, GoLite.forIn_any (fun m => pkix.IsSubsetDN m (P c0.Subject.text).1) _ ?sd _ ?hm]
          case hm =>
            intro m
            by_cases h : pkix.IsSubsetDN m (P c0.Subject.text).1 = true <;>
              simp only [h, if_true, Bool.false_eq_true, if_false] <;> rfl
          simp only [pure_bind, Function.comp_def, ← source_IsSubsetDN_refines_model]
          cases (m0 :: ms).any (fun m => pkix.IsSubsetDN m (P c0.Subject.text).1) <;> rfl

/-! #### the two ties composed: only go-ldap's ParseDN is left as an oracle -/

/-- the translated `ParseDistinguishedName` as the verifier's oracle (a nil map reads as empty) -/
def pdnOf (L : String → Option ldapv3.DN × Option GoLite.Err) (s : String) :
    GoLite.Map String String × Option GoLite.Err :=
  ((pkix.ParseDistinguishedName L s).1.getD [], (pkix.ParseDistinguishedName L s).2)

theorem pdnOf_spec (L : String → Option ldapv3.DN × Option GoLite.Err) (s : String) :
    ofP (pdnOf L s) = parseDN s.toList (rdnsOf (L s)) := by
  have h := source_ParseDistinguishedName_refines_model L s
  unfold ofP pdnOf
  generalize parseDN s.toList (rdnsOf (L s)) = m at h ⊢
  generalize pkix.ParseDistinguishedName L s = r at h ⊢
  rcases r with ⟨_ | x, e⟩ <;> cases m <;> simp_all [shapeP, ofModelP]

/-- TIE, end to end: the translated `verifyX509TrustedIdentities`, calling the translated
`ParseDistinguishedName` and `IsSubsetDN`, accepts exactly when the model's `verifyIdentities`
does, whatever go-ldap's `ParseDN` (`L`) answers. -/
theorem source_identity_check_refines_model (L : String → Option ldapv3.DN × Option GoLite.Err)
    (policyName : String) (ids : List String) (certs : List x509.Certificate) (hc : certs ≠ []) :
    (verifier.verifyX509TrustedIdentities (pdnOf L) policyName ids certs).isNone =
      verifyIdentities (ids.map (mkId (fun s => rdnsOf (L s)))) (certs.map (mkDN (fun s => rdnsOf (L s)))) :=
  source_verifyX509TrustedIdentities_refines_model (pdnOf L) (fun s => rdnsOf (L s)) (pdnOf_spec L) policyName ids certs hc

/-- non-vacuity: the translated functions run -/
example : pkix.IsSubsetDN [("C", "US"), ("O", "x")] [("O", "x"), ("CN", "y"), ("C", "US")] = true := by decide +kernel
example : pkix.IsSubsetDN [("C", "US"), ("L", "")] [("O", "x"), ("C", "US")] = false := by decide +kernel

/-- a stand-in for go-ldap on three fixed strings -/
def exL (s : String) : Option ldapv3.DN × Option GoLite.Err :=
  let dn (l : List (String × String)) : Option ldapv3.DN := some { RDNs := l.map (fun p => { Attributes := [{ «Type» := p.1, Value := p.2 }] }) }
  if s == "C=US,S=WA,O=x" then (dn [("C", "US"), ("S", "WA"), ("O", "x")], none)
  else if s == "CN=l,O=x,ST=WA,C=US" then (dn [("CN", "l"), ("O", "x"), ("ST", "WA"), ("C", "US")], none)
  else if s == "CN=r,O=x,ST=WA,C=US" then (dn [("CN", "r"), ("O", "x"), ("ST", "WA"), ("C", "US")], none)
  else (none, some (GoLite.errorf ""))

example : (pkix.ParseDistinguishedName exL "C=US,S=WA,O=x").1 = some [("C", "US"), ("ST", "WA"), ("O", "x")] := by decide +kernel
example : (verifier.verifyX509TrustedIdentities (pdnOf exL) "p" ["x509.subject:C=US,S=WA,O=x"]
    [{ Subject := { text := "CN=l,O=x,ST=WA,C=US" } }, { Subject := { text := "CN=r,O=x,ST=WA,C=US" } }]).isNone = true := by decide +kernel
example : (verifier.verifyX509TrustedIdentities (pdnOf exL) "p" ["x509.subject:CN=r,O=x,ST=WA,C=US"]
    [{ Subject := { text := "CN=l,O=x,ST=WA,C=US" } }, { Subject := { text := "CN=r,O=x,ST=WA,C=US" } }]).isNone = false := by decide +kernel
example : (verifier.verifyX509TrustedIdentities (pdnOf exL) "p" ["*"] [{ Subject := { text := "whatever" } }]).isNone = true := by decide +kernel

end Tie

end NotationModel.C04
