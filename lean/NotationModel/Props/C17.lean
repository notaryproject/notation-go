/-
C17 - Plugin processes are contained: validated replies, bounded output, bounded time.
Theorems about the model of `Model/C17.lean`; in namespace `Tie` the functions translated from the Go source
(`Generated/SrcC17.lean`, `SrcC17b.lean`) are proved to compute what the model computes; examples last.
Part (ii) of the model comes after (iii) and (iv) because it rests on them.
-/
import NotationModel.Model.C17
import NotationModel.Generated.SrcC17
import NotationModel.Generated.SrcC17b

namespace NotationModel.C17


theorem ite_some_eq_none {α : Type} (c : Prop) [Decidable c] (x : α) (r : Option α) :
    (if c then some x else r) = none ↔ ¬c ∧ r = none := by
  by_cases h : c <;> simp [h]

theorem not_or_eq_true_iff (a b : Bool) : (!a || b) = true ↔ (a = true → b = true) := by
  cases a <;> simp

/-! ### obligations on the facts read from the Go source (re-checked on every run) -/

/-- the command is built with `exec.CommandContext` on the caller's context -/
theorem facts_context_bound : Facts.commandContextBound = true := by decide +kernel

/-- `cmd.WaitDelay` is assigned a positive delay of at most the 5 s the property allows -/
theorem facts_wait_delay : ∃ d, Facts.waitDelayMs = some d ∧ 0 < d ∧ d ≤ specDelayMs :=
  ⟨_, rfl, by decide⟩

/-- both `cmd.Stdout` and `cmd.Stderr` are the repository's limit writer with the 64 MiB cap -/
theorem facts_both_streams_capped :
    Facts.stdoutLimit = some specCap ∧ Facts.stderrLimit = some specCap ∧
    Facts.maxPluginOutputSize = specCap := by decide +kernel

/-- the error codes are distinct, none is empty (so an error object carrying one is never
"incomplete"), and the generic code is among them -/
theorem facts_error_codes :
    (Facts.errorCodes.map (·.2)).Nodup ∧ (Facts.errorCodes.all (fun c => c.2 != "")) = true ∧
    (Facts.errorCodes.map (·.2)).contains "ERROR" = true ∧ Facts.errorCodes.length = 6 := by decide +kernel

/-- `run` and `execCommander.Output` touch no package-level variable but the (test-only) `executor`:
no state is shared between calls, which is what lets the model treat overlapping calls one by one -/
theorem facts_no_shared_state : Facts.runGlobals.all (· == "executor") = true := by decide +kernel

/-- the host asks for a non-empty contract version -/
theorem facts_contract_version : (Facts.contractVersion != "") = true := by decide +kernel


structure Contained (cfg : ExecCfg) : Prop where
  ctx : cfg.ctxBound = true
  delay : ∃ d, cfg.waitDelay = some d ∧ d ≤ specDelayMs
  out : cfg.stdoutLimit = some specCap
  err : cfg.stderrLimit = some specCap

theorem codeCfg_contained : Contained codeCfg where
  ctx := facts_context_bound
  delay := let ⟨d, h, _, hd⟩ := facts_wait_delay; ⟨d, h, hd⟩
  out := facts_both_streams_capped.1
  err := facts_both_streams_capped.2.1

/-! ### (i) the limit writer -/

section
variable (N : Int) (s : WStep)

theorem lwWrite_account : (lwWrite N s).1 = N - ((lwWrite N s).2.n : Int) := by
  unfold lwWrite
  split <;> simp

theorem lwWrite_n_le : (lwWrite N s).2.n ≤ N.toNat := by
  unfold lwWrite
  split
  · exact Nat.zero_le _
  · refine Nat.le_trans (Nat.min_le_left _ _) ?_
    split
    · exact Nat.le_refl _
    · omega

theorem lwWrite_le : (lwWrite N s).1 ≤ N := by
  rw [lwWrite_account]
  omega

theorem lwWrite_n_le_len : (lwWrite N s).2.n ≤ s.len := by
  unfold lwWrite
  split
  · exact Nat.zero_le _
  · refine Nat.le_trans (Nat.min_le_left _ _) ?_
    split
    · omega
    · exact Nat.le_refl _

theorem lwWrite_err : (lwWrite N s).2.err = .limitExceeded ↔ N ≤ 0 := by
  unfold lwWrite
  by_cases hN : N ≤ 0
  · simp [hN]
  · cases s.fail <;> simp [hN]

theorem lwWrite_nonneg (h : 0 ≤ N) : 0 ≤ (lwWrite N s).1 := by
  have := lwWrite_n_le N s
  rw [lwWrite_account]
  omega

end

theorem total_natCast (os : List WOut) : (os.map fun o => (o.n : Int)).sum = (total os : Int) := by
  induction os with
  | nil => rfl
  | cons o os ih => simp only [List.map_cons, List.sum_cons, total] at ih ⊢; omega

theorem lwRun_account : ∀ (steps : List WStep) (N : Int),
    (lwRun N steps).1 = N - (total (lwRun N steps).2 : Int) ∧ total (lwRun N steps).2 ≤ N.toNat := by
  intro steps
  induction steps with
  | nil => intro N; simp [lwRun, total]
  | cons s r ih =>
    intro N
    obtain ⟨h1, h2⟩ := ih (lwWrite N s).1
    have h3 := lwWrite_account N s
    have h4 := lwWrite_n_le N s
    simp only [lwRun, total, List.map_cons, List.sum_cons] at h1 h2 ⊢
    omega

theorem lwStates_antitone : ∀ (steps : List WStep) (N : Int),
    List.Pairwise (fun a b => b ≤ a) (N :: lwStates N steps) := by
  intro steps
  induction steps with
  | nil => intro N; simp [lwStates]
  | cons s r ih =>
    intro N
    have h := ih (lwWrite N s).1
    have hle := lwWrite_le N s
    refine List.pairwise_cons.2 ⟨fun x hx => ?_, h⟩
    rcases List.mem_cons.1 hx with rfl | hx
    · exact hle
    · exact Int.le_trans (List.rel_of_pairwise_cons h hx) hle

/-- **C17 (i).** For every limit, every sequence of writes and every
behaviour of the underlying writer (short writes, errors, in any call): the bytes passed on
never exceed the limit, `N` accounts for every byte, `N` never increases and - for a
non-negative limit - never becomes negative. -/
theorem writer_never_exceeds (limit : Int) (steps : List WStep) :
    total (lwRun limit steps).2 ≤ limit.toNat ∧
    (lwRun limit steps).1 = limit - (total (lwRun limit steps).2 : Int) ∧
    List.Pairwise (fun a b => b ≤ a) (limit :: lwStates limit steps) ∧
    (0 ≤ limit → 0 ≤ (lwRun limit steps).1) := by
  obtain ⟨h1, h2⟩ := lwRun_account steps limit
  exact ⟨h2, h1, lwStates_antitone steps limit, fun h => by omega⟩

theorem lwRun_outsOk : ∀ (steps : List WStep) (N : Int), outsOk N steps (lwRun N steps).2 = true := by
  intro steps
  induction steps with
  | nil => intro N; simp [lwRun, outsOk]
  | cons s r ih =>
    intro N
    have hn := lwWrite_n_le N s
    simp only [lwRun, outsOk, Bool.and_eq_true, decide_eq_true_eq]
    refine ⟨⟨lwWrite_n_le_len N s, ?_⟩, lwWrite_account N s ▸ ih _⟩
    by_cases hN : N ≤ 0
    · simp [hN, (lwWrite_err N s).2 hN]
      omega
    · simp [hN, lwWrite_err]
      omega

/-- when the underlying writer takes everything it is handed (a `bytes.Buffer`), exactly
`min(limit, bytes offered)` bytes are stored -/
theorem writer_exact_on_buffer : ∀ (steps : List WStep) (N : Int), 0 ≤ N →
    (∀ s ∈ steps, s.len ≤ s.accept) →
    total (lwRun N steps).2 = min N.toNat (steps.map (·.len)).sum := by
  intro steps
  induction steps with
  | nil => intro N _ _; simp [lwRun, total]
  | cons s r ih =>
    intro N hN hall
    have hs : s.len ≤ s.accept := hall s (List.mem_cons_self ..)
    have h1 := ih (lwWrite N s).1 (lwWrite_nonneg N s hN) (fun x hx => hall x (List.mem_cons_of_mem _ hx))
    simp only [lwRun, total, List.map_cons, List.sum_cons] at h1 ⊢
    rw [h1]
    generalize (List.map (fun x => x.len) r).sum = S
    obtain ⟨k, rfl⟩ := Int.eq_ofNat_of_zero_le hN
    unfold lwWrite
    cases k with
    | zero => simp
    | succ k =>
      have h0 : ¬ ((k + 1 : Nat) : Int) ≤ 0 := by omega
      simp only [h0, if_false, Int.toNat_natCast]
      split
      ·
        rw [Nat.min_eq_left (by omega : k + 1 ≤ s.accept), Int.toNat_sub, Nat.sub_self, Nat.zero_min,
          Nat.min_eq_left (by omega : k + 1 ≤ s.len + S)]
      ·
        rw [Nat.min_eq_left hs, Int.toNat_sub, ← Nat.add_min_add_left,
          Nat.add_sub_cancel' (by omega : s.len ≤ k + 1)]

/-! ### (iv) the wait machine -/

section
-- throughout this section `simp` evaluates the operations on times
attribute [local simp] tle tlt tmin tmax tadd

theorem tmin_some (a b : Nat) : tmin (some a) (some b) = some (min a b) := rfl

theorem tmin_eq (a b : Time) : tmin a b = if tlt a b then a else b := by
  cases a with
  | none => cases b <;> rfl
  | some a =>
    cases b with
    | none => rfl
    | some b =>
      by_cases h : b ≤ a
      · simp [h, Nat.min_eq_right h]
      · simp [h, Nat.min_eq_left (Nat.le_of_not_le h)]

theorem tmin_some_le (c : Nat) (e : Time) : ∃ s, tmin (some c) e = some s ∧ s ≤ c := by
  cases e with
  | none => exact ⟨c, rfl, Nat.le_refl c⟩
  | some e => exact ⟨min c e, rfl, Nat.min_le_left c e⟩

theorem tle_some_mono {a : Time} {x y : Nat} (h : tle a (some x) = true) (hxy : x ≤ y) :
    tle a (some y) = true := by
  cases a with
  | none => exact h
  | some a => simp at h ⊢; omega

/-- closing the pipes by force at `y` bounds the return, whatever the descendants do with the pipes -/
theorem tle_forced_close (x y z : Nat) (p : Time) (hx : x ≤ z) (hy : y ≤ z) :
    tle (tmax (some x) (tmin (tmax (some x) p) (some y))) (some z) = true := by
  cases p with
  | none => simpa using Nat.max_le.2 ⟨hx, hy⟩
  | some p => simpa using Nat.max_le.2 ⟨hx, Nat.le_trans (Nat.min_le_right _ y) hy⟩

/-- the delay counts from the earlier of "context ended" and "child exited"; kill latency and delay overlap -/
theorem bounded_return_tight (cfg : ExecCfg) (d c kl : Nat) (b : Behaviour)
    (hctx : cfg.ctxBound = true) (hwd : cfg.waitDelay = some d) :
    tle (wait cfg kl (some c) b).ret (tadd (tmin (some c) b.exitAt) (max kl d)) = true := by
  obtain ⟨e, p⟩ := b
  simp only [wait, hctx, hwd, Bool.true_and, if_true, tmin_eq (some c) e]
  cases hk : tlt (some c) e with
  | true =>
    -- killed at `c`: the exit is seen at `c + kl`, the delay runs from `c`
    simp only [if_true, tadd, tmin_some, Nat.min_eq_left (Nat.le_add_right c kl)]
    exact tle_forced_close (c + kl) (c + d) (c + max kl d) p (by omega) (by omega)
  | false =>
    -- the child exits by itself at `e`, before the context ends: the delay runs from `e`
    cases e with
    | none => simp at hk
    | some e =>
      simp only [Bool.false_eq_true, if_false, tmin_eq (some c) (some e), hk, tadd]
      exact tle_forced_close e (e + d) (e + max kl d) p (by omega) (by omega)

/-- **C17 (iv).** If the command is context-bound and `WaitDelay = d`, then
for *every* behaviour of the plugin and of its descendants (never exiting, holding the pipes
for ever, …) `cmd.Run()` returns at most `killLatency + d` after the end of the context. -/
theorem bounded_return (cfg : ExecCfg) (d c kl : Nat) (b : Behaviour)
    (hctx : cfg.ctxBound = true) (hwd : cfg.waitDelay = some d) :
    tle (wait cfg kl (some c) b).ret (some (c + kl + d)) = true := by
  obtain ⟨s, hs, hsc⟩ := tmin_some_le c b.exitAt
  have h := bounded_return_tight cfg d c kl b hctx hwd
  rw [hs] at h
  exact tle_some_mono h (by omega)

theorem wait_killed (cfg : ExecCfg) (kl : Nat) (c : Time) (b : Behaviour) :
    (wait cfg kl c b).killed = (cfg.ctxBound && tlt c b.exitAt) := by
  unfold wait
  cases cfg.waitDelay <;> rfl

theorem wait_exit_first (cfg : ExecCfg) (kl e : Nat) (ctxEnd p : Time) (hc : tlt ctxEnd (some e) = false) :
    wait cfg kl ctxEnd ⟨some e, p⟩ =
      match cfg.waitDelay with
      | none => { killed := false, exitObs := some e, delayExpired := false, ret := tmax (some e) p }
      | some d =>
        { killed := false, exitObs := some e, delayExpired := tlt (some (e + d)) (tmax (some e) p),
          ret := tmax (some e) (tmin (tmax (some e) p) (some (e + d))) } := by
  unfold wait
  cases cfg.waitDelay <;>
    simp only [hc, Bool.and_false, Bool.false_eq_true, if_false, tmin_eq ctxEnd (some e), ite_self, tadd]

theorem prompt_return (cfg : ExecCfg) (e kl : Nat) (ctxEnd : Time) (hc : tlt ctxEnd (some e) = false) :
    (wait cfg kl ctxEnd ⟨some e, some 0⟩).ret = some e ∧
    (wait cfg kl ctxEnd ⟨some e, some 0⟩).killed = false ∧
    (wait cfg kl ctxEnd ⟨some e, some 0⟩).delayExpired = false := by
  rw [wait_exit_first cfg kl e ctxEnd (some 0) hc]
  cases cfg.waitDelay <;> simp

/-- the visible side effect of `WaitDelay`: a plugin that exits by itself (even successfully)
but leaves a descendant holding its pipes for more than `d` makes `cmd.Run()` return at
exit + `d` with the pipes closed by force (`ErrWaitDelay`) instead of blocking -/
theorem abandoned_descendant_cut_off (cfg : ExecCfg) (d e kl : Nat) (ctxEnd p : Time)
    (hwd : cfg.waitDelay = some d) (hc : tlt ctxEnd (some e) = false) (hp : tlt (some (e + d)) p = true) :
    (wait cfg kl ctxEnd ⟨some e, p⟩).ret = some (e + d) ∧
    (wait cfg kl ctxEnd ⟨some e, p⟩).delayExpired = true := by
  rw [wait_exit_first cfg kl e ctxEnd p hc, hwd]
  cases p <;> simp at hp ⊢ <;> omega

/-- **The fact is necessary (1).** Without `WaitDelay` - whatever else the configuration says,
context-bound or not - a plugin that exits at once but leaves a descendant holding the pipes
keeps the call from ever returning … -/
theorem unbounded_without_wait_delay (cfg : ExecCfg) (c kl : Nat) (hwd : cfg.waitDelay = none) :
    ∃ b : Behaviour, b.exitAt = some 0 ∧ (wait cfg kl (some c) b).ret = none := by
  refine ⟨⟨some 0, none⟩, rfl, ?_⟩
  rw [wait_exit_first cfg kl 0 (some c) none rfl, hwd]
  rfl

/-- … and with descendants that do let go eventually, no bound `B` holds for all of them. -/
theorem no_bound_without_wait_delay (cfg : ExecCfg) (c kl : Nat) (hwd : cfg.waitDelay = none) (B : Nat) :
    ∃ b : Behaviour, b.exitAt = some 0 ∧ b.pipesAt = some (B + 1) ∧
      tle (wait cfg kl (some c) b).ret (some B) = false := by
  refine ⟨⟨some 0, some (B + 1)⟩, rfl, rfl, ?_⟩
  rw [wait_exit_first cfg kl 0 (some c) (some (B + 1)) rfl, hwd]
  simp

/-- **The fact is necessary (2).** Without `exec.CommandContext` a plugin that never exits is
never killed: the call never returns, `WaitDelay` or not. -/
theorem unbounded_without_context (cfg : ExecCfg) (c kl : Nat) (hctx : cfg.ctxBound = false) :
    ∃ b : Behaviour, (wait cfg kl (some c) b).ret = none := by
  refine ⟨⟨none, some 0⟩, ?_⟩
  unfold wait
  cases hw : cfg.waitDelay <;> simp [hctx]

theorem code_bounded_return (c kl : Nat) (b : Behaviour) :
    tle (wait codeCfg kl (some c) b).ret (some (c + kl + specDelayMs)) = true := by
  obtain ⟨d, hd, hle⟩ := codeCfg_contained.delay
  exact tle_some_mono (bounded_return codeCfg d c kl b codeCfg_contained.ctx hd) (by omega)

end

/-! ### (iii) metadata validation -/

/-- **C17 (iii).** `validate` accepts exactly the metadata with every
mandatory field present and the host's contract version among the supported ones. -/
theorem metadata_ok_iff (m : Meta) :
    validateErr m = none ↔
      (m.name ≠ "" ∧ m.description ≠ "" ∧ m.version ≠ "" ∧ m.url ≠ "" ∧ m.capabilities ≠ [] ∧
       m.contractVersions.contains Facts.contractVersion = true) := by
  -- a list that contains the host's version is not empty: the check before the last adds nothing
  have hne : m.contractVersions.contains Facts.contractVersion = true → ¬m.contractVersions = [] :=
    fun h e => by simp [e] at h
  simp only [validateErr, ite_some_eq_none, beq_iff_eq, List.isEmpty_iff, Bool.not_eq_true',
    Bool.not_eq_false, and_true, ne_eq, and_iff_right_of_imp hne]

/-! ### (ii) the decision of `run` -/

/-- `cmd.Run()` reported an error. `decide_` spells this test (its `let failed`) and the body of `metadataDecision`
out inline; `error_mapping` and `decide_of_ok` are where they are identified with these names. -/
def execFailed (cfg : ExecCfg) (i : Input) (w : WaitOut) : Bool :=
  !i.executable || w.killed || i.exitCode != 0 || w.delayExpired ||
    over cfg.stdoutLimit (effOutSize i) || over cfg.stderrLimit (effErrSize i)

/-- **C17 (ii).** When `cmd.Run()` fails: no stderr (or a file that cannot be
started) gives the executable-file error, an error object carrying a code, a message or
metadata comes back as the plugin's own error with exactly its code, anything else on stderr
(not JSON, wrong types, an object with none of the three, more than the cap) is a malformed-plugin
error - in this order, and stdout plays no role. -/
theorem error_mapping (cfg : ExecCfg) (i : Input) (w : WaitOut) (hf : execFailed cfg i w = true) :
    decide_ cfg i w =
      if !i.executable || (!errCut cfg i && i.stderr == .empty) then (.executableFileError, "")
      else if !errCut cfg i && i.stderr == .errorObject && errorObjectComplete i
        then (.pluginError, i.errCode)
      else (.malformedPluginError, "") := by
  show (if execFailed cfg i w = true then _ else _) = _
  rw [hf, if_pos rfl]
  cases i.executable with
  | false => rfl
  | true =>
    cases errCut cfg i with
    | true => rfl
    | false => cases i.stderr <;> rfl

theorem decide_of_ok (cfg : ExecCfg) (i : Input) (w : WaitOut) (hf : execFailed cfg i w = false) :
    decide_ cfg i w =
      if !outDecodes i then (.malformedPluginError, "")
      else if i.command == .getMetadata then metadataDecision (seenMeta i) i.pluginName else (.ok, "") := by
  show (if execFailed cfg i w = true then _ else _) = _
  rw [hf]
  rfl

theorem failed_never_ok (cfg : ExecCfg) (i : Input) (w : WaitOut) (hf : execFailed cfg i w = true) :
    (decide_ cfg i w).1 ≠ .ok := by
  rw [error_mapping cfg i w hf]
  split
  · simp
  · split <;> simp

theorem metadataDecision_ok_iff (m : Meta) (n : String) :
    (metadataDecision m n).1 = .ok ↔ validateErr m = none ∧ m.name = n := by
  unfold metadataDecision
  cases validateErr m with
  | some e => simp
  | none => by_cases h : m.name = n <;> simp [h]

/-- **C17 (ii).** A call succeeds exactly when the process could be started, was
not killed, exited with status 0, its pipes were closed in time, neither stream ran over its
limit, stdout decodes into the response - and, for get-plugin-metadata, the metadata
validates and is named like the plugin. -/
theorem run_ok_iff (cfg : ExecCfg) (i : Input) (w : WaitOut) :
    (decide_ cfg i w).1 = .ok ↔
      (execFailed cfg i w = false ∧ outDecodes i = true ∧
       (i.command = .getMetadata → validateErr (seenMeta i) = none ∧ (seenMeta i).name = i.pluginName)) := by
  cases hf : execFailed cfg i w with
  | true => simp [failed_never_ok cfg i w hf]
  | false =>
    rw [decide_of_ok cfg i w hf]
    cases outDecodes i with
    | false => simp
    | true =>
      by_cases hc : i.command = .getMetadata
      · simp [hc, metadataDecision_ok_iff]
      · simp [hc]

/-- the model's `decide_` is the composition of the two decision functions the source is tied to -/
theorem decide_eq_decisions (cfg : ExecCfg) (i : Input) (w : WaitOut) :
    decide_ cfg i w =
      (let r := runDecision (execFailed cfg i w) (seenStderrEmpty cfg i) (seenStderrCode cfg i) (outDecodes i)
       if r.1 == .ok && i.command == .getMetadata then metadataDecision (seenMeta i) i.pluginName else r) := by
  cases hf : execFailed cfg i w with
  | true =>
    rw [error_mapping cfg i w hf]
    simp only [runDecision, seenStderrEmpty, seenStderrCode, if_true]
    -- `seenStderrCode` repeats that the file could be started, which the first test has settled by then
    by_cases he : i.executable = true
    · simp only [he, Bool.not_true, Bool.false_or, Bool.true_and]
      cases (!errCut cfg i && i.stderr == .empty) <;>
        cases (!errCut cfg i && i.stderr == .errorObject && errorObjectComplete i) <;> rfl
    · simp [he]
  | false =>
    rw [decide_of_ok cfg i w hf]
    cases outDecodes i <;> cases (i.command == Command.getMetadata) <;> rfl

/-- the plugin's own error comes back only if its stderr arrived whole: a cut stderr ran over its
limit, so `cmd.Run()` failed, and what is left of it does not decode -/
theorem pluginError_only_if_whole (cfg : ExecCfg) (i : Input) (w : WaitOut)
    (h : (decide_ cfg i w).1 = .pluginError) : errCut cfg i = false := by
  cases hc : errCut cfg i with
  | false => rfl
  | true =>
    have hf : execFailed cfg i w = true := by
      simp only [errCut, Bool.and_eq_true] at hc
      simp [execFailed, hc.1]
    rw [error_mapping cfg i w hf, hc] at h
    revert h
    cases i.executable <;> simp

/-- With both streams behind the limit writer, whatever comes back
to the caller - a decoded reply or the plugin's error message - was at most the cap on the wire. -/
theorem both_streams_capped (cfg : ExecCfg) (i : Input)
    (ho : cfg.stdoutLimit = some specCap) (he : cfg.stderrLimit = some specCap) :
    (runCall cfg i).withinCap = true := by
  simp only [runCall, decide_eq_true_eq]
  generalize waitOf cfg i = w
  cases hr : (decide_ cfg i w).1 with
  | ok =>
    have h := ((run_ok_iff cfg i w).1 hr).1
    simp only [execFailed, Bool.or_eq_false_iff, ho, over, decide_eq_false_iff_not] at h
    have hout : ¬specCap < effOutSize i := h.1.2
    cases i.stdoutBlank with
    | true => exact Nat.zero_le _
    | false => exact Nat.le_of_not_lt hout
  | pluginError =>
    -- stderr was not cut: it is within the limit, or the excess is white space, which is not handed back
    have h := pluginError_only_if_whole cfg i w hr
    cases hb : i.stderrBlank with
    | true => exact Nat.zero_le _
    | false =>
      simp only [errCut, he, over, hb, Bool.not_false, Bool.and_true, decide_eq_false_iff_not] at h
      exact Nat.le_of_not_lt h
  | _ => simp [specCap]

/-! ### the clauses about one call -/

section
variable (cfg : ExecCfg) (i : Input)

theorem execFailed_of_not_exitedOk (hctx : cfg.ctxBound = true)
    (h : exitedOk i = false) : execFailed cfg i (waitOf cfg i) = true := by
  unfold execFailed waitOf
  cases he : i.executable with
  | false => rfl
  | true =>
    simp only [exitedOk, he, Bool.true_and] at h
    simp only [if_true, wait_killed, hctx, Bool.true_and, Bool.not_true, Bool.false_or]
    cases hk : tlt i.ctxEnd i.exitAt with
    | true => rfl
    | false =>
      have : (i.exitCode != 0) = true := by simpa [hk] using h
      simp [this]

theorem runCall_ok_only_if (hctx : cfg.ctxBound = true)
    (h : (runCall cfg i).result = .ok) : exitedOk i = true ∧ outDecodes i = true := by
  have h' := (run_ok_iff cfg i (waitOf cfg i)).1 h
  refine ⟨?_, h'.2.1⟩
  cases hx : exitedOk i with
  | true => rfl
  | false =>
    rw [execFailed_of_not_exitedOk cfg i hctx hx] at h'
    exact absurd h'.1 (by decide)

theorem specMetaOk_iff :
    specMetaOk i = true ↔
      i.stdout = .reply ∧ validateErr i.metadata = none ∧ i.metadata.name = i.pluginName := by
  simp [specMetaOk, metadata_ok_iff, and_assoc]

theorem runCall_metadata_ok_only_if (h : (runCall cfg i).result = .ok)
    (hc : i.command = .getMetadata) : specMetaOk i = true := by
  obtain ⟨hv, hn⟩ := ((run_ok_iff cfg i (waitOf cfg i)).1 h).2.2 hc
  -- anything but a reply leaves the decoder with empty metadata, which does not validate
  have hreply : i.stdout = .reply := by
    by_cases hs : i.stdout = .reply
    · exact hs
    · simp [seenMeta, hs, validateErr, Meta.empty] at hv
  simp only [seenMeta, hreply, beq_self_eq_true, if_true] at hv hn
  exact (specMetaOk_iff i).2 ⟨hreply, hv, hn⟩

/-- with stderr capped at 64 MiB, "printed its own structured error within the cap" is "stderr arrived
whole and decodes into a complete error object" -/
theorem printedStructured_eq (he : cfg.stderrLimit = some specCap) :
    printedStructured i =
      (i.executable && i.stderr == .errorObject && errorObjectComplete i && !errCut cfg i) := by
  have hcap : (decide (effErrSize i ≤ specCap) || i.stderrBlank) =
      !(decide (specCap < effErrSize i) && !i.stderrBlank) := by
    cases i.stderrBlank <;> simp [← decide_not, Nat.not_lt]
  simp only [printedStructured, errCut, he, over, hcap]

/-- the clause `failing_process_gives_structured_or_typed_error`, in the Boolean form of `callClauses` -/
theorem runCall_failing (hctx : cfg.ctxBound = true)
    (he : cfg.stderrLimit = some specCap) (hx : exitedOk i = false) :
    (if printedStructured i then (runCall cfg i).result == .pluginError && (runCall cfg i).code == i.errCode
     else (runCall cfg i).result == .executableFileError || (runCall cfg i).result == .malformedPluginError)
      = true := by
  simp only [runCall, printedStructured_eq cfg i he,
    error_mapping cfg i _ (execFailed_of_not_exitedOk cfg i hctx hx)]
  cases i.executable with
  | false => rfl
  | true =>
    cases errCut cfg i with
    | true => simp
    | false =>
      cases i.stderr with
      | errorObject => cases errorObjectComplete i <;> simp
      | _ => rfl

theorem runCall_over_cap (ho : cfg.stdoutLimit = some specCap)
    (hov : specCap < effOutSize i) : (runCall cfg i).result ≠ .ok :=
  failed_never_ok cfg i _ (by simp [execFailed, ho, over, hov])

/-- `bounded_return` without kill latency; `marginMs` to spare -/
theorem runCall_inTime (c : Nat) (hctx : cfg.ctxBound = true)
    (hdelay : ∃ d, cfg.waitDelay = some d ∧ d ≤ specDelayMs) (hc : i.ctxEnd = some c) :
    (runCall cfg i).inTime = true := by
  obtain ⟨d, hwd, hd⟩ := hdelay
  simp only [runCall, hc, waitOf]
  cases i.executable with
  | false => simp [tle]
  | true =>
    exact tle_some_mono (bounded_return cfg d c 0 ⟨i.exitAt, i.pipesAt⟩ hctx hwd)
      (by simp only [marginMs]; omega)

end

/-! ### the whole property -/

theorem call_holds (cfg : ExecCfg) (hc : Contained cfg) (i : Input) :
    (callClauses i (callObsOf (runCall cfg i))).holds = true := by
  have hcap := both_streams_capped cfg i hc.out hc.err
  have hown : (runCall cfg i).own = true := rfl
  simp only [callClauses, callObsOf, Clauses.holds_cons, Clauses.holds_nil, Bool.and_true, hcap, hown,
    Bool.true_and, Bool.and_eq_true, not_or_eq_true_iff, beq_iff_eq, bne_iff_ne, decide_eq_true_eq]
  -- what is left are the five other clauses, in the order of `callClauses`
  refine ⟨?ok_only_if, ?metadata_ok_only_if, ?failing, ?over_cap, ?in_time⟩
  case ok_only_if => exact runCall_ok_only_if cfg i hc.ctx
  case metadata_ok_only_if => exact fun ⟨h, hm⟩ => runCall_metadata_ok_only_if cfg i h hm
  case failing =>
    cases hx : exitedOk i with
    | true => rfl
    | false => exact runCall_failing cfg i hc.ctx hc.err hx
  case over_cap => exact runCall_over_cap cfg i hc.out
  case in_time =>
    intro h
    obtain ⟨c, hc'⟩ := Option.isSome_iff_exists.1 h
    exact runCall_inTime cfg i c hc.ctx hc.delay hc'

/-- every call of a schedule satisfies the clauses of a call with its own deadline, process and output -/
theorem multi_holds (cfg : ExecCfg) (hc : Contained cfg) :
    ∀ cs : List Call, multiOk cs (cs.map (fun c => callObsOf (runCall cfg c.toInput))) = true := by
  intro cs
  induction cs with
  | nil => rfl
  | cons c cs ih =>
    simp only [List.map_cons, multiOk, Bool.and_eq_true]
    exact ⟨call_holds cfg hc c.toInput, ih⟩

theorem holds_guard (g : Bool) (c : Clauses) : (guard g c).holds = (!g || c.holds) := by
  cases g <;> simp [guard, Clauses.holds]

theorem holds_of_cfg (cfg : ExecCfg) (hc : Contained cfg) (i : Input) : Holds i (runWith cfg i) = true := by
  unfold Holds clauses runWith
  simp only [Clauses.holds_append, holds_guard, Clauses.holds_cons, Clauses.holds_nil, Bool.and_true]
  -- once the kind is known, `Bool.beq_eq_decide_eq` lets `simp` evaluate the guards `i.kind == .call` etc.
  cases hk : i.kind with
  | writer =>
    have h1 := writer_never_exceeds i.limit i.steps
    simp [Bool.beq_eq_decide_eq, runWriter, h1.1, h1.2.1, lwRun_outsOk]
  | call => simpa [Bool.beq_eq_decide_eq] using call_holds cfg hc i
  | multi => simpa [Bool.beq_eq_decide_eq, runMulti] using multi_holds cfg hc i.calls

/-- **C17, the whole property**: every clause of `Holds` is true of the model's behaviour, for
all inputs - the configuration being the one read from the source. -/
theorem model_holds (i : Input) : Holds i (run i) = true :=
  holds_of_cfg codeCfg codeCfg_contained i

/-! ### the clauses for the configuration of the source, one by one -/

theorem run_call (i : Input) (hk : i.kind = .call) : run i = runCall codeCfg i := by
  simp only [run, runWith, hk]

theorem ok_only_if_valid (i : Input) (hk : i.kind = .call) (h : (run i).result = .ok) :
    exitedOk i = true ∧ outDecodes i = true := by
  rw [run_call i hk] at h
  exact runCall_ok_only_if codeCfg i codeCfg_contained.ctx h

theorem metadata_ok_only_if_valid (i : Input) (hk : i.kind = .call) (hc : i.command = .getMetadata)
    (h : (run i).result = .ok) : specMetaOk i = true := by
  rw [run_call i hk] at h
  exact runCall_metadata_ok_only_if codeCfg i h hc

theorem returns_in_time (i : Input) (hk : i.kind = .call) (c : Nat) (hc : i.ctxEnd = some c) :
    (run i).inTime = true := by
  rw [run_call i hk]
  exact runCall_inTime codeCfg i c codeCfg_contained.ctx codeCfg_contained.delay hc

/-- **no interference**: in any schedule of overlapping calls - same executable or different
ones, any start times, any deadlines - every call is observed exactly as if it were alone -/
theorem calls_do_not_interfere (i : Input) (hk : i.kind = .multi) :
    (run i).multi = i.calls.map (fun c => callObsOf (run c.toInput)) := by
  simp [run, runWith, hk, runMulti, Call.toInput]

/-- in particular every call of a schedule returns within the bound of *its own* context, however
slow, hanging or long-lived the other calls are -/
theorem concurrent_calls_return_in_time (i : Input) (hk : i.kind = .multi) (k : Nat) (hlt : k < i.calls.length)
    (c : Nat) (hc : (i.calls[k]).ctxEnd = some c) :
    ∃ o, (run i).multi[k]? = some o ∧ o.inTime = true := by
  refine ⟨callObsOf (run (i.calls[k]).toInput), ?_, returns_in_time (i.calls[k]).toInput rfl c hc⟩
  rw [calls_do_not_interfere i hk]
  simp [hlt]

/-! ### tie to the translated source (docs/TIE_BRIEF.md); the translations are regenerated on every run -/

namespace Tie
open NotationModel.Src

/-! #### `(*LimitedWriter).Write` (internal/io/limitedwriter.go) -/

/-- the slice the underlying writer is handed -/
def handed (l : io.LimitedWriter) (p : List UInt8) : List UInt8 :=
  if (p.length : Int) > l.N then p.take l.N.toNat else p

/-- one call of the translated `Write` as a step of the model: the length of `p`, and what the
underlying writer (an oracle) answers when handed the possibly truncated slice -/
def stepOf (l : io.LimitedWriter) (p : List UInt8) : WStep :=
  { len := p.length, accept := (l.W.Write (handed l p)).1.toNat, fail := (l.W.Write (handed l p)).2.isSome }

/-- the `io.Writer` contract the model assumes of the underlying writer: `0 <= n <= len(p)`, and a
short count comes with an error or not - both allowed -/
def Contract (W : io.Writer) : Prop := ∀ q, 0 ≤ (W.Write q).1 ∧ (W.Write q).1 ≤ (q.length : Int)

theorem length_handed (l : io.LimitedWriter) (p : List UInt8) :
    (handed l p).length = if (p.length : Int) > l.N then l.N.toNat else p.length := by
  unfold handed
  split
  · rw [List.length_take]; omega
  · rfl

theorem source_Write_eq (l : io.LimitedWriter) (p : List UInt8) :
    io.LimitedWriter.Write l p =
      if l.N ≤ 0 then (0, some io.ErrLimitExceeded, l)
      else ((l.W.Write (handed l p)).1, (l.W.Write (handed l p)).2,
        { l with N := l.N - (l.W.Write (handed l p)).1 }) := by
  unfold io.LimitedWriter.Write handed
  simp only [Id.run, pure, GoLite.int64, GoLite.len, GoLite.sliceTo, decide_eq_true_eq]
  by_cases hN : l.N ≤ 0
  · simp only [hN, if_true]
  · by_cases hlen : (p.length : Int) > l.N
    · simp only [hN, hlen, if_true, if_false]
    · simp only [hN, hlen, if_false]

/-- TIE: the Lean translation of `(*LimitedWriter).Write` (internal/io/limitedwriter.go) returns - for EVERY state of the writer, EVERY slice and EVERY answer of the
underlying writer within the io.Writer contract - the count, the error and the new remaining
budget `N` of the model's `lwWrite`. -/
theorem source_Write_refines_model (l : io.LimitedWriter) (p : List UInt8) (hW : Contract l.W) :
    io.LimitedWriter.Write l p =
      (((lwWrite l.N (stepOf l p)).2.n : Int),
       (match (lwWrite l.N (stepOf l p)).2.err with
        | .ok => none
        | .limitExceeded => some io.ErrLimitExceeded
        | .underlying => (l.W.Write (handed l p)).2),
       { l with N := (lwWrite l.N (stepOf l p)).1 }) := by
  obtain ⟨h0, h1⟩ := hW (handed l p)
  rw [source_Write_eq]
  unfold lwWrite stepOf
  by_cases hN : l.N ≤ 0
  · simp only [hN, if_true]
    rfl
  · -- the model's `m` is the length of the slice handed on, the writer's count is within it: `min` is that count
    have hle : (l.W.Write (handed l p)).1.toNat ≤ (handed l p).length := by omega
    simp only [hN, if_false, ← length_handed, Nat.min_eq_right hle, Int.toNat_of_nonneg h0]
    cases (l.W.Write (handed l p)).2 <;> rfl

/-- a sequence of `Write` calls through the translated method; the underlying writer is a value per
call, so it may answer differently every time (it has state of its own) -/
def srcRun : Int → List (io.Writer × List UInt8) → Int × List (Int × Option GoLite.Err)
  | N, [] => (N, [])
  | N, (W, p) :: r =>
    ((srcRun (io.LimitedWriter.Write ⟨W, N⟩ p).2.2.N r).1,
     ((io.LimitedWriter.Write ⟨W, N⟩ p).1, (io.LimitedWriter.Write ⟨W, N⟩ p).2.1) ::
       (srcRun (io.LimitedWriter.Write ⟨W, N⟩ p).2.2.N r).2)

def absRun : Int → List (io.Writer × List UInt8) → List WStep
  | _, [] => []
  | N, (W, p) :: r => stepOf ⟨W, N⟩ p :: absRun (lwWrite N (stepOf ⟨W, N⟩ p)).1 r

/-- TIE, every write sequence: running the translated `Write` over any sequence of slices, against
any underlying writers within the contract, gives call by call the counts of the model's `lwRun`
and ends with the model's remaining budget. -/
theorem source_Write_sequence_refines_model :
    ∀ (steps : List (io.Writer × List UInt8)) (N : Int), (∀ s ∈ steps, Contract s.1) →
      (srcRun N steps).1 = (lwRun N (absRun N steps)).1 ∧
      (srcRun N steps).2.map (·.1) = (lwRun N (absRun N steps)).2.map (fun o => (o.n : Int)) ∧
      (absRun N steps).map (·.len) = steps.map (·.2.length) := by
  intro steps
  induction steps with
  | nil => intro N _; simp [srcRun, absRun, lwRun]
  | cons s r ih =>
    intro N h
    obtain ⟨W, p⟩ := s
    have e := source_Write_refines_model ⟨W, N⟩ p (h _ (List.mem_cons_self ..))
    obtain ⟨h1, h2, h3⟩ := ih (lwWrite N (stepOf ⟨W, N⟩ p)).1 (fun s hs => h s (List.mem_cons_of_mem _ hs))
    simp only [srcRun, absRun, lwRun, e, List.map_cons, h1, h2, h3, true_and]
    rfl

/-- hence "bounded output" for the translated code itself: in any number of calls the underlying writers are
handed at most the limit in total -/
theorem source_writer_never_exceeds (steps : List (io.Writer × List UInt8)) (N : Int)
    (h : ∀ s ∈ steps, Contract s.1) :
    ((srcRun N steps).2.map (·.1)).sum ≤ (N.toNat : Int) ∧
    (srcRun N steps).1 = N - ((srcRun N steps).2.map (·.1)).sum ∧
    (0 ≤ N → 0 ≤ (srcRun N steps).1) := by
  obtain ⟨h1, h2, _⟩ := source_Write_sequence_refines_model steps N h
  obtain ⟨w1, w2, _, w4⟩ := writer_never_exceeds N (absRun N steps)
  rw [h1, h2, total_natCast]
  exact ⟨by omega, w2, w4⟩

/-- non-vacuity: the translated `Write` run on a budget of 10 with writes of 6, 6, 6 bytes into a
writer that takes everything -/
example : srcRun 10 [(⟨fun q => (q.length, none)⟩, List.replicate 6 0), (⟨fun q => (q.length, none)⟩, List.replicate 6 0),
      (⟨fun q => (q.length, none)⟩, List.replicate 6 0)] =
    (0, [(6, none), (4, none), (0, some io.ErrLimitExceeded)]) := by decide +kernel

/-! #### `validate` and `(*CLIPlugin).GetMetadata` (plugin/plugin.go) -/

/-! comparisons the Go code may spell in several ways (`len(x) == 0`, `0 == len(x)`, `len(x) < 1`,
`"" == s`): normal forms for the proofs below, which never quote the translated text -/
theorem intLen_eq_zero {α : Type} (xs : List α) : ((xs.length : Int) = 0) = (xs = []) := by
  simp
theorem zero_eq_intLen {α : Type} (xs : List α) : ((0 : Int) = (xs.length : Int)) = (xs = []) := by
  rw [← intLen_eq_zero]; exact propext eq_comm
theorem intLen_lt_one {α : Type} (xs : List α) : ((xs.length : Int) < 1) = (xs = []) := by
  rw [← intLen_eq_zero]; apply propext; omega
theorem intLen_le_zero {α : Type} (xs : List α) : ((xs.length : Int) ≤ 0) = (xs = []) := by
  rw [← intLen_eq_zero]; apply propext; omega
theorem intLen_pos {α : Type} (xs : List α) : ((0 : Int) < (xs.length : Int)) = (xs ≠ []) := by
  rw [ne_eq, ← intLen_eq_zero]; apply propext; omega
theorem one_le_intLen {α : Type} (xs : List α) : ((1 : Int) ≤ (xs.length : Int)) = (xs ≠ []) := by
  rw [ne_eq, ← intLen_eq_zero]; apply propext; omega
theorem intLen_ne_zero {α : Type} (xs : List α) : ((xs.length : Int) ≠ 0) = (xs ≠ []) := by
  rw [ne_eq, ne_eq, intLen_eq_zero]
theorem empty_eq_str (s : String) : ("" = s) = (s = "") := propext eq_comm

def toMeta (m : plugin.GetMetadataResponse) : Meta :=
  ⟨m.Name, m.Description, m.Version, m.URL, m.Capabilities, m.SupportedContractVersions⟩

-- The comparisons are listed in every spelling the translator may produce (`0 == len x`, `len x < 1`, a
-- comparison under `decide`, …); the linter would flag those the present text of the source does not need.
set_option linter.unusedSimpArgs false in
/-- TIE: the Lean translation of `validate` (plugin/plugin.go) is - for EVERY
metadata value - the model's `validateErr` with the message forgotten: once the comparisons are in
normal form the two are the same chain of checks, in the same order. -/
theorem source_validate_eq (m : plugin.GetMetadataResponse) :
    plugin.validate m = (validateErr (toMeta m)).map fun _ => ⟨"error"⟩ := by
  dsimp only [validateErr, toMeta]
  simp only [plugin.validate, Id.run, pure, GoLite.errorf, GoLite.len, GoLite.contains, plugin.ContractVersion,
    apply_ite (Option.map _), Option.map_some, Option.map_none, beq_iff_eq, decide_eq_true_eq, List.isEmpty_iff, empty_eq_str,
    intLen_eq_zero, zero_eq_intLen, intLen_lt_one, intLen_le_zero, intLen_pos, one_le_intLen, intLen_ne_zero]
  -- the two chains differ only in `Id (Option _)` for `Option _` and in instance arguments
  rfl

theorem source_validate_refines_model (m : plugin.GetMetadataResponse) :
    (plugin.validate m).isNone = (validateErr (toMeta m)).isNone := by
  rw [source_validate_eq, Option.isNone_map]

theorem source_validate_error (m : plugin.GetMetadataResponse) (h : plugin.validate m ≠ none) :
    plugin.validate m = some ⟨"error"⟩ := by
  rw [source_validate_eq] at h ⊢
  cases hv : validateErr (toMeta m) with
  | none => rw [hv] at h; exact absurd rfl h
  | some e => rfl

set_option linter.unusedSimpArgs false in
/-- TIE: the Lean translation of `(*CLIPlugin).GetMetadata` - for EVERY answer of `run` (an oracle: the new value
of `metadata` and an error) - hands on the error of `run`, and otherwise returns what the model's
`metadataDecision` says, with `validate` before the name check. -/
theorem source_GetMetadata_refines_model
    (runO : String → String → plugin.GetMetadataRequest → plugin.GetMetadataResponse →
      plugin.GetMetadataResponse × Option GoLite.Err) (p : plugin.CLIPlugin) (req : plugin.GetMetadataRequest) :
    plugin.CLIPlugin.GetMetadata runO p req =
      (match (runO p.name p.path req default).2 with
       | some e => (none, some e)
       | none =>
         match (metadataDecision (toMeta (runO p.name p.path req default).1) p.name).1 with
         | .ok => (some (runO p.name p.path req default).1, none)
         | .malformedPluginError => (none, some ⟨"PluginMalformedError"⟩)
         | _ => (none, some ⟨"error"⟩)) := by
  simp only [plugin.CLIPlugin.GetMetadata, Id.run, pure, source_validate_eq, metadataDecision]
  cases ha : runO p.name p.path req default with
  | mk md e =>
    cases e with
    | some e => rfl
    | none =>
      cases validateErr (toMeta md) with
      | some _ => rfl
      | none =>
        -- the source may compare the two names in either order
        have hsym : (p.name = md.Name) = (md.Name = p.name) := propext eq_comm
        by_cases hn : md.Name = p.name <;> simp [hn, hsym, toMeta, GoLite.errorf]

/-- non-vacuity: the translated `GetMetadata` on a plugin `foo` whose process reports the name `bar` -/
example : plugin.CLIPlugin.GetMetadata
    (fun _ _ _ _ => (⟨"bar", "d", "1.0.0", "u", ["1.0"], ["SIGNATURE_GENERATOR.RAW"]⟩, none))
    ⟨"foo", "/plugins/foo/notation-foo"⟩ default = (none, some ⟨"error"⟩) := by decide +kernel

/-! #### `run` after `executor.Output` (plugin/plugin.go) -/

/-- result classes as error kinds -/
def encode : Res × String → Option GoLite.Err
  | (.ok, _) => none
  | (.pluginError, code) => some ⟨"RequestError:" ++ code⟩
  | (.executableFileError, _) => some ⟨"PluginExecutableFileError"⟩
  | (.malformedPluginError, _) => some ⟨"PluginMalformedError"⟩
  | (.other, _) => some ⟨"error"⟩

set_option linter.unusedSimpArgs false in
/-- TIE: the Lean translation of the statements of `run` after `executor.Output` (plugin/plugin.go) returns - for
EVERY error value, stdout, stderr and EVERY behaviour of `json.Unmarshal` on the two types decoded into (oracles) -
the error the model's `runDecision` prescribes, and the decoded response exactly when the process succeeded. -/
theorem source_run_refines_model {Resp : Type} [json.Target proto.RequestError] [json.Target Resp]
    (err : Option GoLite.Err) (resp : Resp) (stdout stderr : List UInt8) :
    (plugin.runDecision err resp stdout stderr).1 =
      encode (runDecision err.isSome (stderr.length == 0)
        (match (json.Unmarshal stderr (default : proto.RequestError)).2 with
         | none => some (json.Unmarshal stderr (default : proto.RequestError)).1.Code
         | some _ => none)
        (json.Unmarshal stdout resp).2.isNone) ∧
    (plugin.runDecision err resp stdout stderr).2.2 =
      (if err.isSome then resp else (json.Unmarshal stdout resp).1) := by
  simp only [plugin.runDecision, runDecision, Id.run, pure, GoLite.len, GoLite.errT, beq_iff_eq, decide_eq_true_eq,
    intLen_eq_zero, zero_eq_intLen, intLen_lt_one, intLen_le_zero, intLen_pos, one_le_intLen, intLen_ne_zero,
    List.length_eq_zero_iff]
  cases err with
  | some e =>
    by_cases hl : stderr = []
    · simp [hl, encode]
    · cases (json.Unmarshal stderr (default : proto.RequestError)).2 <;>
        simp [hl, encode, proto.RequestError.toErr]
  | none =>
    cases (json.Unmarshal stdout resp).2 <;> simp [encode]

/-- non-vacuity: a failed process whose stderr decodes to an ACCESS_DENIED error object -/
example :
    let _ : json.Target proto.RequestError := ⟨fun _ _ => (⟨"ACCESS_DENIED", "no", none⟩, none)⟩
    let _ : json.Target Unit := ⟨fun _ u => (u, none)⟩
    (plugin.runDecision (some ⟨"ExitError"⟩) () [] [123, 125]).1 = some ⟨"RequestError:ACCESS_DENIED"⟩ := by decide +kernel

end Tie

/-! ### non-vacuity -/

def okCall : Input :=
  { kind := .call, command := .getMetadata, pluginName := "foo", executable := true, exitCode := 0,
    stdout := .reply, stdoutSize := 0,
    metadata := ⟨"foo", "d", "1.0.0", "u", ["SIGNATURE_GENERATOR.RAW"], ["1.0"]⟩,
    stderr := .empty, stderrSize := 0, errCode := "", errMessage := false, errMetadata := false, stdoutBlank := false, stdoutGarbage := false,
    stderrBlank := false, ignoresPipe := false,
    exitAt := some 0, pipesAt := some 0, ctxEnd := some 1000, cancel := false, probes := [500],
    limit := 0, steps := [], calls := [] }

/-- a well-behaved plugin succeeds -/
example : run okCall =
    { result := .ok, code := "", withinCap := true, inTime := true, doneBy := [true], own := true, multi := [],
      wouts := [], passed := 0, remaining := 0 } := by decide +kernel

/-- a failing plugin that printed a structured error: its code comes back -/
example : (run { okCall with exitCode := 1, stderr := .errorObject, errCode := "ACCESS_DENIED" }).result = .pluginError ∧
    (run { okCall with exitCode := 1, stderr := .errorObject, errCode := "ACCESS_DENIED" }).code = "ACCESS_DENIED" := by decide +kernel

/-- a descendant holding the pipes for ever: the call comes back 5 s after the plugin's exit, as a failure -/
example : run { okCall with pipesAt := none, probes := [4999, 5000] } =
    { result := .executableFileError, code := "", withinCap := true, inTime := true, doneBy := [false, true], own := true, multi := [],
      wouts := [], passed := 0, remaining := 0 } := by decide +kernel

/-- a plugin that never exits is killed at the deadline -/
example : (run { okCall with exitAt := none, probes := [999, 1000] }).doneBy = [false, true] := by decide +kernel

/-- the same descendant without `WaitDelay`: the call never returns -/
example : (wait { codeCfg with waitDelay := none } 0 (some 1000) ⟨some 0, none⟩).ret = none := by decide +kernel

/-- metadata under another name is refused -/
example : (run { okCall with pluginName := "bar" }).result = .other := by decide +kernel

/-- the limit writer: 10 bytes of budget, writes of 6, 6, 6 into a buffer -/
example : lwRun 10 [⟨6, 100, false⟩, ⟨6, 100, false⟩, ⟨6, 100, false⟩] =
    (0, [⟨6, .ok⟩, ⟨4, .ok⟩, ⟨0, .limitExceeded⟩]) := by decide +kernel

/-- `Holds` is false of wrong observations: success of a failing process … -/
example : Holds { okCall with exitCode := 1 }
    { result := .ok, code := "", withinCap := true, inTime := true, doneBy := [true], own := true, multi := [],
      wouts := [], passed := 0, remaining := 0 } = false := by decide +kernel

/-- … a call that came back late … -/
example : Holds okCall
    { result := .ok, code := "", withinCap := true, inTime := false, doneBy := [true], own := true, multi := [],
      wouts := [], passed := 0, remaining := 0 } = false := by decide +kernel

/-- … and a writer that let 11 bytes through a limit of 10. -/
example : Holds { okCall with kind := .writer, limit := 10, steps := [⟨11, 100, false⟩] }
    { result := .ok, code := "", withinCap := true, inTime := true, doneBy := [], own := true, multi := [],
      wouts := [⟨11, .ok⟩], passed := 11, remaining := -1 } = false := by decide +kernel

/-- a schedule: a call that hangs for 10.5 s without deadline, and 200 ms later a call to the same
executable with a 1 s deadline -/
def hangingCall : Call :=
  { command := .describeKey, pluginName := "foo", executable := true, exitCode := 0, stdout := .reply,
    stdoutSize := 0, metadata := okCall.metadata, stderr := .empty, stderrSize := 0, errCode := "",
    errMessage := false, errMetadata := false, stdoutBlank := false, stdoutGarbage := false,
    stderrBlank := false, ignoresPipe := false, exitAt := some 10500, pipesAt := some 0, ctxEnd := none,
    cancel := false, probes := [10000, 13000], startAt := 0, exe := 0 }

def shortCall : Call :=
  { hangingCall with
    command := .getMetadata, exitAt := some 0, ctxEnd := some 1000, probes := [3500], startAt := 200 }

def schedule : Input := { okCall with kind := .multi, calls := [hangingCall, shortCall] }

/-- each call is observed as if it were alone: the short one is back at once -/
example : (run schedule).multi =
    [ { result := .ok, code := "", withinCap := true, inTime := true, doneBy := [false, true], own := true },
      { result := .ok, code := "", withinCap := true, inTime := true, doneBy := [true], own := true } ] := by decide +kernel

/-- `Holds` is false of a schedule in which the short call only came back when the hanging one ended -/
example : Holds schedule
    { (run schedule) with multi :=
      [ { result := .ok, code := "", withinCap := true, inTime := true, doneBy := [false, true], own := true },
        { result := .executableFileError, code := "", withinCap := true, inTime := false, doneBy := [false], own := true } ] }
    = false := by decide +kernel

/-- … and of a call that came back with the output of another call's process -/
example : Holds okCall
    { result := .ok, code := "", withinCap := true, inTime := true, doneBy := [true], own := false, multi := [],
      wouts := [], passed := 0, remaining := 0 } = false := by decide +kernel

/-- a failing plugin whose valid structured error is 100 000 bytes long: still its own error -/
def longError : Input :=
  { okCall with exitCode := 1, stderr := .errorObject, errCode := "TIMEOUT", errMessage := true, stderrSize := 100000 }

example : (run longError).result = .pluginError ∧ (run longError).code = "TIMEOUT" := by decide +kernel

/-- output that exceeds the cap only by white space after the complete reply (and a last byte of
garbage), from a plugin that ignores SIGPIPE and exits 0: the call fails, it is not cut off silently … -/
def runawayReply : Input :=
  { okCall with command := .describeKey, stdoutSize := 67108865, stdoutBlank := true, stdoutGarbage := true, ignoresPipe := true }

example : (run runawayReply).result = .executableFileError := by decide +kernel

/-- … `Holds` is false of accepting it … -/
example : Holds runawayReply { (run runawayReply) with result := .ok } = false := by decide +kernel

/-- … while the same reply padded with white space to exactly the cap is a valid document -/
example : (run { runawayReply with stdoutSize := 67108864, stdoutGarbage := false }).result = .ok := by decide +kernel

/-- stderr is different: `Output` hands `run` the first 64 MiB together with the copy error, so an error
object followed by more white space than the cap is still the plugin's own error (also at exit 0) -/
def runawayStderr : Input :=
  { okCall with
    stderr := .errorObject, errCode := "ERROR", stderrSize := 67108865, stderrBlank := true, ignoresPipe := true }

example : (run runawayStderr).result = .pluginError := by decide +kernel

end NotationModel.C17
