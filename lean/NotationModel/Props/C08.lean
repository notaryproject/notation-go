/-
C08 - The policy statement applied is the one scoped to the artifact's repository.
The property theorems, their examples, and (namespace `Tie`) the translated Go functions proved
equal to the model. The model is in `Model/C08.lean`, helper lemmas in `Lemmas/C08.lean`.

Validity. Document validation is property C09. What selection needs from a valid document
are its uniqueness rules, stated here as explicit decidable predicates:
  `scopesUnique d` - no scope string occurs twice in the whole document, and a statement that
                     carries the wildcard "*" carries nothing else (hence at most one does);
  `namesUnique d`  - statement names are pairwise different;
  `oneGlobal d`    - at most one blob statement is global.
`WF` is their conjunction per document kind. They are hypotheses of the selection theorems and
- since a code change in `Validate` can silently break them - they are also OBSERVED: the
harness generates documents that break exactly one of the rules (all other aspects valid),
records what the real `Validate()` and `NewVerifierWithOptions` say (`validated`,
`verifierAccepts`), and the model says `validated = WF`, `verifierAccepts = WF` and the companion
document (of the OTHER kind, configured with the same verifier) is `WF` too.
`model_holds` is for ALL inputs: on a
`WF` document every selection clause holds, a non-`WF` document is refused and nothing is ever
selected from it (clause `only_unique_documents_validate`; the selection clauses then read
"there is no selection result").

Histories. The model has no state besides the document's content: `Input.history` / `Input.before`
(how the document object the harness queries came to hold `stmts`: validated with another
content, queried, struct-copied, edited in place, re-validated or not) are ignored by `run`
(`selection_depends_only_on_current_content`). An implementation that keeps derived state on
the document or the verifier (an index built by `Validate`, a memoised selection) and lets it go
stale disagrees with the model on such a history.
-/
import NotationModel.Lemmas.C08
import NotationModel.Generated.SrcC08

namespace NotationModel.C08

/-! ### extracted facts: the regex texts, the cut points, the clone obligation -/

/-- the model's regex syntax trees print to exactly the regex texts in
`validateRegistryScopeFormat`; the wildcard is "*"; the reference is cut at the LAST '@'; a scope
is cut at the first '/' -/
theorem source_ties :
    regexText domainRx = Facts.c08DomainRegexp ∧
    regexText repositoryRx = Facts.c08RepositoryRegexp ∧
    Facts.c08Wildcard = ['*'] ∧
    Facts.c08ScopeCut = "strings.Cut(_,\"/\")" ∧
    Facts.c08RefSplit = ["strings.LastIndex(_,\"@\")"] := by
  decide +kernel

/-- The clone obligation: in the current source every reference-typed field of a handed-out
statement (the three slices, the Override map) is freshly allocated and every value field is
copied from the same field. A `clone` that shares a slice or the map, or drops a field, changes
the extracted facts and this proof no longer checks. -/
theorem clone_is_fresh :
    CloneFresh Facts.ociCloneFields Facts.sigVerificationCloneMakesMap false = true ∧
    CloneFresh Facts.blobCloneFields Facts.sigVerificationCloneMakesMap true = true := by
  decide +kernel

theorem currentFacts_fresh : currentFacts.fresh = true :=
  (Bool.and_eq_true _ _).mpr clone_is_fresh

/-! ### OCI selection -/

/-- For a document with unique scopes and a reference whose repository path is
`path`: a statement listing exactly `path` is THE result (so there is only one such statement);
if none lists it, a statement carrying the wildcard is THE result; if there is neither, the
result is the no-applicable-policy error. -/
theorem select_unique (d : List Stmt) (hu : scopesUnique d = true) (ref path : Text)
    (hp : artifactPath ref = some path) :
    (∀ s ∈ d, path ∈ s.scopes → selectOCI d ref = .ok s) ∧
    ((∀ s ∈ d, path ∉ s.scopes) → ∀ w ∈ d, wildcard ∈ w.scopes → selectOCI d ref = .ok w) ∧
    ((∀ s ∈ d, path ∉ s.scopes ∧ wildcard ∉ s.scopes) → selectOCI d ref = .error .noApplicablePolicy) := by
  rw [selectOCI_valid d hu ref path hp]
  have hsome : ∀ x, ∀ s ∈ d, x ∈ s.scopes → d.find? (fun s => s.scopes.contains x) = some s :=
    fun x s hs hx => find?_of_le_one (scopesUnique_filter d hu x) hs (List.contains_iff_mem.2 hx)
  have hnone : ∀ x, (∀ s ∈ d, x ∉ s.scopes) → d.find? (fun s => s.scopes.contains x) = none :=
    fun x hno => List.find?_eq_none.2 (fun s hs hc => hno s hs (List.contains_iff_mem.1 hc))
  refine ⟨?_, ?_, ?_⟩
  · intro s hs hps
    rw [hsome path s hs hps]
    rfl
  · intro hno w hw hww
    rw [hnone path hno, hsome wildcard w hw hww]
    rfl
  · intro hno
    rw [hnone path (fun s hs => (hno s hs).1), hnone wildcard (fun s hs => (hno s hs).2)]
    rfl

theorem scoped_statement_unique (d : List Stmt) (hu : scopesUnique d = true) (x : Text)
    (s t : Stmt) (hs : s ∈ d) (ht : t ∈ d) (hxs : x ∈ s.scopes) (hxt : x ∈ t.scopes) : s = t :=
  -- both are what `find?` returns for `x`
  have hf := fun (u : Stmt) (hu' : u ∈ d) (hx : x ∈ u.scopes) =>
    find?_of_le_one (scopesUnique_filter d hu x) hu' (List.contains_iff_mem.2 hx)
  Option.some.inj ((hf s hs hxs).symm.trans (hf t ht hxt))

/-- The order of the statements does not matter: any permutation of a valid
document selects the same statement (or refuses in the same way) for every reference. -/
theorem select_perm (d d' : List Stmt) (hperm : d.Perm d') (hu : scopesUnique d = true) (ref : Text) :
    selectOCI d ref = selectOCI d' ref := by
  cases hp : artifactPath ref with
  | none => rw [selectOCI_none d ref hp, selectOCI_none d' ref hp]
  | some path =>
    rw [selectOCI_valid d hu ref path hp, selectOCI_valid d' (scopesUnique_perm d d' hperm hu) ref path hp,
      find?_perm hperm (scopesUnique_filter d hu path), find?_perm hperm (scopesUnique_filter d hu wildcard)]

/-- Membership is equality of the whole string: whatever the document (valid or
not), a selected statement is a statement of the document that lists the repository path itself
or carries the wildcard, and the wildcard statement is only selected when no statement without
the wildcard lists the path. A scope that is merely a prefix, an extension, a substring or a case
variant of the path (or the path with a tag) is a different `List Char` and never matches. -/
theorem select_exact (d : List Stmt) (ref path : Text) (s : Stmt)
    (hp : artifactPath ref = some path) (hs : selectOCI d ref = .ok s) :
    s ∈ d ∧ (path ∈ s.scopes ∨ wildcard ∈ s.scopes) ∧
    (path ∉ s.scopes → ∀ t ∈ d, wildcard ∉ t.scopes → path ∉ t.scopes) := by
  obtain ⟨path', hp', hsd, h⟩ := selectOCI_ok d ref s hs
  obtain rfl : path' = path := Option.some.inj (hp'.symm.trans hp)
  refine ⟨hsd, ?_⟩
  rcases h with hE | ⟨hW, hno⟩
  · have hm := ((isExact_iff path' s).1 hE).2
    exact ⟨Or.inl hm, fun hn => absurd hm hn⟩
  · exact ⟨Or.inr (List.contains_iff_mem.1 hW),
      fun _ t ht hnw hpt => hno t ht ((isExact_iff path' t).2 ⟨hnw, hpt⟩)⟩

/-- a reference without '@' (tag only, or nothing after the repository) is refused, and a path
that is not "registry/repository" in the distribution grammar (a tag after the repository, an
upper-case repository, a missing repository, no path at all, a wildcard) is refused; the last two
lines are well-formed references with the path that is extracted: examples, evaluated by the
kernel on the model's regex matcher -/
theorem malformed_references_are_refused :
    artifactPath "registry.example/app:v1".toList = none ∧
    artifactPath "registry.example/app".toList = none ∧
    artifactPath "registry.example/app:v1@sha256:00".toList = none ∧
    artifactPath "registry.example/APP@sha256:00".toList = none ∧
    artifactPath "registry.example/@sha256:00".toList = none ∧
    artifactPath "@sha256:00".toList = none ∧
    artifactPath "*@sha256:00".toList = none ∧
    artifactPath "registry.example/app@sha256:00".toList = some "registry.example/app".toList ∧
    artifactPath "registry.example:5000/app/sub@sha256:00".toList = some "registry.example:5000/app/sub".toList := by
  decide +kernel

/-! ### blob selection -/

/-- In a document with unique names the statement whose name IS the requested
(non-blank) name is the result; if there is none, or the name is blank, the request is refused.
The comparison is equality of the whole name. -/
theorem blob_by_name (d : List Stmt) (hu : namesUnique d = true) (name : Text) :
    (isBlank name = false → ∀ s ∈ d, s.name = name → selectBlob d name = .ok s) ∧
    (isBlank name = false → (∀ s ∈ d, s.name ≠ name) → selectBlob d name = .error .noApplicablePolicy) ∧
    (isBlank name = true → selectBlob d name = .error .emptyName) ∧
    (∀ s, selectBlob d name = .ok s → s ∈ d ∧ s.name = name) := by
  refine ⟨?_, ?_, ?_, ?_⟩
  · intro hb s hs hn
    rw [selectBlob_eq, hb, find?_of_le_one (namesUnique_filter d hu name) hs (beq_of_eq hn)]
    rfl
  · intro hb hno
    rw [selectBlob_eq, hb, List.find?_eq_none.2 (fun s hs hc => hno s hs (eq_of_beq hc))]
    rfl
  · intro hb
    rw [selectBlob_eq, hb]
    rfl
  · intro s hs
    have hn : (s.name == name) = true :=
      List.find?_some (p := fun s : Stmt => s.name == name) (selectBlob_ok d name s hs)
    exact ⟨selectBlob_mem d name s hs, eq_of_beq hn⟩

/-- With at most one global statement, the global statement is the result of
`GetGlobalTrustPolicy`; without one the request is refused. -/
theorem global_unique (d : List Stmt) (hu : oneGlobal d = true) :
    (∀ g ∈ d, g.isGlobal = true → selectGlobal d = .ok g) ∧
    ((∀ s ∈ d, s.isGlobal = false) → selectGlobal d = .error .noApplicablePolicy) ∧
    (∀ s, selectGlobal d = .ok s → s ∈ d ∧ s.isGlobal = true) := by
  refine ⟨?_, ?_, ?_⟩
  · intro g hg hgg
    rw [selectGlobal_eq, find?_of_le_one (oneGlobal_filter d hu) hg hgg]
    rfl
  · intro hno
    rw [selectGlobal_eq, List.find?_eq_none.2 (fun s hs hc => Bool.false_ne_true ((hno s hs).symm.trans hc))]
    rfl
  · intro s hs
    exact ⟨selectGlobal_mem d s hs, List.find?_some ((orRefuse_eq_ok _ s).1 hs)⟩

theorem blob_perm (d d' : List Stmt) (hperm : d.Perm d') (hn : namesUnique d = true) (hg : oneGlobal d = true)
    (name : Text) : selectBlob d name = selectBlob d' name ∧ selectGlobal d = selectGlobal d' := by
  rw [selectBlob_eq, selectBlob_eq, selectGlobal_eq, selectGlobal_eq,
    find?_perm hperm (namesUnique_filter d hn name), find?_perm hperm (oneGlobal_filter d hg)]
  exact ⟨rfl, rfl⟩

/-! ### the handed-out statement is a private copy -/

/-- For any clone facts that are all fresh: start from a document `d`,
let callers do anything, in any order and any number of times: select (receiving a new copy each
time) and write arbitrary contents into any slice field, the Override map or the scalar fields of
any copy they hold. Afterwards the verifier's document is still `d`; hence every later selection
returns what it returns on the original document, and the contents read through the newly
handed-out copy are exactly the original statement. -/
theorem copy_is_private_of (F : CloneFacts) (hF : F.fresh = true) (d : List Stmt) (ops : List Op) (q : Query) :
    let st := exec F { doc := d, handles := [] } ops
    st.doc = d ∧ selectQ st.doc q = selectQ d q ∧
    ∀ s, selectQ st.doc q = .ok s → s ∈ d ∧ (clone F q.isBlob s).read (step F st (.select q)).doc = s := by
  have h : (exec F { doc := d, handles := [] } ops).doc = d := (exec_fresh F hF ops _ (allPrivate_nil d)).1
  refine ⟨h, by rw [h], ?_⟩
  intro s hs
  rw [h] at hs
  exact ⟨selectQ_mem d q s hs, (clone_fresh F hF q.isBlob s _).2⟩

/-- The same for the clone functions of the current source tree; rests on the obligation
`clone_is_fresh` (the extracted facts, evaluated by the kernel). -/
theorem copy_is_private (d : List Stmt) (ops : List Op) (q : Query) :
    let st := exec currentFacts { doc := d, handles := [] } ops
    st.doc = d ∧ selectQ st.doc q = selectQ d q ∧
    ∀ s, selectQ st.doc q = .ok s → s ∈ d ∧ (clone currentFacts q.isBlob s).read (step currentFacts st (.select q)).doc = s :=
  copy_is_private_of currentFacts currentFacts_fresh d ops q

/-! ### how a refusal surfaces from the verifier -/

/-- the two classes already differ in their first character -/
theorem stmtTag_ne_noPolicy (n : Text) : stmtTag n ≠ noPolicy := by
  have hs : "stmt:".toList.head? = some 's' := by decide +kernel
  have hn : noPolicy.head? = some 'n' := by decide +kernel
  intro h
  have h' := congrArg List.head? h
  rw [stmtTag, List.head?_append, hs, hn, Option.some_or] at h'
  exact absurd h' (by decide)

theorem classOf_orRefuse : ∀ o : Option Stmt, classOf (orRefuse o) = noPolicy ↔ o = none
  | none => ⟨fun _ => rfl, fun _ => rfl⟩
  | some s => ⟨fun hc => absurd hc (stmtTag_ne_noPolicy s.name), fun h => by cases h⟩

/-- Through `Verify` / `SkipVerify` / `VerifyBlob` every failed
selection (malformed reference, nothing applicable, blank name) is reported as the
no-applicable-policy class - and only a failed selection is: a successful one is reported as the
selected statement, which is never confused with the error class. -/
theorem no_policy_is_typed_error (d : List Stmt) (q : Query) :
    (classOf (selectQ d q) = noPolicy ↔ ∃ e, selectQ d q = .error e) ∧
    (∀ s, selectQ d q = .ok s → classOf (selectQ d q) = stmtTag s.name) := by
  cases h : selectQ d q with
  | error e => exact ⟨⟨fun _ => ⟨e, rfl⟩, fun _ => rfl⟩, fun s hs => by cases hs⟩
  | ok s =>
    refine ⟨⟨fun hc => absurd hc (stmtTag_ne_noPolicy s.name), fun ⟨e, he⟩ => by cases he⟩, ?_⟩
    intro s' hs'
    cases hs'
    rfl

/-- for a well-formed reference and a valid document the OCI refusal happens exactly when no
statement lists the path and none carries the wildcard -/
theorem refused_iff_nothing_applies (d : List Stmt) (hu : scopesUnique d = true) (ref path : Text)
    (hp : artifactPath ref = some path) :
    classOf (selectOCI d ref) = noPolicy ↔ ∀ s ∈ d, path ∉ s.scopes ∧ wildcard ∉ s.scopes := by
  rw [selectOCI_valid d hu ref path hp, classOf_orRefuse, Option.or_eq_none_iff, List.find?_eq_none, List.find?_eq_none]
  simp only [List.contains_iff_mem]
  exact ⟨fun h s hs => ⟨h.1 s hs, h.2 s hs⟩, fun h => ⟨fun s hs => (h s hs).1, fun s hs => (h s hs).2⟩⟩

/-! ### the whole property -/

theorem WF_oci (i : Input) (hk : i.kind = .oci) (h : WF i = true) :
    scopesUnique i.stmts = true ∧ namesUnique i.stmts = true := by
  simpa only [WF, wfDoc, hk, Bool.and_eq_true] using h

theorem WF_blob (i : Input) (hk : i.kind = .blob) (h : WF i = true) :
    namesUnique i.stmts = true ∧ oneGlobal i.stmts = true := by
  simpa only [WF, wfDoc, hk, Bool.and_eq_true] using h

theorem nameOf_selectQ (i : Input) (h : WF i = true) (t : Text) :
    nameOf (selectQ i.stmts (mkQuery i.kind t)) = expected i t := by
  unfold expected mkQuery
  cases hk : i.kind with
  | oci => exact nameOf_selectOCI i.stmts (WF_oci i hk h).1 t
  | blob => exact nameOf_selectBlob i.stmts (WF_blob i hk h).1 t

theorem reversed_same (i : Input) (h : WF i = true) :
    (∀ t, selectQ i.stmts.reverse (mkQuery i.kind t) = selectQ i.stmts (mkQuery i.kind t)) ∧
    (i.kind = .blob → selectQ i.stmts.reverse .global = selectQ i.stmts .global) := by
  have hperm : i.stmts.Perm i.stmts.reverse := (List.reverse_perm i.stmts).symm
  cases hk : i.kind with
  | oci => exact ⟨fun t => (select_perm _ _ hperm (WF_oci i hk h).1 t).symm, fun hb => by cases hb⟩
  | blob =>
    have hb := blob_perm _ _ hperm (WF_blob i hk h).1 (WF_blob i hk h).2
    exact ⟨fun t => (hb t).1.symm, fun _ => (hb []).2.symm⟩

theorem non_unique_is_refused (i : Input) (h : WF i = false) : run i = refused := by
  simp [run, runWith, h]

theorem run_eq (i : Input) : run i = if WF i then withCompanion i (pureRun i) else refused := by
  simp only [run, runWith, runValid_fresh currentFacts currentFacts_fresh]

/-! #### the clauses of `selectionClauses`, one by one -/

theorem queries_pureRun (i : Input) :
    (withCompanion i (pureRun i)).queries = i.queries.map (viaFix i ∘ pureT i) := List.map_map

theorem registry_pureRun (i : Input) :
    (withCompanion i (pureRun i)).registry = i.registryQueries.map (viaFixR i ∘ regObs i.stmts) := List.map_map

theorem allQ_pureRun (i : Input) (p : QObs → Bool) (hq : ∀ t, p (viaFix i (pureT i t)) = true)
    (hg : i.kind = .blob → p (viaFix i (pureQ i.stmts .global false (classOf (selectGlobal i.stmts)) [])) = true) :
    allQ (withCompanion i (pureRun i)) p = true := by
  simp only [allQ, withCompanion, pureRun, List.map_map, List.all_map, Bool.and_eq_true, List.all_eq_true]
  refine ⟨fun t _ => hq t, ?_⟩
  cases hk : i.kind with
  | oci => rfl
  | blob => exact hg hk

/-- `selected_is_the_statement_scoped_to_the_repository_else_the_wildcard_else_refused` -/
theorem clause_selected (i : Input) (h : WF i = true) :
    forall₂ (fun t r => r.selected == expected i t) i.queries (withCompanion i (pureRun i)).queries = true := by
  rw [queries_pureRun, forall₂_map]
  exact List.all_eq_true.2 (fun t _ => beq_iff_eq.2 (nameOf_selectQ i h t))

/-- `selection_independent_of_statement_order` -/
theorem clause_order (i : Input) (h : WF i = true) :
    allQ (withCompanion i (pureRun i)) (fun r => r.selected == r.reversedSelected) = true :=
  allQ_pureRun i _ (fun t => beq_iff_eq.2 (congrArg nameOf ((reversed_same i h).1 t)).symm)
    (fun hk => beq_iff_eq.2 (congrArg nameOf ((reversed_same i h).2 hk)).symm)

/-- `refused_reference_selects_nothing` -/
theorem clause_refused_reference (i : Input) :
    (withCompanion i (pureRun i)).queries.all (fun r => !r.refRejected || r.selected.isNone) = true := by
  rw [queries_pureRun, List.all_map]
  refine List.all_eq_true.2 (fun t _ => ?_)
  simp only [Function.comp, viaFix, pureT, pureQ, mkQuery]
  cases i.kind with
  | blob => rfl
  | oci =>
    cases hp : artifactPath t with
    | none => simp only [selectQ, selectOCI_none i.stmts t hp, nameOf, Option.isNone_none, Bool.or_true]
    | some p => rfl

/-- `verifier_applies_the_same_statement_or_refuses_with_the_no_applicable_policy_error` -/
theorem clause_verifier (i : Input) (h : WF i = true) :
    forall₂ (fun t r => r.viaVerify == viaExp i (classOfExpected (expectedVia i t)) &&
      (i.kind != .oci || r.viaSkip == viaExp i (classOfExpected (expectedVia i t)))) i.queries
      (withCompanion i (pureRun i)).queries = true := by
  rw [queries_pureRun, forall₂_map]
  refine List.all_eq_true.2 (fun t _ => ?_)
  simp only [Function.comp, viaFix, pureT, pureQ, expectedVia, classOf_eq]
  cases hk : i.kind with
  | oci => simp [nameOf_selectOCI i.stmts (WF_oci i hk h).1 t]
  | blob =>
    -- `VerifyBlob` without a name applies the global statement
    have hv : nameOf (selectQ i.stmts (blobVerifyQuery t)) =
        if t = [] then expectedGlobal i.stmts else expectedBlob i.stmts t := by
      unfold blobVerifyQuery
      split
      · exact nameOf_selectGlobal i.stmts (WF_blob i hk h).2
      · exact nameOf_selectBlob i.stmts (WF_blob i hk h).1 t
    simp [hv]

/-- `global_statement_is_the_single_global_one` -/
theorem clause_global (i : Input) (h : WF i = true) :
    (match i.kind, (withCompanion i (pureRun i)).globalSel with
      | .oci, g => g.isNone
      | .blob, some g => g.selected == expectedGlobal i.stmts &&
          g.viaVerify == viaExp i (classOfExpected (expectedGlobal i.stmts))
      | .blob, none => false) = true := by
  cases hk : i.kind with
  | oci => simp [withCompanion, pureRun, hk]
  | blob =>
    have hg := nameOf_selectGlobal i.stmts (WF_blob i hk h).2
    simp [withCompanion, pureRun, hk, viaFix, pureQ, selectQ, classOf_eq, hg]

/-- `registry_skip_check_uses_the_statement_scoped_to_the_repository` -/
theorem clause_registry_skip (i : Input) (h : WF i = true) :
    (i.kind != .oci ||
      forall₂ (fun t r => r.regSkip == viaExp i (classOfExpected (expectedOCI i.stmts t))) i.registryQueries
        (withCompanion i (pureRun i)).registry) = true := by
  cases hk : i.kind with
  | blob => rfl
  | oci =>
    rw [registry_pureRun, forall₂_map]
    refine Bool.or_eq_true_iff.2 (Or.inr (List.all_eq_true.2 (fun t _ => ?_)))
    simp only [Function.comp, viaFixR, regObs_regSkip, classOf_eq, nameOf_selectOCI i.stmts (WF_oci i hk h).1 t,
      beq_self_eq_true]

/-- `registry_verifies_every_signature_under_the_statement_of_the_skip_check` -/
theorem clause_registry_verify (i : Input) :
    (withCompanion i (pureRun i)).registry.all (fun r => r.regVerify == notReached || r.regVerify == r.regSkip) =
      true := by
  rw [registry_pureRun, List.all_map]
  refine List.all_eq_true.2 (fun t _ => ?_)
  simp only [Function.comp, viaFixR, viaExp]
  cases companionWF i with
  | false => simp
  | true =>
    simp only [↓reduceIte, Bool.or_eq_true, beq_iff_eq]
    exact regObs_regVerify i.stmts t

/-- C08, the whole property, for ALL inputs. For a document satisfying the uniqueness rules
(what `Validate` guarantees) every selection clause is true of the model's behaviour under the
clone facts of the current source tree; a document that breaks one of them is refused by
validation and nothing is selected from it. -/
theorem model_holds (i : Input) : Holds i (run i) = true := by
  cases h : WF i with
  | false =>
    rw [non_unique_is_refused i h]
    simp [Holds, clauses, h, refused, selectionClauses, Clauses.holds]
  | true =>
    rw [run_eq, h, if_pos rfl]
    -- `Holds` is the conjunction of the clauses, in the order of `clauses` then `selectionClauses`
    simp only [Holds, clauses, h, if_true, Bool.true_or, List.cons_append, List.nil_append, selectionClauses,
      Clauses.holds_cons, Clauses.holds_nil, Bool.and_true, Bool.and_eq_true]
    exact ⟨trivial, Bool.or_true _, Bool.not_or_self _,  -- the three validation clauses
      clause_selected i h, clause_order i h, clause_refused_reference i, clause_verifier i h, clause_global i h,
      allQ_pureRun i (·.copyEqual) (fun _ => rfl) (fun _ => rfl),
      allQ_pureRun i (·.intact) (fun _ => rfl) (fun _ => rfl),
      allQ_pureRun i (·.independent) (fun _ => rfl) (fun _ => rfl),
      clause_registry_skip i h, clause_registry_verify i⟩

/-! ### selection is a function of the document's current content -/

/-- Whatever the history of the document object
(what it contained when it was validated, which queries it answered before, whether it was
edited in place or copied, re-validated or not): the model's whole observation - validation
verdict, every selection, every verifier outcome - is determined by the kind, the CURRENT
statements, the queries (the document's own and those through the registry) and the companion
document. There is no state besides the document's content. -/
theorem selection_depends_only_on_current_content (i j : Input)
    (hk : i.kind = j.kind) (hs : i.stmts = j.stmts) (hq : i.queries = j.queries)
    (hc : i.companion = j.companion) (hr : i.registryQueries = j.registryQueries) : run i = run j := by
  obtain ⟨k, s, q, _, _, c, r⟩ := i
  obtain ⟨k', s', q', _, _, c', r'⟩ := j
  cases hk; cases hs; cases hq; cases hc; cases hr
  -- the closed form of the observation mentions neither `history` nor `before`
  rw [run_eq, run_eq]
  rfl

theorem edited_equals_fresh (i : Input) :
    run i = run { i with history := "unvalidated", before := none } :=
  selection_depends_only_on_current_content i _ rfl rfl rfl rfl rfl

/-! ### non-vacuity -/

section examples

def exStmt (n : String) (scopes : List String) : Stmt :=
  { name := n.toList, scopes := scopes.map String.toList, isGlobal := false, level := "strict",
    override := some [("revocation", "skip")], stores := ["ca:s".toList], identities := ["*".toList] }

def exDoc : List Stmt := [exStmt "w" ["*"], exStmt "a" ["r.io/app", "r.io/app2"], exStmt "b" ["r.io/app/sub"]]

def exInput : Input :=
  { kind := .oci, stmts := exDoc, history := "validated", before := none, companion := none, registryQueries := [],
    queries := ["r.io/app@d".toList, "r.io/app/sub@d".toList, "r.io/ap@d".toList, "r.io/app:v1@d".toList, "r.io/app".toList] }

example : WF exInput = true := by decide +kernel

/-- one evaluation, so that the references are matched once; the examples below quote its parts -/
theorem exInput_observed :
    ((run exInput).queries.map (·.selected) = [some "a".toList, some "b".toList, some "w".toList, none, none] ∧
     (run exInput).queries.map (·.viaVerify) =
       ["stmt:a".toList, "stmt:b".toList, "stmt:w".toList, noPolicy, noPolicy] ∧
     (run exInput).queries.map (·.independent) = [true, true, true, true, true]) ∧
    (((runWith { currentFacts with oci := [("Name", "copied:t.Name"), ("SignatureVerification", "deep-clone"),
      ("TrustedIdentities", "fresh-slice"), ("TrustStores", "copied:t.TrustStores"), ("RegistryScopes", "fresh-slice")] }
        exInput).queries.map (·.intact)) = [false, false, false, true, true] ∧
     ((runWith { currentFacts with oci := [("Name", "copied:t.Name"), ("SignatureVerification", "deep-clone"),
      ("TrustedIdentities", "fresh-slice"), ("TrustStores", "copied:t.TrustStores"), ("RegistryScopes", "fresh-slice")] }
        exInput).queries.map (·.independent)) = [false, false, false, true, true]) ∧
    ((runWith { currentFacts with makesMap := false } exInput).queries.map (·.intact)) =
      [false, false, false, true, true] := by
  decide +kernel

/-- exact scope, nested scope, near miss falls to the wildcard, tag refused, no digest refused -/
example : (run exInput).queries.map (·.selected) =
    [some "a".toList, some "b".toList, some "w".toList, none, none] := exInput_observed.1.1

example : (run exInput).queries.map (·.viaVerify) =
    ["stmt:a".toList, "stmt:b".toList, "stmt:w".toList, noPolicy, noPolicy] := exInput_observed.1.2.1

example : Holds exInput (run exInput) = true := model_holds exInput

/-- a wrong observation is rejected: the near miss "r.io/ap" must not select the statement scoped "r.io/app" -/
example : Holds { exInput with queries := ["r.io/ap@d".toList] }
    { validated := true, verifierAccepts := true,
      queries := [{ selected := some "a".toList, reversedSelected := some "a".toList, refRejected := false,
                    viaVerify := "stmt:a".toList, viaSkip := "stmt:a".toList, copyEqual := true, intact := true, independent := true }],
      globalSel := none, registry := [] } = false := by decide +kernel

/-- a document with two wildcard statements breaks the uniqueness rules: the model refuses it,
and an implementation that validates it and then selects in an order-dependent way is rejected
(by the validation clause and by every selection clause) -/
def exTwoWild : Input :=
  { kind := .oci, stmts := [exStmt "w1" ["*"], exStmt "a" ["r.io/app"], exStmt "w2" ["*"]],
    history := "validated", before := none, companion := none, registryQueries := [],
    queries := ["r.io/other@d".toList] }

example : WF exTwoWild = false := by decide +kernel
example : run exTwoWild = refused := by decide +kernel
example : Holds exTwoWild refused = true := by decide +kernel
example : Holds exTwoWild
    { validated := true, verifierAccepts := true,
      queries := [{ selected := some "w2".toList, reversedSelected := some "w1".toList, refRejected := false,
                    viaVerify := "stmt:w2".toList, viaSkip := "stmt:w2".toList, copyEqual := true, intact := true, independent := true }],
      globalSel := none, registry := [] } = false := by decide +kernel

/-- the same scope in two statements, the same scope twice in one statement, a duplicate name,
a wildcard next to another scope: all outside `WF` (two global blob statements: after `exBlob`) -/
example : WF { exInput with stmts := [exStmt "a" ["r.io/app"], exStmt "b" ["r.io/app"]] } = false := by decide +kernel
example : WF { exInput with stmts := [exStmt "a" ["r.io/app", "r.io/app"]] } = false := by decide +kernel
example : WF { exInput with stmts := [exStmt "a" ["r.io/app"], exStmt "a" ["r.io/app2"]] } = false := by decide +kernel
example : WF { exInput with stmts := [exStmt "a" ["*", "r.io/app"]] } = false := by decide +kernel

/-- the history of the document object is irrelevant: built and validated as a wildcard-only
document, then edited into `exDoc` - same observation as a fresh `exDoc` -/
example : run { exInput with history := "validated,warm,edit-inplace", before := some [exStmt "w" ["*"]] } = run exInput :=
  selection_depends_only_on_current_content _ _ rfl rfl rfl rfl rfl

/-- without the wildcard statement the near miss is refused with the no-applicable-policy class -/
example : (run { exInput with stmts := exDoc.tail, queries := ["r.io/ap@d".toList] }).queries.map (·.viaVerify) =
    [noPolicy] := by decide +kernel

/-- the model is sensitive to the clone facts: a `clone` that shares the TrustStores slice, or
the Override map, lets a caller's write show up in the next selection -/
example : ((runWith { currentFacts with oci := [("Name", "copied:t.Name"), ("SignatureVerification", "deep-clone"),
      ("TrustedIdentities", "fresh-slice"), ("TrustStores", "copied:t.TrustStores"), ("RegistryScopes", "fresh-slice")] }
    exInput).queries.map (·.intact)) = [false, false, false, true, true] := exInput_observed.2.1.1

example : ((runWith { currentFacts with makesMap := false } exInput).queries.map (·.intact)) =
    [false, false, false, true, true] := exInput_observed.2.2

/-- an EMPTY non-nil Override map is a map too: a `clone` that shares it lets a key inserted through
the handed-out copy show up in the next selection; and with a shared slice a write through the
second copy is seen through the first one -/
example : ((runWith { currentFacts with makesMap := false }
    { exInput with stmts := [{ exStmt "w" ["*"] with override := some [] }], queries := ["r.io/a@d".toList] }).queries.map (·.intact)) =
    [false] := by decide +kernel

example : ((runWith { currentFacts with oci := [("Name", "copied:t.Name"), ("SignatureVerification", "deep-clone"),
      ("TrustedIdentities", "fresh-slice"), ("TrustStores", "copied:t.TrustStores"), ("RegistryScopes", "fresh-slice")] }
    exInput).queries.map (·.independent)) = [false, false, false, true, true] := exInput_observed.2.1.2

example : (run exInput).queries.map (·.independent) = [true, true, true, true, true] := exInput_observed.1.2.2

/-- blob: exact name, near misses, blank name; VerifyBlob without a name applies the global statement -/
def exBlob : Input :=
  { kind := .blob, history := "validated", before := none, companion := none, registryQueries := [],
    stmts := [{ exStmt "blob-policy" [] with isGlobal := true }, exStmt "blob-policy2" []],
    queries := ["blob-policy2".toList, "blob-polic".toList, "Blob-policy".toList, " ".toList, [] ] }

example : WF exBlob = true := by decide +kernel

theorem exBlob_observed :
    (run exBlob).queries.map (·.selected) = [some "blob-policy2".toList, none, none, none, none] ∧
    (run exBlob).queries.map (·.viaVerify) =
      ["stmt:blob-policy2".toList, noPolicy, noPolicy, noPolicy, "stmt:blob-policy".toList] ∧
    (run exBlob).globalSel.map (·.selected) = some (some "blob-policy".toList) := by
  decide +kernel

example : (run exBlob).queries.map (·.selected) = [some "blob-policy2".toList, none, none, none, none] :=
  exBlob_observed.1

example : (run exBlob).queries.map (·.viaVerify) =
    ["stmt:blob-policy2".toList, noPolicy, noPolicy, noPolicy, "stmt:blob-policy".toList] := exBlob_observed.2.1

example : (run exBlob).globalSel.map (·.selected) = some (some "blob-policy".toList) := exBlob_observed.2.2

example : WF { exBlob with
    stmts := [{ exStmt "x" [] with isGlobal := true }, { exStmt "y" [] with isGlobal := true }] } = false := by decide +kernel

end examples

/-! ### tie to the translated source -/

namespace Tie
open NotationModel.Src NotationModel.Src.trustpolicy

/-- the model's view of a translated OCI statement / blob statement (selection looks at the name,
the scopes and the global flag only; the other fields are carried along) -/
def absOCI (p : OCITrustPolicy) : Stmt :=
  { name := p.Name.toList, scopes := p.RegistryScopes.map String.toList, isGlobal := false,
    level := p.SignatureVerification.VerificationLevel, override := some p.SignatureVerification.Override,
    stores := p.TrustStores.map String.toList, identities := p.TrustedIdentities.map String.toList }

def absBlob (p : BlobTrustPolicy) : Stmt :=
  { name := p.Name.toList, scopes := [], isGlobal := p.GlobalPolicy,
    level := p.SignatureVerification.VerificationLevel, override := some p.SignatureVerification.Override,
    stores := p.TrustStores.map String.toList, identities := p.TrustedIdentities.map String.toList }

/-- result shape of a selection: the statement (seen through the abstraction) and whether an error is returned -/
def shape {P : Type} (abs : P → Stmt) (r : Option P × Option GoLite.Err) : Option Stmt × Bool :=
  (r.1.map abs, r.2.isSome)

def ofModel : Except SelErr Stmt → Option Stmt × Bool
  | .ok s => (some s, false)
  | .error _ => (none, true)

/-- result shape of the path extraction: the path when no error is returned -/
def shapePath (r : String × Option GoLite.Err) : Option Text := if r.2.isNone then some r.1.toList else none

theorem ofModel_orRefuse (o : Option Stmt) : ofModel (orRefuse o) = (o, o.isNone) := by
  cases o <;> rfl

/-! #### library oracles against the model's list functions -/

theorem beforeLast_lastIdx (c : Char) : ∀ l : List Char, beforeLast c l = (C08lib.lastIdx c l).map (fun k => l.take k) := by
  intro l
  induction l with
  | nil => rfl
  | cons x r ih =>
    simp only [beforeLast, C08lib.lastIdx, ih]
    cases C08lib.lastIdx c r with
    | some k => simp
    | none => by_cases hx : x = c <;> simp [hx]

/-- both ways round in one `simp` fact, as `beq_false_both` -/
theorem trimSpace_blank (n : String) :
    (C08lib.TrimSpace n == "") = isBlank n.toList ∧ ("" == C08lib.TrimSpace n) = isBlank n.toList := by
  have h : (C08lib.TrimSpace n == "") = isBlank n.toList := by
    unfold C08lib.TrimSpace isBlank
    rw [beq_empty, String.toList_ofList, Bool.eq_iff_iff, List.isEmpty_iff]
    exact trim_nil isSpace n.toList
  exact ⟨h, BEq.comm.trans h⟩

/-! #### loops -/

abbrev P2 := Option OCITrustPolicy × Option OCITrustPolicy

/-- the body of the OCI loop with the loop state in the order (wildcardPolicy, applicablePolicy) -/
def stepWA (wild path : String) (s : P2) (p : OCITrustPolicy) : P2 :=
  if GoLite.contains p.RegistryScopes wild = true then (some p, s.2)
  else if GoLite.contains p.RegistryScopes path = true then (s.1, some p)
  else s

theorem foldl_stepWA (wild path : String) (hw : wild.toList = wildcard) : ∀ (l : List OCITrustPolicy) (s : P2),
    ((l.foldl (stepWA wild path) s).1.map absOCI, (l.foldl (stepWA wild path) s).2.map absOCI) =
      scan path.toList (l.map absOCI) (s.1.map absOCI) (s.2.map absOCI) := by
  intro l
  induction l with
  | nil => intro s; rfl
  | cons p r ih =>
    intro s
    have h1 : (absOCI p).scopes.contains wildcard = GoLite.contains p.RegistryScopes wild := by
      rw [← hw]; exact contains_toList _ _
    have h2 : (absOCI p).scopes.contains path.toList = GoLite.contains p.RegistryScopes path := contains_toList _ _
    simp only [List.foldl_cons, List.map_cons, scan]
    rw [h1, h2, ih]
    unfold stepWA
    by_cases c1 : GoLite.contains p.RegistryScopes wild = true
    · simp [c1]
    · by_cases c2 : GoLite.contains p.RegistryScopes path = true
      · simp [c1, c2]
      · simp [c1, c2]

/-- the same body with the loop state in the order (applicablePolicy, wildcardPolicy) -/
def stepAW (wild path : String) (s : P2) (p : OCITrustPolicy) : P2 :=
  if GoLite.contains p.RegistryScopes wild = true then (s.1, some p)
  else if GoLite.contains p.RegistryScopes path = true then (some p, s.2)
  else s

theorem foldl_stepAW (wild path : String) : ∀ (l : List OCITrustPolicy) (s : P2),
    l.foldl (stepAW wild path) (s.2, s.1) =
      ((l.foldl (stepWA wild path) s).2, (l.foldl (stepWA wild path) s).1) := by
  intro l
  induction l with
  | nil => intro s; rfl
  | cons p r ih =>
    intro s
    simp only [List.foldl_cons]
    have : stepAW wild path (s.2, s.1) p = ((stepWA wild path s p).2, (stepWA wild path s p).1) := by
      unfold stepAW stepWA
      split
      · rfl
      · split <;> rfl
    rw [this]
    exact ih _

/-- `getArtifactPathFromReference`, translated from
verifier/trustpolicy/oci.go on every run, returns for EVERY reference exactly the repository path
of the model's `artifactPath` and an error exactly when `artifactPath` refuses - for every scope
format check `validFmt` (`validateRegistryScopeFormat`, a parameter) that accepts what the model's
`validFormat` accepts. -/
theorem source_getArtifactPathFromReference_refines_model (validFmt : String → Option GoLite.Err)
    (hv : ∀ s, (validFmt s).isNone = validFormat s.toList) (ref : String) :
    shapePath (getArtifactPathFromReference validFmt ref) = artifactPath ref.toList := by
  unfold getArtifactPathFromReference artifactPath
  simp only [Id.run]
  have hat : ("@" : String).toList = ['@'] := by decide +kernel
  simp only [C08lib.LastIndex, hat, beforeLast_lastIdx]
  cases hl : C08lib.lastIdx '@' ref.toList with
  | none => simp [shapePath, GoLite.idPure]
  | some k =>
    have hk : ¬ ((k : Int) < 0) := by omega
    simp only [hk, decide_false, Bool.false_eq_true, if_false, Option.map_some]
    have hs : (GoLite.slice ref (0 : Int) (some (k : Int))).toList = ref.toList.take k := by
      simp [GoLite.slice, GoLite.Slice.slice, String.toList_ofList]
    -- the model's format check on the path is the source's on the slice (`hv`)
    rw [← hs, ← hv]
    cases validFmt (GoLite.slice ref (0 : Int) (some (k : Int))) with
    | none => simp [shapePath, GoLite.idPure]
    | some e => simp [shapePath, GoLite.idPure]

/-- `OCIDocument.GetApplicableTrustPolicy`, translated. For EVERY document (any
statements, valid or not) and every reference the translated function returns exactly the statement
the model's `selectOCI` selects on the abstracted document, and an error exactly when `selectOCI`
refuses (malformed reference or no applicable statement). -/
theorem source_GetApplicableTrustPolicy_refines_model (validFmt : String → Option GoLite.Err)
    (hv : ∀ s, (validFmt s).isNone = validFormat s.toList) (doc : OCIDocument) (ref : String) :
    shape absOCI (OCIDocument.GetApplicableTrustPolicy validFmt doc ref) =
      ofModel (selectOCI (doc.TrustPolicies.map absOCI) ref.toList) := by
  have hpath := source_getArtifactPathFromReference_refines_model validFmt hv ref
  unfold OCIDocument.GetApplicableTrustPolicy selectOCI
  simp only [Id.run]
  generalize getArtifactPathFromReference validFmt ref = g at hpath ⊢
  obtain ⟨path, err⟩ := g
  cases err with
  | some e =>
    simp only [shapePath, Option.isNone_some, Bool.false_eq_true, if_false] at hpath
    simp [← hpath, shape, ofModel, GoLite.idPure]
  | none =>
    simp only [shapePath, Option.isNone_none, if_true] at hpath
    rw [← hpath]
    simp only [Option.isSome_none, Bool.false_eq_true, if_false]
    -- the loop state is (wildcardPolicy, applicablePolicy) and the body is `stepWA`
    rw [GoLite.forIn_yield_foldl _ (stepWA (String.ofList Facts.c08Wildcard) path) ?body, pure_bind]
    case body =>
      intro a s
      unfold stepWA
      split
      · rfl
      · split <;> rfl
    have hf := foldl_stepWA (String.ofList Facts.c08Wildcard) path String.toList_ofList doc.TrustPolicies (none, none)
    simp only [Option.map_none] at hf
    rw [← hf]
    generalize List.foldl (stepWA (String.ofList Facts.c08Wildcard) path) (none, none) doc.TrustPolicies = r
    obtain ⟨w, a⟩ := r
    cases w <;> cases a <;> rfl

/-- `for _, p := range l { if t(p) { return p.clone(), nil } }; return nil, err`: `body` is the translated
loop body, `k` the translated code after the loop -/
theorem blob_find {t : BlobTrustPolicy → Bool} {q : Stmt → Bool} {err : GoLite.Err} {l : List BlobTrustPolicy}
    {body : BlobTrustPolicy → Option (Option BlobTrustPolicy × Option GoLite.Err) × Unit →
      Id (ForInStep (Option (Option BlobTrustPolicy × Option GoLite.Err) × Unit))}
    {k : Option (Option BlobTrustPolicy × Option GoLite.Err) × Unit → Id (Option BlobTrustPolicy × Option GoLite.Err)}
    (hq : ∀ p, q (absBlob p) = t p)
    (hbody : ∀ p s, body p s =
      pure (if t p = true then ForInStep.done (some (some p, none), ()) else ForInStep.yield (none, ())))
    (hsome : ∀ r, k (some r, ()) = pure r) (hnone : k (none, ()) = pure (none, some err)) :
    shape absBlob (Id.run (forIn l (none, ()) body >>= k)) = ofModel (orRefuse ((l.map absBlob).find? q)) := by
  have hloop : forIn l (none, ()) body = pure ((l.find? t).map (fun p => (some p, none)), ()) := by
    rw [GoLite.forIn_findReturn (fun p => if t p = true then some (some p, none) else none) body, GoLite.findSome?_if]
    intro p s
    rw [hbody]
    cases t p <;> rfl
  have hmodel : (l.map absBlob).find? q = (l.find? t).map absBlob := by
    rw [List.find?_map, show q ∘ absBlob = t from funext hq]
  rw [hloop, pure_bind, hmodel, ofModel_orRefuse]
  cases l.find? t with
  | none => rw [Option.map_none, hnone]; rfl
  | some p => rw [Option.map_some, hsome]; rfl

/-- `BlobDocument.GetApplicableTrustPolicy`, translated. For EVERY blob document and
every requested name the translated function returns exactly the statement the model's `selectBlob`
selects, and an error exactly when `selectBlob` refuses (blank name, no statement of that name). -/
theorem source_BlobGetApplicableTrustPolicy_refines_model (doc : BlobDocument) (name : String) :
    shape absBlob (BlobDocument.GetApplicableTrustPolicy doc name) =
      ofModel (selectBlob (doc.TrustPolicies.map absBlob) name.toList) := by
  unfold BlobDocument.GetApplicableTrustPolicy
  rw [selectBlob_eq]
  simp only [Id.run, trimSpace_blank]
  split
  · rfl
  · -- `body` and `k` are read off the translated text, which is not quoted here
    refine blob_find (t := fun p => p.Name == name) (q := fun s => s.name == name.toList) (err := ⟨"error"⟩)
      (l := doc.TrustPolicies) (body := _) (k := _) ?hq ?hbody (fun _ => rfl) rfl
    case hq =>
      intro p
      rw [Bool.eq_iff_iff]
      simp only [absBlob, beq_iff_eq, String.toList_inj]
    case hbody =>
      intro p s
      by_cases h : p.Name = name
      · simp [h, BlobTrustPolicy.clone]
      · simp [beq_false_both h]

/-- `BlobDocument.GetGlobalTrustPolicy`, translated, is the model's `selectGlobal` on every blob document. -/
theorem source_GetGlobalTrustPolicy_refines_model (doc : BlobDocument) :
    shape absBlob (BlobDocument.GetGlobalTrustPolicy doc) = ofModel (selectGlobal (doc.TrustPolicies.map absBlob)) := by
  unfold BlobDocument.GetGlobalTrustPolicy
  refine blob_find (t := fun p => p.GlobalPolicy) (q := fun s => s.isGlobal) (err := ⟨"error"⟩)
    (l := doc.TrustPolicies) (body := _) (k := _) (fun _ => rfl) ?hbody (fun _ => rfl) rfl
  case hbody =>
    intro p s
    by_cases h : p.GlobalPolicy = true <;> simp [h, BlobTrustPolicy.clone]

/-- the property theorems transfer to the translated function, e.g. order independence: two
documents with the same statements in any order, unique scopes - the TRANSLATED selection returns
the same statement (or refuses alike) for every reference -/
theorem source_GetApplicableTrustPolicy_order_independent (validFmt : String → Option GoLite.Err)
    (hv : ∀ s, (validFmt s).isNone = validFormat s.toList) (d d' : OCIDocument)
    (hperm : d.TrustPolicies.Perm d'.TrustPolicies) (hu : scopesUnique (d.TrustPolicies.map absOCI) = true) (ref : String) :
    shape absOCI (OCIDocument.GetApplicableTrustPolicy validFmt d ref) =
      shape absOCI (OCIDocument.GetApplicableTrustPolicy validFmt d' ref) := by
  rw [source_GetApplicableTrustPolicy_refines_model validFmt hv, source_GetApplicableTrustPolicy_refines_model validFmt hv,
    select_perm _ _ (hperm.map absOCI) hu]

/-! #### non-vacuity: the translated functions on concrete inputs -/

/-- the scope format check the examples run with: the model's own -/
def vf (s : String) : Option GoLite.Err := if validFormat s.toList then none else some ⟨"error"⟩

theorem vf_ok : ∀ s, (vf s).isNone = validFormat s.toList := by
  intro s; unfold vf; cases validFormat s.toList <;> rfl

def srcStmt (n : String) (scopes : List String) : OCITrustPolicy :=
  { Name := n, SignatureVerification := { VerificationLevel := "strict", Override := [], VerifyTimestamp := "" },
    TrustStores := ["ca:s"], TrustedIdentities := ["*"], RegistryScopes := scopes }

def srcDoc : OCIDocument :=
  { Version := "1.0", TrustPolicies := [srcStmt "w" ["*"], srcStmt "a" ["r.io/app", "r.io/app2"], srcStmt "b" ["r.io/app/sub"]] }

example : (getArtifactPathFromReference vf "r.io/app/sub@d").1 = "r.io/app/sub" := by decide +kernel
example : (getArtifactPathFromReference vf "r.io/app:v1@d").2.isSome = true := by decide +kernel
example : (getArtifactPathFromReference vf "r.io/app").2.isSome = true := by decide +kernel
example : ((OCIDocument.GetApplicableTrustPolicy vf srcDoc "r.io/app@d").1.map (·.Name)) = some "a" := by decide +kernel
example : ((OCIDocument.GetApplicableTrustPolicy vf srcDoc "r.io/ap@d").1.map (·.Name)) = some "w" := by decide +kernel
example : (OCIDocument.GetApplicableTrustPolicy vf { srcDoc with TrustPolicies := srcDoc.TrustPolicies.tail } "r.io/ap@d").2.isSome = true := by decide +kernel

def srcBlob (n : String) (g : Bool) : BlobTrustPolicy :=
  { Name := n, SignatureVerification := { VerificationLevel := "strict", Override := [], VerifyTimestamp := "" },
    TrustStores := ["ca:s"], TrustedIdentities := ["*"], GlobalPolicy := g }

def srcBlobDoc : BlobDocument := { Version := "1.0", TrustPolicies := [srcBlob "blob-policy" false, srcBlob "blob-policy2" true] }

example : ((BlobDocument.GetApplicableTrustPolicy srcBlobDoc "blob-policy2").1.map (·.Name)) = some "blob-policy2" := by decide +kernel
example : (BlobDocument.GetApplicableTrustPolicy srcBlobDoc "blob-polic").2.isSome = true := by decide +kernel
example : (BlobDocument.GetApplicableTrustPolicy srcBlobDoc " ").2.isSome = true := by decide +kernel
example : ((BlobDocument.GetGlobalTrustPolicy srcBlobDoc).1.map (·.Name)) = some "blob-policy2" := by decide +kernel
example : (BlobDocument.GetGlobalTrustPolicy { srcBlobDoc with TrustPolicies := [srcBlob "x" false] }).2.isSome = true := by decide +kernel

end Tie

end NotationModel.C08
