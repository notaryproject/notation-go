/-
C06 - Expiry and certificate validity are judged against the right clock.
The property theorems about the model of `Model/C06.lean`, and (`namespace Tie`) the ties of the translated
`verifyExpiry`, `verifyAuthenticTimestamp` and `verifyTimestamp` to that model.

Units: every instant is an `Int` number of nanoseconds since the Unix epoch, `now` is an input.
Strictness of the comparisons, as coded (and as stated in the theorems below):
  * expiry:            fails iff `expiry ≤ now`            (`now = expiry` FAILS: `!now.Before(expiry)`)
  * window membership: `notBefore ≤ t ∧ t ≤ notAfter`      (both ends INCLUDED: `Before`/`After` are strict)
  * chain expired:     `notAfter < now`                    (`now = notAfter` is NOT expired)
  * timestamp range:   `notBefore ≤ t - acc ∧ t + acc ≤ notAfter`   (both ends INCLUDED)
All statements are for certificate chains (and TSA revocation vectors) of any length.
-/
import NotationModel.Model.C06
import NotationModel.Props.C05
import NotationModel.Generated.SrcC06
set_option linter.unusedSimpArgs false

namespace NotationModel.C06

/-! ### the loops of the code are the quantified statements -/

theorem loop_eq_any {α : Type} (f : List α → Bool) (p : α → Bool) (h0 : f [] = false)
    (hc : ∀ a l, f (a :: l) = (p a || f l)) : ∀ l, f l = l.any p
  | [] => h0
  | a :: l => by rw [hc, loop_eq_any f p h0 hc l, List.any_cons]

theorem saLoop_eq_any (t : Int) :
    ∀ ws, saLoop t ws = ws.any fun w => decide (t < w.notBefore) || decide (t > w.notAfter) :=
  loop_eq_any _ _ rfl fun w ws => by simp only [saLoop, Bool.if_true_left, Bool.decide_eq_true]

theorem expiredLoop_eq_any (now : Int) : ∀ ws, expiredLoop now ws = ws.any fun w => decide (now > w.notAfter) :=
  loop_eq_any _ _ rfl fun w ws => by simp only [expiredLoop, Bool.if_true_left, Bool.decide_eq_true]

theorem rangeLoop_eq_any (t acc : Int) : ∀ ws, rangeLoop t acc ws =
    ws.any fun w => !decide (t - acc ≥ w.notBefore) || !decide (t + acc ≤ w.notAfter) :=
  loop_eq_any _ _ rfl fun w ws => by
    simp only [rangeLoop, Bool.if_true_left, Bool.decide_eq_true, Bool.or_assoc]

/-- the valid-now loop is the signing-authority loop run at the clock reading -/
theorem validNowLoop_eq_saLoop (now : Int) (ws : List Window) : validNowLoop now ws = saLoop now ws := by
  rw [saLoop_eq_any]
  exact loop_eq_any _ _ rfl
    (fun w ws => by simp only [validNowLoop, Bool.if_true_left, Bool.decide_eq_true, Bool.or_assoc]) ws

theorem not_contains (w : Window) (t : Int) :
    (!w.contains t) = (decide (t < w.notBefore) || decide (t > w.notAfter)) := by
  simp only [Window.contains, Bool.not_and, ← decide_not, Int.not_le, GT.gt]

theorem not_containsRange (w : Window) (lo hi : Int) :
    (!w.containsRange lo hi) = (!decide (lo ≥ w.notBefore) || !decide (hi ≤ w.notAfter)) :=
  Bool.not_and _ _

theorem saLoop_eq (t : Int) (ws : List Window) : saLoop t ws = !(ws.all (·.contains t)) := by
  simp only [saLoop_eq_any, List.not_all_eq_any_not, not_contains]

theorem validNowLoop_eq (now : Int) (ws : List Window) : validNowLoop now ws = !(ws.all (·.contains now)) := by
  rw [validNowLoop_eq_saLoop, saLoop_eq]

theorem rangeLoop_eq (t acc : Int) (ws : List Window) :
    rangeLoop t acc ws = !(ws.all (·.containsRange (t - acc) (t + acc))) := by
  simp only [rangeLoop_eq_any, List.not_all_eq_any_not, not_containsRange]

theorem contains_iff (w : Window) (t : Int) : w.contains t = true ↔ w.notBefore ≤ t ∧ t ≤ w.notAfter := by
  simp [Window.contains]

theorem containsRange_iff (w : Window) (lo hi : Int) :
    w.containsRange lo hi = true ↔ w.notBefore ≤ lo ∧ hi ≤ w.notAfter := by
  simp [Window.containsRange]

theorem all_contains_iff (ws : List Window) (t : Int) :
    ws.all (·.contains t) = true ↔ ∀ w ∈ ws, w.notBefore ≤ t ∧ t ≤ w.notAfter := by
  simp [List.all_eq_true, contains_iff]

theorem performsWith_eq (listed : Bool) (opt : TsOption) (now : Int) (chain : List Window) :
    performsWith listed opt now chain = (listed && (opt != .afterCertExpiry || expiredLoop now chain)) := by
  unfold performsWith
  cases listed <;> cases opt <;> cases expiredLoop now chain <;> rfl

theorem performs_eq (i : Input) : performs i = tsApplies i := by
  unfold performs tsApplies chainExpired
  rw [performsWith_eq, expiredLoop_eq_any]

/-- step 5: the aggregation of the TSA chain's revocation results (proved in C05) -/
theorem revFails_eq (n : Nat) (rs : List C05.R) :
    tsaRevocationFails n rs = !(rs.length == n && rs.all C05.R.good) := by
  have h := C05.finalFor_ok_iff n rs
  rw [← beq_iff_eq (a := rs.length), ← Bool.and_eq_true] at h
  unfold tsaRevocationFails
  cases hb : (rs.length == n && rs.all C05.R.good)
  · cases hf : (C05.revocationFinalFor n rs).1
    · exact absurd (h.1 hf) (by rw [hb]; exact Bool.noConfusion)
    · rfl
    · rfl
  · rw [h.2 hb]; rfl

theorem pipelineSteps_eq (chain : List Window) (s : Steps) : pipelineSteps chain s =
    (!s.present || !s.parses || !s.imprintMatches || !s.storesLoad || !s.storesNonEmpty || !s.tokenVerifies ||
      !s.chainRulesOk || rangeLoop s.genTime s.acc chain || s.revocationError ||
      tsaRevocationFails s.tsaChainLen s.revocation) := by
  simp only [pipelineSteps, Bool.if_true_left, Bool.decide_eq_true, Bool.or_assoc]

theorem pipeline_eq (i : Input) : pipeline i = !(tokenGood i) := by
  unfold pipeline tokenGood Input.steps
  cases i.token with
  | none => rfl
  | some k =>
    simp only [pipelineSteps_eq, rangeLoop_eq, revFails_eq, Bool.not_and, Bool.not_not, Bool.or_assoc,
      Bool.not_true, Bool.false_or]

/-- closed form of `verifyTimestamp` -/
theorem verifyTimestamp_eq (i : Input) :
    verifyTimestamp i = if tsApplies i then !(tokenGood i) else !(i.chain.all (·.contains i.now)) := by
  show (if !(performs i) then validNowLoop i.now i.chain else pipeline i) = _
  rw [performs_eq, pipeline_eq, validNowLoop_eq]
  cases tsApplies i <;> simp

/-! ### readable theorems -/

/-- **expiry_fails_iff**: the expiry validation fails exactly when an expiry is present and the
clock is not before it - `now = expiry` fails, `now = expiry - 1ns` passes -/
theorem expiry_fails_iff (i : Input) :
    (runAccepted i).expiryFailed = true ↔ ∃ e, i.expiry = some e ∧ ¬ (i.now < e) := by
  simp only [runAccepted, verifyExpiry]
  cases i.expiry with
  | none => simp
  | some e => simp

/-- the same with `≤`: "a signature whose expiry time is not after the moment of verification" -/
theorem expiry_fails_iff_le (i : Input) :
    (runAccepted i).expiryFailed = true ↔ ∃ e, i.expiry = some e ∧ e ≤ i.now := by
  rw [expiry_fails_iff]
  constructor <;> (rintro ⟨e, h1, h2⟩; exact ⟨e, h1, by omega⟩)

theorem expiry_boundary (e : Int) :
    verifyExpiry e (some e) = true ∧ verifyExpiry (e - 1) (some e) = false ∧ verifyExpiry (e + 1) (some e) = true ∧
    ∀ now, verifyExpiry now none = false := by
  refine ⟨?_, ?_, ?_, ?_⟩ <;> simp [verifyExpiry] <;> omega

/-- **sa_pass_iff**: under notary.x509.signingAuthority the authentic-timestamp validation passes
exactly when every certificate's window contains the authentic signing time, ends included -
whatever the clock, the policy's tsa stores, the verifyTimestamp option and the countersignature are -/
theorem sa_pass_iff (i : Input) (hs : i.scheme = .signingAuthority) :
    (runAccepted i).authTsFailed = false ↔ ∀ w ∈ i.chain, w.notBefore ≤ i.signingTime ∧ i.signingTime ≤ w.notAfter := by
  simp only [runAccepted, verifyAuthenticTimestamp, hs, saLoop_eq]
  rw [← all_contains_iff]
  simp

/-- under notary.x509 the signed signing time plays no role -/
theorem x509_ignores_signing_time (i : Input) (hs : i.scheme = .x509) (t : Int) :
    (runAccepted { i with signingTime := t }).authTsFailed = (runAccepted i).authTsFailed := by
  simp [runAccepted, verifyAuthenticTimestamp, hs, verifyTimestamp, verifyTimestampWith, Input.steps]

/-- when timestamp verification applies (`performTimestampVerification` stays true) -/
theorem performs_iff (i : Input) :
    performs i = true ↔
      i.tsaListed = true ∧ (i.option ≠ .afterCertExpiry ∨ ∃ w ∈ i.chain, w.notAfter < i.now) := by
  rw [performs_eq]
  simp [tsApplies, chainExpired]

/-- **x509_no_tsa_pass_iff**: when timestamp verification does not apply (no tsa store listed, or
afterCertExpiry with an unexpired chain) the validation passes exactly when every certificate's
window contains `now`, ends included -/
theorem x509_no_tsa_pass_iff (i : Input) (hs : i.scheme = .x509) (hp : performs i = false) :
    (runAccepted i).authTsFailed = false ↔ ∀ w ∈ i.chain, w.notBefore ≤ i.now ∧ i.now ≤ w.notAfter := by
  rw [performs_eq] at hp
  simp only [runAccepted, verifyAuthenticTimestamp, hs, verifyTimestamp_eq, hp]
  rw [← all_contains_iff]
  simp

/-- what a passing countersignature check establishes -/
def GoodCountersignature (i : Input) : Prop :=
  ∃ k, i.token = some k ∧                                   -- a countersignature is present,
    k.parses = true ∧
    k.imprintMatches = true ∧                               -- over THIS envelope's signature value,
    i.tsaStoresLoad = true ∧ i.tsaStoresNonEmpty = true ∧
    k.tsaRootListed = true ∧                                -- from a TSA chaining to a tsa store the policy lists,
    k.tsaCertOk = true ∧ k.chainRulesOk = true ∧            -- with a proper timestamping certificate chain,
    (∀ w ∈ i.chain,                                         -- whose time range lies inside every window,
        w.notBefore ≤ k.genTime - accuracyNs k ∧ k.genTime + accuracyNs k ≤ w.notAfter) ∧
    i.tsaRevocationError = false ∧                          -- and whose chain is not revoked / unknown:
    i.tsaRevocation.length = i.tsaChainLen ∧                -- one result per TSA certificate, each OK or non-revokable
    (∀ r ∈ i.tsaRevocation, r = .ok ∨ r = .nonRevokable)

theorem tokenGood_iff (i : Input) : tokenGood i = true ↔ GoodCountersignature i := by
  unfold tokenGood GoodCountersignature
  have good_iff : ∀ r : C05.R, r.good = true ↔ (r = .ok ∨ r = .nonRevokable) := by
    intro r; cases r <;> simp [C05.R.good]
  cases i.token with
  | none => simp
  | some k =>
    simp only [Bool.and_eq_true, List.all_eq_true, containsRange_iff, Bool.not_eq_true', good_iff,
      Option.some.injEq, exists_eq_left', beq_iff_eq, and_assoc]

/-- **x509_tsa_pass_sound**: when timestamp verification applies, a pass means a good countersignature -/
theorem x509_tsa_pass_sound (i : Input) (hs : i.scheme = .x509) (hp : performs i = true)
    (hpass : (runAccepted i).authTsFailed = false) : GoodCountersignature i := by
  rw [performs_eq] at hp
  simp only [runAccepted, verifyAuthenticTimestamp, hs, verifyTimestamp_eq, hp, if_true] at hpass
  exact (tokenGood_iff i).1 (by simpa using hpass)

/-- **x509_tsa_pass_complete**: and a good countersignature passes - in particular the clock plays
no further role: certificates expired or not yet valid *now* do not matter -/
theorem x509_tsa_pass_complete (i : Input) (hs : i.scheme = .x509) (hp : performs i = true)
    (hg : GoodCountersignature i) : (runAccepted i).authTsFailed = false := by
  rw [performs_eq] at hp
  simp only [runAccepted, verifyAuthenticTimestamp, hs, verifyTimestamp_eq, hp, if_true]
  simp [(tokenGood_iff i).2 hg]

/-- **afterCertExpiry_unexpired_uses_now**: with `verifyTimestamp: afterCertExpiry` and no
certificate expired (`now ≤ notAfter` for all - equality is still unexpired) the verdict is the
valid-now test, whether or not a tsa store is listed and whatever countersignature is attached -/
theorem afterCertExpiry_unexpired_uses_now (i : Input) (hs : i.scheme = .x509)
    (ho : i.option = .afterCertExpiry) (hu : ∀ w ∈ i.chain, i.now ≤ w.notAfter) :
    (runAccepted i).authTsFailed = false ↔ ∀ w ∈ i.chain, w.notBefore ≤ i.now ∧ i.now ≤ w.notAfter := by
  apply x509_no_tsa_pass_iff i hs
  cases hp : performs i
  · rfl
  · obtain ⟨_, h⟩ := (performs_iff i).1 hp
    rcases h with h | ⟨w, hw, hlt⟩
    · exact absurd ho h
    · have := hu w hw; omega

/-- with `always` / unset and a tsa store listed, or afterCertExpiry and an expired certificate,
the countersignature decides -/
theorem x509_tsa_pass_iff (i : Input) (hs : i.scheme = .x509) (hl : i.tsaListed = true)
    (ho : i.option ≠ .afterCertExpiry ∨ ∃ w ∈ i.chain, w.notAfter < i.now) :
    (runAccepted i).authTsFailed = false ↔ GoodCountersignature i :=
  have hp := (performs_iff i).2 ⟨hl, ho⟩
  ⟨x509_tsa_pass_sound i hs hp, x509_tsa_pass_complete i hs hp⟩

/-- no tsa store listed: the option and the countersignature are irrelevant -/
theorem x509_without_tsa_store_uses_now (i : Input) (hs : i.scheme = .x509) (hl : i.tsaListed = false) :
    (runAccepted i).authTsFailed = false ↔ ∀ w ∈ i.chain, w.notBefore ≤ i.now ∧ i.now ≤ w.notAfter := by
  apply x509_no_tsa_pass_iff i hs
  rw [performs_eq, tsApplies, hl]
  rfl

/-- boundary behaviour of the window tests on a one-certificate chain -/
theorem window_boundaries (nb na : Int) (h : nb ≤ na) :
    saLoop nb [⟨nb, na⟩] = false ∧ saLoop na [⟨nb, na⟩] = false ∧
    saLoop (nb - 1) [⟨nb, na⟩] = true ∧ saLoop (na + 1) [⟨nb, na⟩] = true ∧
    validNowLoop nb [⟨nb, na⟩] = false ∧ validNowLoop na [⟨nb, na⟩] = false ∧
    validNowLoop (nb - 1) [⟨nb, na⟩] = true ∧ validNowLoop (na + 1) [⟨nb, na⟩] = true ∧
    expiredLoop na [⟨nb, na⟩] = false ∧ expiredLoop (na + 1) [⟨nb, na⟩] = true := by
  simp [saLoop, validNowLoop, expiredLoop]
  omega

/-- boundary behaviour of the timestamp range: the range may touch both ends of the window -/
theorem range_boundaries (nb na t acc : Int) :
    (rangeLoop t acc [⟨nb, na⟩] = false ↔ nb ≤ t - acc ∧ t + acc ≤ na) ∧
    rangeLoop (nb + acc) acc [⟨nb, nb + 2 * acc⟩] = false ∧
    rangeLoop (nb + acc) (acc + 1) [⟨nb, nb + 2 * acc + 1⟩] = true ∧
    rangeLoop (nb + acc) (acc + 1) [⟨nb - 1, nb + 2 * acc⟩] = true := by
  refine ⟨?_, ?_, ?_, ?_⟩
  · rw [rangeLoop_eq]; simp [Window.containsRange]
  · simp [rangeLoop]; omega
  · simp [rangeLoop]; omega
  · simp [rangeLoop]; omega

/-! ### translation invariance

The harness hands the instants to the model relative to an origin of its choosing (so that a case
does not depend on the wall clock of the run that produced it).  That is legitimate because the
model only ever compares instants with each other: -/

def Window.shift (d : Int) (w : Window) : Window := ⟨w.notBefore + d, w.notAfter + d⟩
def Token.shift (d : Int) (k : Token) : Token := { k with genTime := k.genTime + d }
def Input.shift (d : Int) (i : Input) : Input :=
  { i with now := i.now + d, signingTime := i.signingTime + d, expiry := i.expiry.map (· + d),
           chain := i.chain.map (Window.shift d), token := i.token.map (Token.shift d) }

theorem contains_shift (d t : Int) (w : Window) : (w.shift d).contains (t + d) = w.contains t := by
  simp only [Window.contains, Window.shift, Int.add_le_add_iff_right]

theorem containsRange_shift (d lo hi : Int) (w : Window) :
    (w.shift d).containsRange (lo + d) (hi + d) = w.containsRange lo hi := by
  simp only [Window.containsRange, Window.shift, Int.add_le_add_iff_right]

theorem all_contains_shift (d t : Int) (ws : List Window) :
    (ws.map (Window.shift d)).all (·.contains (t + d)) = ws.all (·.contains t) := by
  simp only [List.all_map, Function.comp_def, contains_shift]

theorem all_containsRange_shift (d t acc : Int) (ws : List Window) :
    (ws.map (Window.shift d)).all (·.containsRange (t + d - acc) (t + d + acc)) =
      ws.all (·.containsRange (t - acc) (t + acc)) := by
  have lo : t + d - acc = t - acc + d := by omega
  have hi : t + d + acc = t + acc + d := by omega
  simp only [List.all_map, Function.comp_def, lo, hi, containsRange_shift]

theorem any_expired_shift (d now : Int) (ws : List Window) :
    (ws.map (Window.shift d)).any (fun w => decide (w.notAfter < now + d)) =
      ws.any (fun w => decide (w.notAfter < now)) := by
  simp only [List.any_map, Function.comp_def, Window.shift, Int.add_lt_add_iff_right]

/-- **run_shift**: moving every instant by the same amount changes nothing -/
theorem run_shift (d : Int) (i : Input) : runAccepted (i.shift d) = runAccepted i := by
  have hexp : verifyExpiry (i.now + d) (i.expiry.map (· + d)) = verifyExpiry i.now i.expiry := by
    cases i.expiry <;> simp only [verifyExpiry, Option.map_none, Option.map_some, Int.add_lt_add_iff_right]
  have happ : tsApplies (i.shift d) = tsApplies i := by
    show (i.tsaListed && (i.option != .afterCertExpiry ||
        (i.chain.map (Window.shift d)).any fun w => decide (w.notAfter < i.now + d))) = tsApplies i
    rw [any_expired_shift]
    rfl
  have hgood : tokenGood (i.shift d) = tokenGood i := by
    cases h : i.token <;>
      simp only [tokenGood, Input.shift, h, Option.map_none, Option.map_some, Token.shift, accuracyNs,
        all_containsRange_shift]
  simp only [runAccepted, verifyAuthenticTimestamp, verifyTimestamp_eq, saLoop_eq, happ, hgood]
  simp only [Input.shift, hexp, all_contains_shift]

/-! ### the whole property -/

theorem verifyExpiry_eq_expired (i : Input) : verifyExpiry i.now i.expiry = expired i := by
  unfold verifyExpiry expired
  cases i.expiry with
  | none => rfl
  | some e => simp only [← decide_not, Int.not_lt]

/-- the clauses for accepted statements hold of what the verifier does with an accepted statement -/
theorem accepted_holds (i : Input) : (clausesAccepted i (runAccepted i)).holds = true := by
  unfold clausesAccepted runAccepted
  simp only [Clauses.holds, verifyExpiry_eq_expired, verifyAuthenticTimestamp, verifyTimestamp_eq, saLoop_eq]
  -- a propositional tautology in these five atoms, for either scheme
  generalize tsApplies i = a
  generalize tokenGood i = g
  generalize (i.chain.all fun x => x.contains i.now) = vn
  generalize (i.chain.all fun x => x.contains i.signingTime) = vs
  generalize expired i = e
  cases i.scheme <;> revert a g vn vs e <;> decide

theorem holds_map_or (b : Bool) (cl : Clauses) :
    Clauses.holds (cl.map (fun c => (c.1, b || c.2))) = (b || Clauses.holds cl) := by
  cases b <;> simp [Clauses.holds, List.all_map]

/-- **C06**: every clause of `Holds` is true of the model's behaviour - for refused statements (nothing is claimed
but that only a non-canonical spelling is refused) and for accepted ones -/
theorem model_holds (i : Input) : Holds i (run i) = true := by
  unfold Holds clauses
  rw [Clauses.holds_cons, holds_map_or]
  unfold run
  cases h : refusedByValidation i
  · simp only [Bool.false_eq_true, if_false]
    rw [accepted_holds]
    rfl
  · rfl

/-- a statement whose store types are spelled canonically is never refused, and then the verifier behaves as `runAccepted` -/
theorem canonical_runs (i : Input) (h1 : i.tsaTypeSpelling = .canonical) (h2 : i.signingTypeSpelling = .canonical) :
    run i = runAccepted i := by
  simp [run, refusedByValidation, h1, h2]

/-! ### non-vacuity -/

private def w (a b : Int) : Window := ⟨a, b⟩
private def goodToken : Token :=
  { parses := true, imprintMatches := true, genTime := 50, accSeconds := 0, accMillis := 0, accMicros := 0,
    baselinePolicy := false, tsaRootListed := true, tsaCertOk := true, chainRulesOk := true }
private def obs (ev e a : Bool) : Obs :=
  { refused := false, evaluated := ev, expiryFailed := e, authTsFailed := a, tsaRevocationArgsOk := true,
    signingRevocationArgsOk := true }
private def base : Input :=
  { now := 100, scheme := .x509, signingTime := 10, expiry := some 101, chain := [w 0 200, w 0 300],
    tsaListed := false, option := .unset, token := none, tsaStoresLoad := true, tsaStoresNonEmpty := true,
    tsaRevocationError := false, tsaRevocation := [.ok, .ok], tsaChainLen := 2,
    tsaTypeSpelling := .canonical, signingTypeSpelling := .canonical }

-- valid now, unexpired: both pass
example : runAccepted base = (obs true false false) := by decide +kernel
-- expiry equal to the clock fails
example : (runAccepted { base with expiry := some 100 }).expiryFailed = true := by decide +kernel
-- an expired certificate fails without timestamping ...
example : (runAccepted { base with chain := [w 0 200, w 0 99] }).authTsFailed = true := by decide +kernel
-- ... and passes with a good countersignature inside both windows, under afterCertExpiry
example : (runAccepted { base with chain := [w 0 200, w 0 99], tsaListed := true, option := .afterCertExpiry,
                                   token := some goodToken }).authTsFailed = false := by decide +kernel
-- the same token timed outside a window fails
example : (runAccepted { base with chain := [w 0 200, w 60 99], tsaListed := true, option := .always,
                                   token := some goodToken }).authTsFailed = true := by decide +kernel
-- a revoked TSA certificate fails
example : (runAccepted { base with tsaListed := true, token := some goodToken, tsaRevocation := [.ok, .revoked] }).authTsFailed = true := by decide +kernel
-- signing authority looks at the signing time only
example : (runAccepted { base with scheme := .signingAuthority, now := 1000, signingTime := 200 }).authTsFailed = false := by decide +kernel
example : (runAccepted { base with scheme := .signingAuthority, now := 100, signingTime := 201 }).authTsFailed = true := by decide +kernel
-- `Holds` rejects wrong observations
example : Holds { base with expiry := some 100 } (obs true false false) = false := by decide +kernel
example : Holds { base with chain := [w 0 200, w 0 99] } (obs true false false) = false := by decide +kernel
example : Holds { base with tsaListed := true } (obs true false false) = false := by decide +kernel
example : Holds { base with scheme := .signingAuthority, signingTime := 201 } (obs true false false) = false := by decide +kernel
-- a result vector that does not have one entry per TSA certificate fails, even if every entry is OK
example : (runAccepted { base with tsaListed := true, token := some goodToken, tsaRevocation := [.ok] }).authTsFailed = true := by decide +kernel
example : (runAccepted { base with tsaListed := true, token := some goodToken, tsaRevocation := [.ok, .ok, .ok] }).authTsFailed = true := by decide +kernel
example : (runAccepted { base with tsaListed := true, token := some goodToken }).authTsFailed = false := by decide +kernel
-- an outcome without the two results does not satisfy the property
example : Holds base (obs false false false) = false := by decide +kernel
-- a TSA revocation check that was handed an authentic signing time, or the wrong chain, does not satisfy the property
example : Holds base { obs true false false with tsaRevocationArgsOk := false } = false := by decide +kernel
example : Holds base { obs true false false with signingRevocationArgsOk := false } = false := by decide +kernel
example : Holds base (runAccepted base) = true := by decide +kernel
example : Holds base (run base) = true := by decide +kernel
-- a statement that spells "TSA:x" is refused by today's policy validation: nothing to verify, nothing claimed ...
example : (run { base with tsaListed := true, tsaTypeSpelling := .otherCase }).refused = true := by decide +kernel
example : Holds { base with tsaListed := true, tsaTypeSpelling := .otherCase }
    (run { base with tsaListed := true, tsaTypeSpelling := .otherCase }) = true := by decide +kernel
-- ... but a verifier that ACCEPTS it must treat the entry as the tsa store it is: passing without countersignature
-- because "no tsa store is configured" does not satisfy the property
example : Holds { base with tsaListed := true, tsaTypeSpelling := .otherCase } (obs true false false) = false := by decide +kernel
example : Holds { base with tsaListed := true, tsaTypeSpelling := .otherCase } (obs true false true) = true := by decide +kernel
-- and a canonically spelled statement must not be refused
example : Holds base { obs false false false with refused := true } = false := by decide +kernel

/-! ### tie to the translated source

`Generated/SrcC06.lean` is the Lean translation of `verifyExpiry`, `verifyAuthenticTimestamp` and `verifyTimestamp`
(verifier/verifier.go), regenerated on every run by /verif/extract (go2lean). The theorems below say that the
translated functions fail / pass exactly as the model's functions do, for all times and all oracle answers
(Src/TypesC06.lean lists the oracles). The proofs never quote the generated text: loops are rewritten by the loop
lemmas of this section, oracle answers are generalised to variables, early exits become Boolean disjunctions. They
have to survive harmless rewrites of the Go text (corpus/C06/tie_robustness.py: tests re-expressed or swapped, comparisons
written the other way round, a switch as an if-chain): hence loop tests are compared pointwise and the remaining finite
choices are decided by cases instead of matching a shape. -/

namespace Tie
open NotationModel.Src NotationModel.Src.verifier

@[reducible] def expiryOf (t : time.Time) : Option Int := if t.ns = 0 then none else some t.ns
@[reducible] def windowOf (c : c06.Certificate) : Window := ⟨c.NotBefore.ns, c.NotAfter.ns⟩
@[reducible] def chainOf (o : c06.VerificationOutcome) : List Window := o.EnvelopeContent.SignerInfo.CertificateChain.map windowOf

/-- TIE (translated source): `verifyExpiry`, regenerated from verifier/verifier.go on every run
(`Generated/SrcC06.lean`), reports an error exactly when the model's `verifyExpiry` does - for every clock reading
(the oracle `env.Now`) and every expiry, the zero time standing for "no expiry" -/
theorem source_verifyExpiry_refines_model (env : Env) (o : c06.VerificationOutcome) :
    (verifier.verifyExpiry env o).Error.isSome =
      C06.verifyExpiry env.Now.ns (expiryOf o.EnvelopeContent.SignerInfo.SignedAttributes.Expiry) := by
  unfold verifier.verifyExpiry C06.verifyExpiry expiryOf
  simp only [Id.run, time.Time.IsZero, time.Time.Before]
  by_cases hz : o.EnvelopeContent.SignerInfo.SignedAttributes.Expiry.ns = 0 <;>
    by_cases hb : env.Now.ns < o.EnvelopeContent.SignerInfo.SignedAttributes.Expiry.ns <;>
    simp [hz, hb, GoLite.idPure] <;> rfl

/-! loops of the translated text, whatever they return -/

/-- `for _, a := range l { if p(a) { return v(a) }; if q(a) { return w(a) } }` -/
theorem forIn_ifStop2 {α ρ : Type} (l : List α) (p q : α → Bool) (v w : α → ρ) :
    (forIn l ((none : Option ρ), ()) (fun a _ =>
      if p a = true then (pure (ForInStep.done (some (v a), ())) : Id _)
      else if q a = true then pure (ForInStep.done (some (w a), ())) else pure (ForInStep.yield (none, ())))) =
      pure ((l.find? (fun a => p a || q a)).map (fun a => if p a then v a else w a), ()) := by
  rw [GoLite.forIn_findReturn (fun a => if p a || q a then some (if p a then v a else w a) else none) _
    (fun a _ => by cases p a <;> cases q a <;> rfl), GoLite.findSome?_if]

/-- `for _, a := range l { if p(a) { flag = true; break } }` -/
theorem forIn_anyBreak {α : Type} (l : List α) (p : α → Bool) (b : Bool) :
    (forIn l b (fun a r => if p a = true then (pure (ForInStep.done true) : Id _) else pure (ForInStep.yield r))) =
      pure (l.any p || b) := by
  rw [GoLite.forIn_any p b true _ (fun _ => rfl)]
  cases l.any p <;> rfl

/-- `for _, a := range l { if p(a) { flag = true } }` (the same without `break`) -/
theorem forIn_anyFlag {α : Type} (l : List α) (p : α → Bool) (b : Bool) :
    (forIn l b (fun a r => if p a = true then (pure (ForInStep.yield true) : Id _) else pure (ForInStep.yield r))) =
      pure (l.any p || b) := by
  induction l generalizing b with
  | nil => simp
  | cons a l ih =>
    rw [List.forIn_cons]
    by_cases h : p a = true
    · simp [h, ih]
    · simp [h, ih]

theorem foldl_AddCert (l : List x509.Certificate) (p : x509.CertPool) :
    List.foldl (fun b a => b.AddCert a) p l = ⟨p.certs ++ l⟩ := by
  induction l generalizing p with
  | nil => simp
  | cons a l ih => simp only [List.foldl_cons]; rw [ih]; simp

/-! the model's loops over the windows of the signing chain, in the form the loops of the translated text take; the
source's test `P` may be spelled in any way that agrees pointwise with the model's -/

/-- two Boolean tests built from integer comparisons agree: read as propositions the claim is linear arithmetic. The
source's test `P` in the goal `∀ c, P c = ..` is never written out: it comes by unification from what a `generalize` left -/
macro "bool_arith" : tactic => `(tactic| (intro c; apply Bool.eq_iff_iff.2; simp <;> omega))

theorem any_eq_isSome_find? {α : Type} (l : List α) (p : α → Bool) : l.any p = (l.find? p).isSome :=
  Bool.eq_iff_iff.2 (List.any_eq_true.trans List.find?_isSome.symm)

theorem saLoop_of_find {t : Int} {l : List c06.Certificate} {P : c06.Certificate → Bool} {x : Option c06.Certificate}
    (h : l.find? P = x) (hP : ∀ c, P c = (decide (t < c.NotBefore.ns) || decide (t > c.NotAfter.ns))) :
    saLoop t (l.map windowOf) = x.isSome := by
  rw [← h, saLoop_eq_any, List.any_map, ← any_eq_isSome_find?, funext hP]; rfl

theorem expiredLoop_of_any {now : Int} {l : List c06.Certificate} {P : c06.Certificate → Bool} {b : Bool}
    (h : l.any P = b) (hP : ∀ c, P c = decide (now > c.NotAfter.ns)) : expiredLoop now (l.map windowOf) = b := by
  rw [← h, expiredLoop_eq_any, List.any_map, funext hP]; rfl

theorem rangeLoop_of_find {t acc : Int} {l : List c06.Certificate} {P : c06.Certificate → Bool} {x : Option c06.Certificate}
    (h : l.find? P = x)
    (hP : ∀ c, P c = (!(decide (t - acc ≥ c.NotBefore.ns)) || !(decide (t + acc ≤ c.NotAfter.ns)))) :
    rangeLoop t acc (l.map windowOf) = x.isSome := by
  rw [← h, rangeLoop_eq_any, List.any_map, ← any_eq_isSome_find?, funext hP]; rfl

/-- TIE: under any scheme but notary.x509 the translated `verifyAuthenticTimestamp` fails exactly when the model's
signing-authority loop does: some certificate's window does not contain the authentic signing time -/
theorem source_verifyAuthenticTimestamp_signingAuthority_refines_model (env : Env) (pn : String) (ts : List String) (sv : c06.SignatureVerification)
    (st : truststore.X509TrustStore) (r : revocation.Validator) (o : c06.VerificationOutcome)
    (hs : o.EnvelopeContent.SignerInfo.SignedAttributes.SigningScheme ≠ signature.SigningSchemeX509) :
    (verifier.verifyAuthenticTimestamp env pn ts sv st r o).Error.isSome =
      saLoop o.EnvelopeContent.SignerInfo.SignedAttributes.SigningTime.ns (chainOf o) := by
  unfold verifier.verifyAuthenticTimestamp
  simp only [Id.run]
  rw [GoLite.forIn_returnIf]
  simp only [beq_eq_false_iff_ne.2 hs, beq_eq_false_iff_ne.2 (Ne.symm hs), Bool.false_eq_true, if_false]
  generalize hit : List.find? _ o.EnvelopeContent.SignerInfo.CertificateChain = x
  rw [saLoop_of_find hit (by bool_arith)]
  cases x <;> rfl

@[reducible] def optionOf (s : trustpolicy.TimestampOption) : TsOption :=
  if s = trustpolicy.OptionAfterCertExpiry then .afterCertExpiry
  else if s = trustpolicy.OptionAlways then .always else .unset

@[reducible] def stepsOf (env : Env) (pn : String) (ts : List String) (st : truststore.X509TrustStore) (r : revocation.Validator)
    (o : c06.VerificationOutcome) : Steps :=
  let si := o.EnvelopeContent.SignerInfo
  let p := env.ParseSignedToken si.UnsignedAttributes.TimestampSignature
  let inf := p.1.Info
  let v := inf.1.Validate si.Signature
  let ld := env.loadX509TSATrustStores si.SignedAttributes.SigningScheme pn ts st
  let vf := p.1.Verify { CurrentTime := v.1.Value, Roots := ⟨ld.1⟩ }
  let rv := r.ValidateContext { CertChain := vf.1 }
  { present := si.UnsignedAttributes.TimestampSignature.length != 0,
    parses := p.2.isNone && inf.2.isNone, imprintMatches := v.2.isNone, storesLoad := ld.2.isNone,
    storesNonEmpty := ld.1.length != 0, tokenVerifies := vf.2.isNone,
    chainRulesOk := (env.ValidateTimestampingCertChain vf.1).isNone,
    genTime := v.1.Value.ns, acc := v.1.Accuracy, revocationError := rv.2.isSome,
    revocation := rv.1.map C05.Tie.resOf, tsaChainLen := vf.1.length }

theorem isEmpty_eq_length_beq_zero {α : Type} (l : List α) : l.isEmpty = (l.length == 0) := by cases l <;> rfl

theorem zero_eq_len {α : Type} (l : List α) : ((0 : Int) = (l.length : Int)) = (l = []) := by
  cases l <;> simp <;> omega

theorem optionOf_ne_afterCertExpiry (s : trustpolicy.TimestampOption) :
    (optionOf s != TsOption.afterCertExpiry) = !(s == trustpolicy.OptionAfterCertExpiry) := by
  unfold optionOf
  by_cases h : s = trustpolicy.OptionAfterCertExpiry
  · simp only [h, if_true, beq_self_eq_true]; rfl
  · rw [if_neg h, beq_eq_false_iff_ne.2 h]
    split <;> rfl

/-- TIE: the translated `verifyTimestamp` returns an error exactly when the model's `verifyTimestampWith` says so -
for EVERY clock reading and EVERY answer of the oracles (trust store listing and loading, token parsing, TSTInfo,
message imprint, token verification against the pool made of exactly the loaded certificates at the token's time,
certificate rules, revocation validator asked about exactly the verified TSA chain with no authentic signing time);
a malformed trust store list (the listing oracle's error) is an error -/
theorem source_verifyTimestamp_refines_model (env : Env) (pn : String) (ts : List String) (sv : c06.SignatureVerification)
    (st : truststore.X509TrustStore) (r : revocation.Validator) (o : c06.VerificationOutcome) :
    (verifier.verifyTimestamp env pn ts sv st r o).isSome =
      match env.isTSATrustStoreInPolicy pn ts with
      | (_, some _) => true
      | (tsaListed, none) =>
        verifyTimestampWith env.Now.ns (chainOf o) tsaListed (optionOf sv.VerifyTimestamp) (stepsOf env pn ts st r o) := by
  unfold verifier.verifyTimestamp
  -- the local definitions go, the matches on the oracles' answers stay until the answers are variables
  simp -iota only [stepsOf, Bool.false_and, Bool.true_and, Bool.not_false, Bool.not_true, if_true, if_false,
    Bool.false_eq_true]
  generalize env.isTSATrustStoreInPolicy pn ts = q0
  generalize env.ParseSignedToken _ = P
  generalize env.loadX509TSATrustStores _ pn ts st = L
  rcases q0 with ⟨listed, e0⟩
  rcases P with ⟨tok, eP⟩
  rcases L with ⟨certs, eL⟩
  simp only []
  generalize tok.Info = I
  rcases I with ⟨inf, eI⟩
  simp only []
  generalize inf.Validate _ = V
  rcases V with ⟨tsv, eV⟩
  simp only [Id.run, forIn_ifStop2, forIn_anyBreak, forIn_anyFlag, List.forIn_pure_yield_eq_foldl]
  simp only [GoLite.idPure, GoLite.idBind, bind, pure, foldl_AddCert, List.nil_append]
  generalize tok.Verify _ = VF
  rcases VF with ⟨tchain, eVF⟩
  generalize env.ValidateTimestampingCertChain tchain = RU
  generalize r.ValidateContext _ = RV
  rcases RV with ⟨res, eRV⟩
  simp only [verifyTimestampWith, performsWith_eq, pipelineSteps_eq, validNowLoop_eq_saLoop, chainOf, tsaRevocationFails]
  rw [C05.Tie.source_revocationFinalResult_refines_model, optionOf_ne_afterCertExpiry]
  simp only [BEq.comm (a := trustpolicy.OptionAfterCertExpiry)]
  -- the two `generalize`s with `find?` use the same pattern and take the first occurrence left: `vn` is the hit of
  -- the valid-now loop and `rg` that of the range loop only because the valid-now loop comes first in the text; a
  -- source with the two loops in the other order fails at `saLoop_of_find hvn`
  generalize hvn : List.find? _ o.EnvelopeContent.SignerInfo.CertificateChain = vn
  generalize hrg : List.find? _ o.EnvelopeContent.SignerInfo.CertificateChain = rg
  generalize hex : List.any o.EnvelopeContent.SignerInfo.CertificateChain _ = ex
  rw [saLoop_of_find hvn (by bool_arith), rangeLoop_of_find hrg (by bool_arith), expiredLoop_of_any hex (by bool_arith)]
  generalize (C05.revocationFinalFor _ _).1 = fin
  cases e0 with
  | some e => rfl
  | none =>
    simp only [Option.isSome_none, Bool.false_eq_true, if_false]
    -- with the two early-return loops decided, `isSome` goes through the early exits and both sides become Boolean
    -- disjunctions over the same atoms
    cases vn <;> cases rg <;>
    simp only [
      Option.map_none, Option.map_some, apply_ite Option.isSome, Option.isSome_some, Option.isSome_none, ite_self,
      Bool.if_true_left, Bool.if_false_left, Bool.decide_eq_true,
      -- the atoms the two sides spell differently (emptiness tests either way round, `!=`, `!isNone`)
      GoLite.len_beq_zero, GoLite.zero_beq_len, isEmpty_eq_length_beq_zero, bne, Bool.not_not, Bool.not_and, Option.not_isNone,
      Bool.or_assoc, Bool.false_or, Bool.and_true, Bool.default_bool, Bool.or_false, Bool.or_true, Bool.true_or] <;>
    -- the finite rest: outcome of the aggregation, listing, option test, expiry flag
    cases fin <;> cases listed <;> cases sv.VerifyTimestamp == trustpolicy.OptionAfterCertExpiry <;> cases ex <;> rfl

/-- TIE: under notary.x509 the result of `verifyAuthenticTimestamp` carries the error of `verifyTimestamp` -/
theorem source_verifyAuthenticTimestamp_x509_refines_model (env : Env) (pn : String) (ts : List String)
    (sv : c06.SignatureVerification) (st : truststore.X509TrustStore) (r : revocation.Validator) (o : c06.VerificationOutcome)
    (hs : o.EnvelopeContent.SignerInfo.SignedAttributes.SigningScheme = signature.SigningSchemeX509) :
    (verifier.verifyAuthenticTimestamp env pn ts sv st r o).Error = verifier.verifyTimestamp env pn ts sv st r o := by
  unfold verifier.verifyAuthenticTimestamp
  simp only [Id.run]
  simp only [beq_iff_eq.2 hs, beq_iff_eq.2 hs.symm, if_true]
  rfl

/-- the scheme split, both halves together, in the model's terms -/
theorem source_verifyAuthenticTimestamp_refines_model (env : Env) (pn : String) (ts : List String)
    (sv : c06.SignatureVerification) (st : truststore.X509TrustStore) (r : revocation.Validator) (o : c06.VerificationOutcome) :
    (verifier.verifyAuthenticTimestamp env pn ts sv st r o).Error.isSome =
      if o.EnvelopeContent.SignerInfo.SignedAttributes.SigningScheme = signature.SigningSchemeX509 then
        match env.isTSATrustStoreInPolicy pn ts with
        | (_, some _) => true
        | (tsaListed, none) =>
          verifyTimestampWith env.Now.ns (chainOf o) tsaListed (optionOf sv.VerifyTimestamp) (stepsOf env pn ts st r o)
      else saLoop o.EnvelopeContent.SignerInfo.SignedAttributes.SigningTime.ns (chainOf o) := by
  by_cases hs : o.EnvelopeContent.SignerInfo.SignedAttributes.SigningScheme = signature.SigningSchemeX509
  · rw [source_verifyAuthenticTimestamp_x509_refines_model env pn ts sv st r o hs, source_verifyTimestamp_refines_model, if_pos hs]
  · rw [source_verifyAuthenticTimestamp_signingAuthority_refines_model env pn ts sv st r o hs, if_neg hs]

/-! non-vacuity: the translated functions on concrete inputs -/

private def lvl : trustpolicy.VerificationLevel := trustpolicy.LevelStrict
private def cert (nb na : Int) : c06.Certificate := ⟨⟨"c"⟩, ⟨nb⟩, ⟨na⟩⟩
private def outcomeOf (scheme : String) (signing expiry : Int) (chain : List c06.Certificate) (token : Bytes) :
    c06.VerificationOutcome :=
  ⟨⟨⟨⟨scheme, ⟨signing⟩, ⟨expiry⟩⟩, ⟨token⟩, chain, [1, 2, 3]⟩⟩, lvl⟩
/-- a TSA whose token verifies to a two-certificate chain at time 50, accuracy 1, under the root it is given -/
private def tokenOk : tspclient.SignedToken :=
  { info := (⟨fun m => (⟨⟨50⟩, 1⟩, if m = [1, 2, 3] then none else some ⟨"mismatch"⟩)⟩, none),
    verify := fun o => ([⟨⟨"tsa"⟩⟩, ⟨⟨"tsa root"⟩⟩], if o.Roots.certs = [⟨⟨"tsa root"⟩⟩] ∧ o.CurrentTime = ⟨50⟩ then none else some ⟨"untrusted"⟩) }
private def envAt (now : Int) (listed : Bool) : Env :=
  { Now := ⟨now⟩, isTSATrustStoreInPolicy := fun _ _ => (listed, none),
    loadX509TSATrustStores := fun _ _ _ _ => ([⟨⟨"tsa root"⟩⟩], none),
    ParseSignedToken := fun _ => (tokenOk, none), ValidateTimestampingCertChain := fun _ => none }
private def allOk : revocation.Validator :=
  ⟨fun o => (o.CertChain.map fun _ => some ⟨.ResultOK, [], .RevocationMethodUnknown⟩, none)⟩
private def leafRevoked : revocation.Validator :=
  ⟨fun _ => ([some ⟨.ResultRevoked, [], .RevocationMethodCRL⟩, some ⟨.ResultOK, [], .RevocationMethodUnknown⟩], none)⟩
/-- a validator that answers nil for the TSA root (and a result with a nil server result for the leaf) -/
private def rootNil : revocation.Validator :=
  ⟨fun _ => ([some ⟨.ResultOK, [none], .RevocationMethodOCSP⟩, none], none)⟩
private def serverNil : revocation.Validator :=
  ⟨fun o => (o.CertChain.map fun _ => some ⟨.ResultOK, [none], .RevocationMethodOCSP⟩, none)⟩
private def x509 := signature.SigningSchemeX509

-- expiry: equal to the clock fails, one nanosecond later passes, absent passes
example : (verifier.verifyExpiry (envAt 100 false) (outcomeOf x509 10 100 [] [])).Error.isSome = true := by decide +kernel
example : (verifier.verifyExpiry (envAt 100 false) (outcomeOf x509 10 101 [] [])).Error.isSome = false := by decide +kernel
example : (verifier.verifyExpiry (envAt 100 false) (outcomeOf x509 10 0 [] [])).Error.isSome = false := by decide +kernel
-- signing authority: the signing time against the windows, ends included
example : (verifier.verifyAuthenticTimestamp (envAt 1000 false) "p" [] ⟨""⟩ ⟨0⟩ allOk
    (outcomeOf "notary.x509.signingAuthority" 200 0 [cert 1 200, cert 200 300] [])).Error.isSome = false := by decide +kernel
example : (verifier.verifyAuthenticTimestamp (envAt 100 false) "p" [] ⟨""⟩ ⟨0⟩ allOk
    (outcomeOf "notary.x509.signingAuthority" 201 0 [cert 1 200, cert 200 300] [])).Error.isSome = true := by decide +kernel
-- x509, no tsa store: valid now or not
example : (verifier.verifyTimestamp (envAt 100 false) "p" [] ⟨"always"⟩ ⟨0⟩ allOk (outcomeOf x509 10 0 [cert 1 100] [])).isSome = false := by decide +kernel
example : (verifier.verifyTimestamp (envAt 101 false) "p" [] ⟨"always"⟩ ⟨0⟩ allOk (outcomeOf x509 10 0 [cert 1 100] [])).isSome = true := by decide +kernel
-- x509, tsa store listed: an expired chain passes with a good countersignature inside the window, fails when the
-- range touches outside, when the TSA certificate is revoked, and without countersignature
example : (verifier.verifyTimestamp (envAt 500 true) "p" [] ⟨"afterCertExpiry"⟩ ⟨0⟩ allOk (outcomeOf x509 10 0 [cert 49 51] [7])).isSome = false := by decide +kernel
example : (verifier.verifyTimestamp (envAt 500 true) "p" [] ⟨"afterCertExpiry"⟩ ⟨0⟩ allOk (outcomeOf x509 10 0 [cert 50 51] [7])).isSome = true := by decide +kernel
example : (verifier.verifyTimestamp (envAt 500 true) "p" [] ⟨"always"⟩ ⟨0⟩ leafRevoked (outcomeOf x509 10 0 [cert 49 51] [7])).isSome = true := by decide +kernel
example : (verifier.verifyTimestamp (envAt 50 true) "p" [] ⟨""⟩ ⟨0⟩ allOk (outcomeOf x509 10 0 [cert 49 51] [])).isSome = true := by decide +kernel
-- a nil entry in the TSA chain's revocation results fails closed; a nil server result inside an OK entry does not matter
example : (verifier.verifyTimestamp (envAt 500 true) "p" [] ⟨"always"⟩ ⟨0⟩ rootNil (outcomeOf x509 10 0 [cert 49 51] [7])).isSome = true := by decide +kernel
example : (verifier.verifyTimestamp (envAt 500 true) "p" [] ⟨"always"⟩ ⟨0⟩ serverNil (outcomeOf x509 10 0 [cert 49 51] [7])).isSome = false := by decide +kernel

end Tie

end NotationModel.C06
