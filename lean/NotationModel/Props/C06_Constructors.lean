/-
C06 / C05 - how the constructors wire the caller's revocation checkers: `(*verifier).setRevocation`
and the deprecated `NewWithOptions` (verifier/verifier.go), translated on every run
(Generated/SrcC06c.lean) and tied for every option value and every behaviour of notation-core-go's
`revocation.NewWithOptions`:

* a TIMESTAMPING validator the caller supplies is the one the verifier keeps - never replaced,
  never dropped; without one the stock checker for the timestamping purpose is built;
* a CODE-SIGNING validator the caller supplies is kept (and then no client); else a deprecated
  client the caller supplies is kept (and then no validator is built behind its back); else the
  stock checker for the code-signing purpose;
* the only error is an error of the stock constructor; everything else of the verifier is untouched;
* the deprecated `NewWithOptions` hands EVERY option on (it overwrites the two it takes as
  arguments and nothing else).
Together with `Props/C05_Revocation.lean` (the configured checker is the one consulted, with the
whole chain) this closes the path from the caller's option to the call. Seeded C05-4 and C06-16
(constructors dropping a supplied validator) break these theorems.
-/
import NotationModel.Generated.SrcC06c
set_option linter.unusedSimpArgs false

namespace NotationModel.C06.TieC
open NotationModel.Src NotationModel.Src.c06c

def stock (env : Env) (p : purpose.Purpose) : Option Validator × Option GoLite.Err :=
  env.NewWithOptions { OCSPHTTPClient := { Timeout := 2 * c06c.time.Second }, CertChainPurpose := p }

/-- the specification -/
def spec (env : Env) (v : verifier) (o : VerifierOptions) : Option GoLite.Err × verifier :=
  let ts : Option Validator × Option GoLite.Err :=
    match o.RevocationTimestampingValidator with
    | some t => (some t, none)
    | none => stock env .Timestamping
  match ts with
  | (_, some e) => (some e, v)
  | (t, none) =>
    let v1 := { v with revocationTimestampingValidator := t }
    match o.RevocationCodeSigningValidator, o.RevocationClient with
    | some c, _ => (none, { v1 with revocationCodeSigningValidator := some c })
    | none, some cl => (none, { v1 with revocationClient := some cl })
    | none, none =>
      match stock env .CodeSigning with
      | (_, some e) => (some e, v1)
      | (c, none) => (none, { v1 with revocationCodeSigningValidator := c })

/-- **Tie.** -/
theorem source_setRevocation_refines_spec (env : Env) (v : verifier) (o : VerifierOptions) :
    setRevocation env v o = spec env v o := by
  unfold setRevocation spec stock
  -- the two answers of the stock constructor and the three options decide every branch
  rcases env.NewWithOptions { OCSPHTTPClient := { Timeout := 2 * c06c.time.Second }, CertChainPurpose := .Timestamping }
    with ⟨t, _ | e⟩ <;>
  rcases env.NewWithOptions { OCSPHTTPClient := { Timeout := 2 * c06c.time.Second }, CertChainPurpose := .CodeSigning }
    with ⟨c, _ | e2⟩ <;>
  cases o.RevocationTimestampingValidator <;> cases o.RevocationCodeSigningValidator <;> cases o.RevocationClient <;> rfl

set_option linter.unusedVariables false in
/-- **A supplied timestamping validator is kept.** -/
theorem source_setRevocation_keeps_timestamping (env : Env) (v : verifier) (o : VerifierOptions) (t : Validator)
    (h : o.RevocationTimestampingValidator = some t) (hok : (setRevocation env v o).1 = none) :
    (setRevocation env v o).2.revocationTimestampingValidator = some t := by
  rw [source_setRevocation_refines_spec]
  unfold spec
  rw [h]
  rcases stock env purpose.CodeSigning with ⟨c, _ | e2⟩ <;>
  cases o.RevocationCodeSigningValidator <;> cases o.RevocationClient <;> rfl

/-- **A supplied code-signing validator is kept**, and it alone decides: no client is installed. -/
theorem source_setRevocation_keeps_codesigning (env : Env) (v : verifier) (o : VerifierOptions) (c : Validator)
    (h : o.RevocationCodeSigningValidator = some c) (hok : (setRevocation env v o).1 = none) :
    (setRevocation env v o).2.revocationCodeSigningValidator = some c ∧
      (setRevocation env v o).2.revocationClient = v.revocationClient := by
  rw [source_setRevocation_refines_spec] at hok ⊢
  unfold spec at hok ⊢
  rw [h] at hok ⊢
  -- with a timestamping validator supplied nothing can fail; without one the stock constructor may: `hok` rules it out
  revert hok
  cases o.RevocationTimestampingValidator with
  | some t => exact fun _ => ⟨rfl, rfl⟩
  | none =>
    rcases stock env purpose.Timestamping with ⟨t, _ | e⟩
    · exact fun _ => ⟨rfl, rfl⟩
    · intro hok; cases hok

/-- **A supplied deprecated client is kept when no validator is supplied**, and no validator is
built behind its back. -/
theorem source_setRevocation_keeps_client (env : Env) (v : verifier) (o : VerifierOptions) (cl : Client)
    (hc : o.RevocationCodeSigningValidator = none) (h : o.RevocationClient = some cl)
    (hok : (setRevocation env v o).1 = none) :
    (setRevocation env v o).2.revocationClient = some cl ∧
      (setRevocation env v o).2.revocationCodeSigningValidator = v.revocationCodeSigningValidator := by
  rw [source_setRevocation_refines_spec] at hok ⊢
  unfold spec at hok ⊢
  rw [h, hc] at hok ⊢
  revert hok
  cases o.RevocationTimestampingValidator with
  | some t => exact fun _ => ⟨rfl, rfl⟩
  | none =>
    rcases stock env purpose.Timestamping with ⟨t, _ | e⟩
    · exact fun _ => ⟨rfl, rfl⟩
    · intro hok; cases hok

/-- everything else of the verifier is untouched -/
theorem source_setRevocation_frame (env : Env) (v : verifier) (o : VerifierOptions) :
    (setRevocation env v o).2.ociTrustPolicyDoc = v.ociTrustPolicyDoc ∧
    (setRevocation env v o).2.blobTrustPolicyDoc = v.blobTrustPolicyDoc ∧
    (setRevocation env v o).2.trustStore = v.trustStore ∧
    (setRevocation env v o).2.pluginManager = v.pluginManager := by
  rw [source_setRevocation_refines_spec]
  unfold spec
  rcases stock env purpose.Timestamping with ⟨t, _ | e⟩ <;>
  rcases stock env purpose.CodeSigning with ⟨c, _ | e2⟩ <;>
  cases o.RevocationTimestampingValidator <;> cases o.RevocationCodeSigningValidator <;>
  cases o.RevocationClient <;> simp

/-- **The deprecated constructor hands every option on**: it is `NewVerifierWithOptions` on the
caller's options with the policy document and the plugin manager it takes as arguments. -/
theorem source_NewWithOptions_passes_every_option (env : Env) (doc : Option OCIDocument) (ts : Option TrustStore)
    (pm : Option PluginManager) (o : VerifierOptions) :
    NewWithOptions env doc ts pm o =
      env.NewVerifierWithOptions ts { o with OCITrustPolicy := doc, PluginManager := pm } := by
  simp [NewWithOptions, Id.run, GoLite.idPure]

end NotationModel.C06.TieC
