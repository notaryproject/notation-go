/-
C01 - Accepted signatures are intact and bound to the artifact being verified.
Property theorems only; the model is in `Model/C01.lean` (and `Model/C02.lean` for the
remaining validations of `processSignature`).
-/
import NotationModel.Model.C01
import NotationModel.Generated.SrcVerifier

namespace NotationModel.C01

/-- what an accepting run looks like -/
def okObs (i : Input) (p : Desc) : Obs :=
  { accepted := true, outcomeError := some false, payload := some p,
    returned := match i.kind with
      | .blob => some { p with annotations := [] }
      | .oci => if i.viaRegistry then some { i.artifact with annotations := [] } else none }

/-- the error of the late steps of `core`: another target, or required metadata that is not signed -/
def lateError (i : Input) (p : Desc) : Bool :=
  (match i.kind with
   | .oci => !ociEqual p i.artifact
   | .blob => blobMismatch p i.artifact) || (!i.required.isEmpty && !metadataOk p i.required)

theorem core_decoded (i : Input) (p : Desc) (hs : i.skip = false) (hp : i.parseOk = true) (hi : i.integrityOk = true)
    (ht : i.payloadTypeOk = true) (hr : i.rest = true) (hd : i.decoded = some p)
    (hh : i.kind = .blob → i.hashSupported = true) :
    core i = if lateError i p then reject else okObs i p := by
  have hh' : (i.kind == .blob && !i.hashSupported) = false := by
    cases hk : i.kind
    · rfl
    · simp [hh hk]
  simp only [core, hs, hp, hi, ht, hr, hd, hh', Bool.false_eq_true, if_false, Bool.not_true, Bool.or_self]
  -- what is left of `core` is the right-hand side with `lateError` and `okObs` written out
  rfl

/-- case analysis of `core` (verifier.Verify / notation.VerifyBlob) for a non-skip statement: either
it rejects, or every check passed -/
theorem core_cases (i : Input) (hs : i.skip = false) :
    core i = reject ∨
    (i.parseOk = true ∧ i.integrityOk = true ∧ i.payloadTypeOk = true ∧ i.rest = true ∧
      ∃ p, i.decoded = some p ∧ (i.kind = .blob → i.hashSupported = true) ∧
        (match i.kind with
         | .oci => ociEqual p i.artifact = true
         | .blob => blobMismatch p i.artifact = false) ∧
        metadataOk p i.required = true ∧
        core i = okObs i p) := by
  cases hp : i.parseOk
  · left; simp [core, hs, hp]
  cases hi : i.integrityOk
  · left; simp [core, hs, hi]
  cases ht : i.payloadTypeOk
  · left; simp [core, hs, ht]
  cases hr : i.rest
  · left; simp [core, hs, hp, hi, ht, hr]
  cases hd : i.decoded with
  | none => left; simp [core, hs, hp, hi, ht, hr, hd]
  | some p =>
    by_cases hh : i.kind = .blob → i.hashSupported = true
    · have hc := core_decoded i p hs hp hi ht hr hd hh
      cases hl : lateError i p
      · right
        rw [hl] at hc
        simp only [lateError, Bool.or_eq_false_iff, Bool.and_eq_false_iff, Bool.not_eq_false'] at hl
        refine ⟨rfl, rfl, rfl, rfl, p, rfl, hh, ?_, ?_, hc⟩
        · cases hk : i.kind <;> simpa [hk] using hl.1
        · -- no metadata required: `all` over the empty list
          exact hl.2.elim (fun h => by simp [metadataOk, List.isEmpty_iff.1 h]) id
      · left; rw [hc, hl]; rfl
    · left
      have : i.kind = .blob ∧ i.hashSupported = false := by simpa using hh
      simp [core, hs, hp, hi, ht, hr, hd, this.1, this.2]

theorem core_skip (i : Input) (hs : i.skip = true) :
    core i = { accepted := true, outcomeError := some false, payload := none, returned := none } := by
  simp [core, hs]

theorem core_consistent (i : Input) : (core i).outcomeError = some (!(core i).accepted) := by
  cases hs : i.skip
  · rcases core_cases i hs with h | ⟨_, _, _, _, _, _, _, _, _, h⟩ <;> rw [h] <;> rfl
  · rw [core_skip i hs]; rfl

/-- what `notation.Verify` has established before it hands a signature to the verifier (non-skip):
the reference resolved, and a digest reference names the digest of the resolved descriptor -/
theorem not_refused (i : Input) (hs : i.skip = false) (h : refused i = false) (hr : registry i = true) :
    i.resolveOk = true ∧ pinnedDigest i = i.artifact.digest := by
  unfold refused at h
  unfold pinnedDigest
  rw [hr] at h
  simp only [hr, if_true]
  cases hd : i.refDigest with
  | none => rw [hd] at h; simp at h; exact ⟨h, rfl⟩
  | some d =>
    rw [hd] at h
    simp only [hs, Bool.not_false, Bool.true_and, Bool.or_eq_false_iff, Bool.not_eq_false',
      bne_eq_false_iff_eq] at h
    exact ⟨h.1, by simp [h.2]⟩

/-- case analysis of `run`: it rejects, or nothing was refused in front of the verifier and every
check of the verifier passed -/
theorem run_cases (i : Input) (hs : i.skip = false) :
    run i = reject ∨
    (i.parseOk = true ∧ i.integrityOk = true ∧ i.payloadTypeOk = true ∧ i.rest = true ∧
      (registry i = true → i.resolveOk = true) ∧ pinnedDigest i = i.artifact.digest ∧
      ∃ p, i.decoded = some p ∧ (i.kind = .blob → i.hashSupported = true) ∧
        p.digest = i.artifact.digest ∧ p.size = i.artifact.size ∧
        (match i.kind with
         | .oci => p.mediaType = i.artifact.mediaType
         | .blob => i.artifact.mediaType = "" ∨ p.mediaType = i.artifact.mediaType) ∧
        (∀ kv ∈ i.required, p.annotations.lookup kv.1 = some kv.2) ∧
        run i = okObs i p) := by
  unfold run
  cases hf : refused i
  · simp only [Bool.false_eq_true, if_false]
    rcases core_cases i hs with h | ⟨h1, h2, h3, h4, p, hd, hh, hm, hmeta, hrun⟩
    · left; exact h
    · right
      refine ⟨h1, h2, h3, h4, ?_, ?_, p, hd, hh, ?_⟩
      · intro hr; exact (not_refused i hs hf hr).1
      · cases hr : registry i
        · simp [pinnedDigest, hr]
        · exact (not_refused i hs hf hr).2
      · have hmd : ∀ kv ∈ i.required, p.annotations.lookup kv.1 = some kv.2 :=
          fun kv hkv => by simpa using List.all_eq_true.1 hmeta kv hkv
        cases hk : i.kind <;> simp only [hk] at hm ⊢
        · simp only [ociEqual, Bool.and_eq_true, beq_iff_eq] at hm
          exact ⟨hm.1.2, hm.1.1, hm.2, hmd, hrun⟩
        · simp only [blobMismatch, Bool.or_eq_false_iff, bne_eq_false_iff_eq, Bool.and_eq_false_iff] at hm
          obtain ⟨⟨e1, e2⟩, e3⟩ := hm
          refine ⟨e1.symm, e2.symm, ?_, hmd, hrun⟩
          rcases e3 with e3 | e3
          · left; simpa using e3
          · right; exact (by simpa using e3 : i.artifact.mediaType = p.mediaType).symm
  · left; simp

/-- **C01, OCI**: whenever `verifier.Verify` - or `notation.Verify` in front of it - succeeds under a
level other than skip, the envelope parses, its signature is valid, the payload is a Notary payload
that decodes to a target equal to the descriptor under verification (digest, size, media type) AND
naming the digest the caller's reference pins, every required metadata pair is in the signed
annotations, and the payload reported is the signed one. -/
theorem ociAccept_sound (i : Input) (hk : i.kind = .oci) (hs : i.skip = false)
    (h : (run i).accepted = true) :
    i.parseOk = true ∧ i.integrityOk = true ∧ i.payloadTypeOk = true ∧ i.rest = true ∧
    ∃ p, i.decoded = some p ∧ (run i).payload = some p ∧
      p.digest = i.artifact.digest ∧ p.digest = pinnedDigest i ∧
      p.size = i.artifact.size ∧ p.mediaType = i.artifact.mediaType ∧
      ∀ kv ∈ i.required, p.annotations.lookup kv.1 = some kv.2 := by
  rcases run_cases i hs with hr | ⟨h1, h2, h3, h4, _, hpin, p, hd, _, e1, e2, e3, hmeta, hrun⟩
  · rw [hr] at h; simp [reject] at h
  · rw [hk] at e3
    exact ⟨h1, h2, h3, h4, p, hd, by rw [hrun]; rfl, e1, by rw [hpin]; exact e1, e2, e3, hmeta⟩

/-- **C01, registry**: when `notation.Verify` succeeds for a DIGEST reference under a level other
than skip, the accepted signature was made for the digest the reference names - whatever descriptor
the repository answered with - and the descriptor returned is that of the signed target. -/
theorem digest_reference_binds (i : Input) (d : String) (hk : i.kind = .oci) (hv : i.viaRegistry = true)
    (hs : i.skip = false) (hd : i.refDigest = some d) (h : (run i).accepted = true) :
    i.resolveOk = true ∧
    ∃ p, i.decoded = some p ∧ p.digest = d ∧ p.size = i.artifact.size ∧ p.mediaType = i.artifact.mediaType ∧
      (run i).returned = some { p with annotations := [] } := by
  have hreg : registry i = true := by simp [registry, hk, hv]
  rcases run_cases i hs with hr | ⟨_, _, _, _, hres, hpin, p, hp, _, e1, e2, e3, _, hrun⟩
  · rw [hr] at h; simp [reject] at h
  · rw [hk] at e3
    have hpd : pinnedDigest i = d := by simp [pinnedDigest, hreg, hd]
    refine ⟨hres hreg, p, hp, ?_, e2, e3, ?_⟩
    · rw [e1, ← hpin, hpd]
    · rw [hrun]
      simp [okObs, hk, hv, e1, e2, e3]

/-- **C01, registry**: a repository cannot redirect a digest reference: if `Resolve` answers with a
descriptor whose digest is not literally the one the reference names (another manifest, or a digest
of another algorithm), verification fails for EVERY envelope, level, trust store and plugin. -/
theorem redirected_digest_reference_rejected (i : Input) (d : String) (hk : i.kind = .oci)
    (hv : i.viaRegistry = true) (hs : i.skip = false) (hd : i.refDigest = some d)
    (hne : d ≠ i.artifact.digest) : (run i).accepted = false := by
  have hreg : registry i = true := by simp [registry, hk, hv]
  have : refused i = true := by
    simp [refused, hreg, hd, hs, hne]
  simp [run, this, reject]

/-- an unresolvable reference is never a success (under a non-skip level, or through a Verifier that
does not answer `SkipVerify`) -/
theorem unresolved_reference_rejected (i : Input) (hk : i.kind = .oci) (hv : i.viaRegistry = true)
    (hr : i.resolveOk = false) (hs : i.skip = false ∨ i.refDigest = none) : (run i).accepted = false := by
  have hreg : registry i = true := by simp [registry, hk, hv]
  have : refused i = true := by
    unfold refused
    rcases hs with hs | hs
    · cases hd : i.refDigest <;> simp [hreg, hr, hs]
    · simp [hreg, hr, hs]
  simp [run, this, reject]

/-- an honest repository is transparent: when the reference resolves to the descriptor it names,
`notation.Verify` decides exactly as `verifier.Verify` does for that descriptor -/
theorem honest_registry_transparent (i : Input) (hr : i.resolveOk = true)
    (hd : i.refDigest = none ∨ i.refDigest = some i.artifact.digest) : run i = core i := by
  have : refused i = false := by
    unfold refused
    rcases hd with hd | hd <;> simp [hd, hr]
  simp [run, this]

/-- **C01, blob**: the same for `notation.VerifyBlob`: digest and size always, the media type
whenever the caller states one; the descriptor returned is the verified target. -/
theorem blobAccept_sound (i : Input) (hk : i.kind = .blob) (hs : i.skip = false)
    (h : (run i).accepted = true) :
    i.parseOk = true ∧ i.integrityOk = true ∧ i.payloadTypeOk = true ∧ i.rest = true ∧
    i.hashSupported = true ∧
    ∃ p, i.decoded = some p ∧ (run i).payload = some p ∧
      p.digest = i.artifact.digest ∧ p.size = i.artifact.size ∧
      (i.artifact.mediaType = "" ∨ p.mediaType = i.artifact.mediaType) ∧
      (∀ kv ∈ i.required, p.annotations.lookup kv.1 = some kv.2) ∧
      (run i).returned = some { p with annotations := [] } := by
  rcases run_cases i hs with hr | ⟨h1, h2, h3, h4, _, _, p, hd, hh, e1, e2, e3, hmeta, hrun⟩
  · rw [hr] at h; simp [reject] at h
  · rw [hk] at e3
    exact ⟨h1, h2, h3, h4, hh hk, p, hd, by rw [hrun]; rfl, e1, e2, e3, hmeta, by rw [hrun]; simp [okObs, hk]⟩

/-- **C01, integrity cannot be overridden**: if the envelope does not parse, its signature is not
valid or the payload type is wrong, verification fails for EVERY remaining input - whatever the
other validations, the artifact, the reference, the repository, the metadata, the kind say (only a
skip statement accepts). -/
theorem integrity_not_overridable (i : Input) (hs : i.skip = false)
    (h : i.parseOk = false ∨ i.integrityOk = false ∨ i.payloadTypeOk = false) :
    (run i).accepted = false := by
  unfold run
  cases refused i
  · unfold core
    rcases h with h | h | h <;> simp [hs, h, reject]
  · simp [reject]

/-- The same statement composed with the model of `processSignature` (C02): for every scenario of
the remaining validations - every level, override, trust store content, plugin situation and
verdict - and EVERY enforcement map, a tampered envelope is rejected. -/
theorem integrity_not_overridable_by_level_or_plugin (i : Input) (s : C02.Input) (enf : C02.Enf)
    (hs : i.skip = false)
    (h : i.parseOk = false ∨ i.integrityOk = false ∨ i.payloadTypeOk = false) :
    (run { i with rest := (C02.process s enf).accepted }).accepted = false :=
  integrity_not_overridable _ hs h

/-- a descriptor mismatch survives satisfied metadata (the metadata step only ever sets the error) -/
theorem mismatch_survives_metadata (i : Input) (p : Desc) (hs : i.skip = false) (hk : i.kind = .oci)
    (hd : i.decoded = some p)
    (hm : p.digest ≠ i.artifact.digest ∨ p.size ≠ i.artifact.size ∨ p.mediaType ≠ i.artifact.mediaType) :
    (run i).accepted = false := by
  apply Bool.eq_false_iff.2
  intro hacc
  obtain ⟨_, _, _, _, q, hq, _, h1, _, h2, h3, _⟩ := ociAccept_sound i hk hs hacc
  rw [hd] at hq
  cases hq
  rcases hm with h | h | h <;> contradiction

/-- a missing or different metadata pair is never accepted - whatever the other pairs, keys and
values look like (the comparison is by key and by value, never by a joined text) -/
theorem missing_metadata_rejected (i : Input) (p : Desc) (hs : i.skip = false)
    (hd : i.decoded = some p) (kv : String × String) (hkv : kv ∈ i.required)
    (hmiss : p.annotations.lookup kv.1 ≠ some kv.2) : (run i).accepted = false := by
  rcases run_cases i hs with hr | ⟨_, _, _, _, _, _, q, hq, _, _, _, _, hall, _⟩
  · rw [hr]; rfl
  · rw [hd] at hq; cases hq
    exact absurd (hall kv hkv) hmiss

/-! ### what is not an input -/

/-- how the blob reader delivers its bytes, whether an approving identity plugin is involved and how
the repository part of the reference is spelled are not inputs of the decision -/
theorem concretisation_irrelevant (i : Input) (r f : String) (p : Bool) :
    run { i with reader := r, plugin := p, refForm := f } = run i := rfl

/-- **C01, large blobs**: how many bytes the reader delivers, and which size cap of the source tree that
number lies next to, are not inputs of the decision: the blob enters it only through `artifact`, the
descriptor (digest and size) of ALL the bytes delivered. There is no length from which on "the first
N bytes" stand for the blob. -/
theorem blob_length_irrelevant (i : Input) (n b : Nat) :
    run { i with blobLen := n, boundary := b } = run i := rfl

/-- **C01, large blobs**: when the descriptor under verification counts every byte the reader delivers
(what the harness presents: it hashes and counts the whole stream by its own route), an accepted
signature was made for a blob of exactly that many bytes with exactly that digest, and that is the
descriptor returned - whatever the length. A signature for a proper prefix of the stream (a signed
image to which bytes were appended) is never accepted. -/
theorem blobAccept_covers_every_delivered_byte (i : Input) (hk : i.kind = .blob) (hs : i.skip = false)
    (hwf : i.artifact.size = Int.ofNat i.blobLen) (h : (run i).accepted = true) :
    ∃ p, i.decoded = some p ∧ p.size = Int.ofNat i.blobLen ∧ p.digest = i.artifact.digest ∧
      (run i).returned = some { p with annotations := [] } := by
  obtain ⟨_, _, _, _, _, p, hd, _, e1, e2, _, _, hret⟩ := blobAccept_sound i hk hs h
  exact ⟨p, hd, by rw [e2, hwf], e1, hret⟩

/-- a signature made for the first `n` bytes of a longer stream is rejected: sizes differ -/
theorem prefix_signature_rejected (i : Input) (p : Desc) (hk : i.kind = .blob) (hs : i.skip = false)
    (hwf : i.artifact.size = Int.ofNat i.blobLen) (hd : i.decoded = some p)
    (hlt : p.size < Int.ofNat i.blobLen) : (run i).accepted = false := by
  apply Bool.eq_false_iff.2
  intro hacc
  obtain ⟨q, hq, hsz, _, _⟩ := blobAccept_covers_every_delivered_byte i hk hs hwf hacc
  rw [hd] at hq; cases hq
  rw [hsz] at hlt
  exact absurd hlt (Int.lt_irrefl _)

/-- outside the registry entry point the reference and the repository's answer are not inputs
either -/
theorem reference_irrelevant_outside_registry (i : Input) (hv : i.viaRegistry = false)
    (d : Option String) (ok : Bool) :
    run { i with refDigest := d, resolveOk := ok } = run i := by
  simp [run, core, refused, registry, hv]

/-- **C01, the whole property**: every clause of `Holds` is true of the model's behaviour. -/
theorem model_holds (i : Input) : Holds i (run i) = true := by
  unfold Holds clauses
  cases hs : i.skip
  · rcases run_cases i hs with hr | ⟨h1, h2, h3, h4, hres, hpin, p, hd, hh, e1, e2, e3, hmd, hrun⟩
    · simp [Clauses.holds, hr, reject]
    · cases hk : i.kind <;> rw [hk] at e3
      · simp only [registry, hk, beq_self_eq_true, Bool.true_and] at hres
        cases hv : i.viaRegistry <;>
          simp [Clauses.holds, hrun, okObs, h1, h2, h3, h4, hd, hk, e1, e2, e3, hpin, registry, hv, hres] <;>
          exact fun a b hab => hmd (a, b) hab
      · simp [Clauses.holds, hrun, okObs, h1, h2, h3, h4, hd, hk, e1, e2, hpin, registry]
        exact ⟨e3, fun a b hab => hmd (a, b) hab⟩
  · cases hf : refused i <;> simp [Clauses.holds, hs, run, core, hf, reject]

/-! ### non-vacuity -/

def sampleDesc : Desc := { mediaType := "m", digest := "sha256:aa", size := 3, annotations := [("k", "v")] }

def sampleInput : Input :=
  { kind := .oci, skip := false, parseOk := true, integrityOk := true, payloadTypeOk := true,
    rest := true, decoded := some sampleDesc, artifact := { sampleDesc with annotations := [] },
    hashSupported := true, required := [("k", "v")], reader := "", viaRegistry := false,
    refDigest := none, resolveOk := true, refForm := "", plugin := false,
    blobLen := 0, boundary := 0 }

/-- an accepted OCI verification with required metadata -/
example : (run sampleInput).accepted = true := by decide +kernel

/-- an accepted blob verification where the caller states no media type -/
example : (run { sampleInput with
      kind := .blob, artifact := { sampleDesc with mediaType := "", annotations := [] }, required := [] }).returned =
    some { sampleDesc with annotations := [] } := by
  decide +kernel

/-- `Holds` refutes an acceptance of a signature made for another artifact -/
example : Holds { sampleInput with decoded := some { sampleDesc with digest := "sha256:bb" }, required := [] }
    { accepted := true, outcomeError := some false, payload := some { sampleDesc with digest := "sha256:bb" },
      returned := none } = false := by decide +kernel

/-- registry: a digest reference that resolves to the descriptor it names is accepted and the
descriptor is returned -/
example : run { sampleInput with viaRegistry := true, refDigest := some "sha256:aa" } =
    { accepted := true, outcomeError := some false, payload := some sampleDesc,
      returned := some { sampleDesc with annotations := [] } } := by decide +kernel

/-- registry: the repository answers a `sha512` reference with the `sha256` descriptor of another,
validly signed manifest: refused by the model ... -/
example : (run { sampleInput with viaRegistry := true, refDigest := some "sha512:cc" }).accepted = false := by decide +kernel

/-- ... and `Holds` refutes an implementation that accepts it: the signed target is not the artifact
the reference pins -/
example : Holds { sampleInput with viaRegistry := true, refDigest := some "sha512:cc" }
    { accepted := true, outcomeError := some false, payload := some sampleDesc,
      returned := some { sampleDesc with annotations := [] } } = false := by decide +kernel

/-- `Holds` refutes an acceptance where a required key `labels=tier` is "found" by re-splitting the
signed pair (`labels`, `tier=gold`) -/
example : Holds { sampleInput with
      decoded := some { sampleDesc with annotations := [("labels", "tier=gold")] }, required := [("labels=tier", "gold")] }
    { accepted := true, outcomeError := some false,
      payload := some { sampleDesc with annotations := [("labels", "tier=gold")] }, returned := none } = false := by decide +kernel

/-- non-vacuity: a blob of 1 GiB + 1 bytes offered with a valid signature for its first 1 GiB: the model
rejects, and `Holds` refutes an implementation that accepts (and returns the signed prefix descriptor) -/
def prefixInput : Input :=
  { sampleInput with
      kind := .blob, required := [], blobLen := 1073741825, boundary := 1073741824,
      artifact := { mediaType := "", digest := "sha256:whole", size := 1073741825, annotations := [] },
      decoded := some { mediaType := "m", digest := "sha256:prefix", size := 1073741824, annotations := [] } }

example : (run prefixInput).accepted = false := by decide +kernel

example : Holds prefixInput
    { accepted := true, outcomeError := some false,
      payload := some { mediaType := "m", digest := "sha256:prefix", size := 1073741824, annotations := [] },
      returned := some { mediaType := "m", digest := "sha256:prefix", size := 1073741824, annotations := [] } } = false := by
  decide +kernel

/-- ... also when the implementation hashed the right bytes but compared only the digest (signed size
that of the prefix) -/
example : Holds { prefixInput with
      decoded := some { mediaType := "m", digest := "sha256:whole", size := 1073741824, annotations := [] } }
    { accepted := true, outcomeError := some false,
      payload := some { mediaType := "m", digest := "sha256:whole", size := 1073741824, annotations := [] },
      returned := some { mediaType := "m", digest := "sha256:whole", size := 1073741824, annotations := [] } } = false := by
  decide +kernel

/-- the blob of exactly 1 GiB with the signature made for it is accepted -/
example : (run { prefixInput with
      blobLen := 1073741824,
      artifact := { mediaType := "", digest := "sha256:prefix", size := 1073741824, annotations := [] } }).accepted = true := by
  decide +kernel

/-! ### tie to the translated source -/

namespace Tie
open NotationModel.Src

theorem lookup_eq (m : List (String × String)) (k v : String) :
    (!(GoLite.Map.lookup m k).2 || (GoLite.Map.lookup m k).1 != v) = !(List.lookup k m == some v) := by
  rw [GoLite.Map.lookup, GoLite.Map.get?_eq_lookup]
  cases List.lookup k m <;> simp [bne]

/-- the model's descriptor of a decoded payload -/
def descOf (p : envelope.Payload) : Desc :=
  { mediaType := p.TargetArtifact.MediaType, digest := p.TargetArtifact.Digest, size := p.TargetArtifact.Size,
    annotations := p.TargetArtifact.Annotations }

-- both orientations of the comparison are decided; the facts for the one the source does not use stay unused
set_option linter.unusedSimpArgs false in
/-- TIE (translated source): `verifier.verifyUserMetadata`, translated from verifier/verifier.go on
every run (`Generated/SrcVerifier.lean`), returns no error exactly when the model's `metadataOk`
holds - for every payload and every required-metadata map, in every iteration order. -/
theorem source_verifyUserMetadata_refines_model (p : envelope.Payload) (req : List (String × String)) :
    (verifier.verifyUserMetadata p req).isNone = metadataOk (descOf p) req := by
  show _ = req.all (fun kv => List.lookup kv.1 p.TargetArtifact.Annotations == some kv.2)
  unfold verifier.verifyUserMetadata
  simp only [Id.run]
  -- the loop returns at the first pair that is not among the annotations
  rw [GoLite.forIn_findReturn (fun kv => if List.lookup kv.1 p.TargetArtifact.Annotations == some kv.2 then none
        else some (some (GoLite.errT "notation.ErrorUserMetadataVerificationFailed" ""))) _ ?h, GoLite.findSome?_if_none]
  case h =>
    intro a t
    -- whatever shape the test has (one condition, two ifs, comma-ok or not): decide the lookup, then compute
    simp only [GoLite.Map.lookup, GoLite.Map.get?_eq_lookup]
    cases hl : List.lookup a.1 p.TargetArtifact.Annotations with
    | none => simp [hl, GoLite.errT]
    | some w =>
      by_cases hw : w = a.2
      · simp [hl, hw, GoLite.errT]
      · have hw' : (w == a.2) = false := by simpa using hw
        have hw2 : ¬ a.2 = w := fun e => hw e.symm
        have hw2' : (a.2 == w) = false := by simpa using hw2
        simp [hl, hw, hw', hw2, hw2', bne, GoLite.errT]
  cases req.all _ <;> rfl

theorem source_verifyUserMetadata_isSome (p : envelope.Payload) (req : List (String × String)) :
    (verifier.verifyUserMetadata p req).isSome = !metadataOk (descOf p) req := by
  rw [← source_verifyUserMetadata_refines_model]
  cases verifier.verifyUserMetadata p req <;> rfl

/-- non-vacuity: a required pair whose value differs is refused, a signed superset is accepted -/
example : (verifier.verifyUserMetadata
    { TargetArtifact := { MediaType := "m", Digest := "d", Size := 1, Annotations := [("team", "red"), ("stage", "prod")] } }
    [("team", "blue")]).isSome = true := by decide +kernel
example : (verifier.verifyUserMetadata
    { TargetArtifact := { MediaType := "m", Digest := "d", Size := 1, Annotations := [("team", "red"), ("stage", "prod")] } }
    [("stage", "prod")]).isNone = true := by decide +kernel

end Tie

end NotationModel.C01
