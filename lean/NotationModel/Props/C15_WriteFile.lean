/-
C15 - what `file.WriteFile` contributes to "byte-faithful bundles for the exact URL", read off the
tie of `Props/C14_WriteFile.lean` (the Go function translated on every run, every oracle):
a `Set` that reports success has written exactly the marshalled entry into a temp file of the
cache's root and renamed THAT file onto `root/hex(sha256(url))` - no other name was written or
renamed; a `Set` that reports an error has performed no successful rename at all.
(`./check C15` builds and audits every module `Props/C15_*.lean`: a change to `WriteFile` that breaks
these statements is reported for C15 as well as for C14.)
-/
import NotationModel.Props.C14_WriteFile

namespace NotationModel.C15.TieW
open NotationModel.Src NotationModel.Src.fsproto NotationModel.C14.Tie

/-- **A successful `Set` stored exactly its entry under exactly its name.** -/
theorem source_Set_success_writes_entry_to_its_path (env : crl.Env) (o : Oracle) (log0 : List Call)
    (c : crl.FileCache) (ctx : context.Context) (url : String) (bundle : Option corecrl.Bundle)
    (b : Src.Bytes) (d : Option Src.Bytes) (bytes : Src.Bytes)
    (hop : C15.Tie.opOf url bundle = .set url (some b) d)
    (hm : env.marshal (C15.Tie.contentOf b d) = .ok bytes)
    (hok : crl.FileCache.Set (envWith env o log0) c ctx url bundle = none) :
    protocolCalls o log0 c.root (C15.Tie.pathOf env c url) bytes =
      [Call.createTemp c.root "notation-*",
       Call.write ⟨o.tempName (log0 ++ [Call.createTemp c.root "notation-*"])⟩ bytes,
       Call.close ⟨o.tempName (log0 ++ [Call.createTemp c.root "notation-*"])⟩,
       Call.rename (o.tempName (log0 ++ [Call.createTemp c.root "notation-*"])) (C15.Tie.pathOf env c url)] := by
  rw [source_Set_runs_protocol env o log0 c ctx url bundle b d bytes hop hm] at hok
  rw [← source_WriteFile_refines_protocol] at hok
  exact (source_WriteFile_error_iff o log0 c.root (C15.Tie.pathOf env c url) bytes).1 hok

/-- **A `Set` that reports an error renamed nothing**: among the model events of its run there is no
`rename`, so (`C14.Tie.failure_keeps_every_key`) every entry of the cache is what it was. -/
theorem source_Set_failure_never_renames (env : crl.Env) (o : Oracle) (log0 : List Call)
    (c : crl.FileCache) (ctx : context.Context) (url : String) (bundle : Option corecrl.Bundle)
    (b : Src.Bytes) (d : Option Src.Bytes) (bytes : Src.Bytes)
    (hop : C15.Tie.opOf url bundle = .set url (some b) d)
    (hm : env.marshal (C15.Tie.contentOf b d) = .ok bytes)
    (herr : crl.FileCache.Set (envWith env o log0) c ctx url bundle ≠ none) (w t n w' : Nat) :
    ∃ evs, eventsOf o log0 c.root (C15.Tie.pathOf env c url) bytes w t n = some evs ∧
      C14.Event.rename w' ∉ evs := by
  refine ⟨_, protocol_calls_are_writer_steps o log0 c.root (C15.Tie.pathOf env c url) bytes w t n, ?_⟩
  apply failure_never_renames
  rw [source_Set_runs_protocol env o log0 c ctx url bundle b d bytes hop hm] at herr
  rw [← source_WriteFile_refines_protocol] at herr
  cases hs : succeeded (answersOf o log0 c.root (C15.Tie.pathOf env c url) bytes) with
  | false => rfl
  | true =>
    exact absurd ((source_WriteFile_result o log0 c.root (C15.Tie.pathOf env c url) bytes).2
      ((succeeded_iff _).1 hs)) herr

end NotationModel.C15.TieW
