/-
C01 - `verifyIntegrity` (verifier/verifier.go) translated on every run (Generated/SrcC01i.lean) and
tied for every behaviour of notation-core-go's envelope parser and of the envelope's own
verification:

* envelope content is handed on ONLY when the bytes parsed under the given media type, the
  envelope's own `Verify()` reported no error, and the payload's content type is the one the
  library signs (`application/vnd.cncf.notary.payload.v1+json`, the translated
  `ValidatePayloadContentType`); the content handed on is exactly what `Verify()` returned;
* in every other case there is NO content and the integrity result carries an error - whatever
  kind of error the library reported (the type switch only chooses how it is worded);
* the result carries type integrity and the action of the level.
-/
import NotationModel.Generated.SrcC01i

namespace NotationModel.C01.TieI
open NotationModel.Src

/-- what the three checks amount to: the content, if all of them pass -/
def intact (env : c01i.Env) (sigBlob : signer.Bytes) (mediaType : String) : Option signature.EnvelopeContent :=
  match env.ParseEnvelope mediaType sigBlob with
  | (_, some _) => none
  | (sigEnv, none) =>
    match (GoLite.deref sigEnv).Verify with
    | (_, some _) => none
    | (content, none) =>
      if (GoLite.deref content).Payload.ContentType == envelope.MediaTypePayloadV1 then content else none

theorem default_error : (default : «notation».ValidationResult).Error = none := rfl

/-- **Tie.** The content handed on is `intact`; the integrity result passes exactly when the three
checks passed. (A `Verify()` that reports no error and hands back NO content would make Go
dereference nil; `GoLite.deref` totalises that case - absence of panics is C12's business.) -/
theorem source_verifyIntegrity_refines_spec (env : c01i.Env) (sigBlob : signer.Bytes) (mediaType : String)
    (outcome : c01i.VerificationOutcome) :
    (c01i.verifyIntegrity env sigBlob mediaType outcome).1 = intact env sigBlob mediaType ∧
    ((c01i.verifyIntegrity env sigBlob mediaType outcome).2.Error = none ↔
      ∃ sigEnv content, env.ParseEnvelope mediaType sigBlob = (sigEnv, none) ∧
        (GoLite.deref sigEnv).Verify = (content, none) ∧
        (GoLite.deref content).Payload.ContentType = envelope.MediaTypePayloadV1) := by
  unfold c01i.verifyIntegrity intact
  cases hp : env.ParseEnvelope mediaType sigBlob with
  | mk sigEnv e1 =>
    cases e1 with
    | some e => simp [Id.run, GoLite.idPure]
    | none =>
      cases hv : (GoLite.deref sigEnv).Verify with
      | mk content e2 =>
        cases e2 with
        | some e =>
          cases h1 : c01i.isEnvelopeNotFound (some e) <;> cases h2 : c01i.isInvalidSignature (some e) <;>
            cases h3 : c01i.isIntegrityError (some e) <;>
            simp [Id.run, GoLite.idPure, hv, h1, h2, h3]
        | none =>
          by_cases hc : (GoLite.deref content).Payload.ContentType = envelope.MediaTypePayloadV1 <;>
            simp [Id.run, GoLite.idPure, hv, hc, envelope.ValidatePayloadContentType, default_error]

/-- **No content without integrity**: when the integrity result carries an error, nothing is handed on. -/
theorem source_verifyIntegrity_failure_hands_on_nothing (env : c01i.Env) (sigBlob : signer.Bytes)
    (mediaType : String) (outcome : c01i.VerificationOutcome)
    (h : (c01i.verifyIntegrity env sigBlob mediaType outcome).2.Error ≠ none) :
    (c01i.verifyIntegrity env sigBlob mediaType outcome).1 = none := by
  have ⟨h1, h2⟩ := source_verifyIntegrity_refines_spec env sigBlob mediaType outcome
  rw [h1]
  unfold intact
  cases hp : env.ParseEnvelope mediaType sigBlob with
  | mk sigEnv e1 =>
    cases e1 with
    | some e => simp
    | none =>
      cases hv : (GoLite.deref sigEnv).Verify with
      | mk content e2 =>
        cases e2 with
        | some e => simp [hv]
        | none =>
          by_cases hc : (GoLite.deref content).Payload.ContentType = envelope.MediaTypePayloadV1
          · exact absurd (h2.2 ⟨sigEnv, content, hp, hv, hc⟩) h
          · simp [hv, hc]

/-- the result carries type integrity and the action the level gives it -/
theorem source_verifyIntegrity_type_action (env : c01i.Env) (sigBlob : signer.Bytes) (mediaType : String)
    (outcome : c01i.VerificationOutcome) :
    (c01i.verifyIntegrity env sigBlob mediaType outcome).2.«Type» = trustpolicy.TypeIntegrity ∧
      (c01i.verifyIntegrity env sigBlob mediaType outcome).2.Action =
        GoLite.Map.get outcome.VerificationLevel.Enforcement trustpolicy.TypeIntegrity := by
  unfold c01i.verifyIntegrity
  simp only [Id.run, GoLite.idPure]
  repeat' split
  all_goals simp

end NotationModel.C01.TieI
