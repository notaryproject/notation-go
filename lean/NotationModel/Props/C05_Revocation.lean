/-
C05 - `(*verifier).verifyRevocation` (verifier/verifier.go) translated on every run
(Generated/SrcC05b.lean) and tied, for EVERY pair of configured checkers, every outcome and every
answer of the checkers, to what the property needs of it:

* the checker consulted is the one the caller supplied: the context-aware validator when there is
  one, else the deprecated client - never a different object, never both;
* it is consulted with the COMPLETE certificate chain of the signature and the authentic signing
  time (the zero time unless the scheme is signingAuthority);
* no checker at all, or a checker that reports an error, yields a FAILED revocation result
  (fail closed), carrying the action the level gives revocation;
* otherwise the result fails exactly when `revocationFinalResult` of the answers over the chain is
  not OK - and that function is tied to the model's aggregation for every result vector in
  `Props/C05.lean` (`source_revocationFinalResult_refines_model`), which `source_verifyRevocation_model`
  composes.
-/
import NotationModel.Props.C05
import NotationModel.Generated.SrcC05b
set_option linter.unusedSimpArgs false

namespace NotationModel.C05.TieV
open NotationModel.Src NotationModel.C05.Tie

/-- what a checker answers: one entry per certificate; an entry may be nil (`[]*CertRevocationResult`) -/
abbrev CRs := List (Option revocationresult.CertRevocationResult)

/-- the action the outcome's level gives the revocation validation -/
def actionOf (outcome : c05.VerificationOutcome) : trustpolicy.ValidationAction :=
  GoLite.Map.get outcome.VerificationLevel.Enforcement trustpolicy.TypeRevocation

def chainOf (outcome : c05.VerificationOutcome) : List x509.Certificate :=
  outcome.EnvelopeContent.SignerInfo.CertificateChain

/-- the signing time handed to the checker -/
def timeOf (outcome : c05.VerificationOutcome) : time.Time :=
  if outcome.EnvelopeContent.SignerInfo.SignedAttributes.SigningScheme == signature.SigningSchemeX509SigningAuthority
  then outcome.EnvelopeContent.SignerInfo.AuthenticSigningTime.1 else default

/-- what the supplied checker answers - `none`: there is no checker -/
def answerOf (v : c05.verifier) (outcome : c05.VerificationOutcome) : Option (CRs × Option GoLite.Err) :=
  match v.revocationCodeSigningValidator, v.revocationClient with
  | some val, _ => some (val.validate { CertChain := chainOf outcome, AuthenticSigningTime := timeOf outcome })
  | none, some c => some (c.validate (chainOf outcome) (timeOf outcome))
  | none, none => none

def failed (outcome : c05.VerificationOutcome) : «notation».ValidationResult :=
  { «Type» := trustpolicy.TypeRevocation, Action := actionOf outcome, Error := some ⟨"error"⟩ }

def passed (outcome : c05.VerificationOutcome) : «notation».ValidationResult :=
  { «Type» := trustpolicy.TypeRevocation, Action := actionOf outcome, Error := none }

/-- the specification -/
def spec (v : c05.verifier) (outcome : c05.VerificationOutcome) : «notation».ValidationResult :=
  match answerOf v outcome with
  | none => failed outcome
  | some (_, some _) => failed outcome
  | some (rs, none) =>
    if (verifier.revocationFinalResult rs (chainOf outcome)).1 == revocationresult.ResultOK then passed outcome
    else failed outcome

theorem default_error : (default : «notation».ValidationResult).Error = none := rfl

/-- core's `cond_eq_ite` read from right to left, for ANY instance of `Decidable (b = true)`: that is the point - after
it no `Decidable` instance is left whose argument `generalize` could fail to follow -/
theorem ite_eq_cond {α : Type} (b : Bool) [inst : Decidable (b = true)] (x y : α) :
    @ite α (b = true) inst x y = cond b x y := by
  cases b <;> simp

/-- **Tie.** The translated `verifyRevocation` is the specification, for every verifier, outcome
and checker behaviour. -/
theorem source_verifyRevocation_refines_spec (v : c05.verifier) (outcome : c05.VerificationOutcome) :
    c05v.verifyRevocation v outcome = spec v outcome := by
  obtain ⟨val, cl⟩ := v
  unfold c05v.verifyRevocation spec answerOf timeOf chainOf
  simp only [ite_eq_cond, BEq.comm (a := signature.SigningSchemeX509SigningAuthority)]
  -- the scheme test and the two configured checkers decide which call is made ...
  cases outcome.EnvelopeContent.SignerInfo.SignedAttributes.SigningScheme == signature.SigningSchemeX509SigningAuthority <;>
  rcases val with _ | va <;> rcases cl with _ | c <;>
  simp only [Id.run, GoLite.deref, Option.getD_some, c05.Client.Validate, revocation.Validator.ValidateContext,
    GoLite.idPure, cond_true, cond_false, Option.isNone_none, Option.isNone_some, Option.isSome_some, Option.isSome_none,
    Bool.and_false, Bool.false_and, Bool.and_self]
  -- goals are tagged <scheme test>.<validator>.<client>; no checker at all:
  case false.none.none | true.none.none => rfl
  -- ... and its answer and the final result over the chain decide the rest; only a client:
  case false.none.some | true.none.some =>
    generalize c.validate _ _ = ans
    rcases ans with ⟨rs, _ | e⟩
    · simp only []
      generalize (verifier.revocationFinalResult rs _).fst = f
      cases f <;> rfl
    · rfl
  -- a validator (with or without a client)
  all_goals
    generalize va.validate _ = ans
    rcases ans with ⟨rs, _ | e⟩
    · simp only []
      generalize (verifier.revocationFinalResult rs _).fst = f
      cases f <;> rfl
    · rfl

/-- **Fail closed**: without a checker, or when the checker reports an error, the result is a failure. -/
theorem source_verifyRevocation_fails_closed (v : c05.verifier) (outcome : c05.VerificationOutcome)
    (h : answerOf v outcome = none ∨ ∃ rs e, answerOf v outcome = some (rs, some e)) :
    (c05v.verifyRevocation v outcome).Error.isSome := by
  rw [source_verifyRevocation_refines_spec]
  unfold spec
  rcases h with h | ⟨rs, e, h⟩ <;> simp [h, failed]

/-- **The supplied validator decides, alone**: when a context-aware validator is configured the
deprecated client is never consulted - the result does not depend on it. -/
theorem source_verifyRevocation_validator_first (val : revocation.Validator) (c1 c2 : Option c05.Client)
    (outcome : c05.VerificationOutcome) :
    c05v.verifyRevocation ⟨some val, c1⟩ outcome = c05v.verifyRevocation ⟨some val, c2⟩ outcome := by
  simp [source_verifyRevocation_refines_spec, spec, answerOf]

/-- **The whole chain is checked**: the result passes exactly when the checker answered without
an error and the MODEL's aggregation of its answers over the complete chain is OK - a nil answer
for a certificate counting as `unknown` (`resOf`), so a vector with a nil entry never passes
(composition with `source_revocationFinalResult_refines_model`). -/
theorem source_verifyRevocation_model (v : c05.verifier) (outcome : c05.VerificationOutcome) :
    (c05v.verifyRevocation v outcome).Error = none ↔
      ∃ rs, answerOf v outcome = some (rs, none) ∧
        (revocationFinalFor (chainOf outcome).length (rs.map resOf)).1 = .ok := by
  rw [source_verifyRevocation_refines_spec]
  unfold spec
  cases ha : answerOf v outcome with
  | none => simp [failed]
  | some p =>
    obtain ⟨rs, e⟩ := p
    cases e with
    | some e => simp [failed]
    | none =>
      simp only [source_revocationFinalResult_refines_model]
      cases hf : (revocationFinalFor (chainOf outcome).length (rs.map resOf)).1 <;>
        simp [hf, passed, failed, ofFinal]

/-- **A nil entry fails closed**: a checker that answers, without an error, a vector holding a nil
entry yields a FAILED revocation result - whatever the other entries say. -/
theorem source_verifyRevocation_nil_entry_fails (v : c05.verifier) (outcome : c05.VerificationOutcome)
    (rs : CRs) (ha : answerOf v outcome = some (rs, none)) (hn : none ∈ rs) :
    (c05v.verifyRevocation v outcome).Error.isSome := by
  cases he : (c05v.verifyRevocation v outcome).Error with
  | some e => rfl
  | none =>
    exfalso
    obtain ⟨rs', ha', hok⟩ := (source_verifyRevocation_model v outcome).1 he
    obtain rfl : rs = rs' := (Prod.mk.inj (Option.some.inj (ha.symm.trans ha'))).1
    have hall := List.all_eq_true.1 ((finalFor_ok_iff _ _).1 hok).2 _ (List.mem_map_of_mem hn)
    exact Bool.noConfusion hall

/-- every result carries type revocation and the action of the level -/
theorem source_verifyRevocation_type_action (v : c05.verifier) (outcome : c05.VerificationOutcome) :
    (c05v.verifyRevocation v outcome).«Type» = trustpolicy.TypeRevocation ∧
      (c05v.verifyRevocation v outcome).Action = actionOf outcome := by
  rw [source_verifyRevocation_refines_spec]
  unfold spec
  repeat' split
  all_goals simp [failed, passed]

end NotationModel.C05.TieV
