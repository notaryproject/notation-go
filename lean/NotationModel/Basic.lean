/-
Common definitions for the notation-go model: text as `List Char` (with the lemmas that compare
strings through their characters and read a literal's characters off), the clause-list form of a
property (`Clauses`, with the lemmas that fetch one clause), and the JSON judge used by the driver.
Core Lean only (the driver is a compiled executable; nothing here may import Mathlib).
-/
import Lean.Data.Json
open Lean

namespace NotationModel

/-- Text whose structure matters is a list of characters. -/
abbrev Text := List Char

instance (priority := high) instFromJsonText : FromJson (List Char) :=
  ⟨fun j => do let s ← j.getStr?; pure s.toList⟩
instance (priority := high) instToJsonText : ToJson (List Char) :=
  ⟨fun t => Json.str (String.ofList t)⟩

/-- The characters of a string literal, read off instead of computed. To the kernel a literal IS
`String.ofList` of its characters, whereas evaluating `String.toList` on it encodes them as UTF-8 and
decodes again, at a cost quadratic in the length; a test vector full of `"..".toList` is evaluated
cheaply after `simp only [toList_lit]`. `no_index` lets `simp` try the lemma on a literal. -/
theorem toList_lit (l : List Char) : String.toList (no_index (String.ofList l)) = l := String.toList_ofList

/-! Comparisons of the source's strings and of the model's `Text`s say the same. -/

theorem beq_toList (s t : String) : (s.toList == t.toList) = (s == t) :=
  Bool.eq_iff_iff.2 (by rw [beq_iff_eq, beq_iff_eq, String.toList_inj])

theorem beq_ofList (s : String) (l : List Char) : (s == String.ofList l) = (s.toList == l) := by
  rw [← beq_toList, String.toList_ofList]

theorem beq_empty (s : String) : (s == "") = s.toList.isEmpty := by
  rw [← beq_toList]; cases s.toList <;> rfl

theorem contains_toList (l : List String) (s : String) : (l.map String.toList).contains s.toList = l.contains s := by
  induction l with
  | nil => rfl
  | cons a l ih => rw [List.map_cons, List.contains_cons, List.contains_cons, ih, beq_toList]

/-- A property over observables is a list of named boolean clauses. -/
abbrev Clauses := List (String × Bool)

def Clauses.holds (c : Clauses) : Bool := c.all (·.2)
def Clauses.failed (c : Clauses) : List String := (c.filter (fun x => !x.2)).map (·.1)

theorem Clauses.holds_cons (n : String) (b : Bool) (c : Clauses) :
    Clauses.holds ((n, b) :: c) = (b && Clauses.holds c) := by
  simp [Clauses.holds]

theorem Clauses.holds_nil : Clauses.holds [] = true := rfl

theorem Clauses.holds_append (a b : Clauses) : (a ++ b).holds = (a.holds && b.holds) := List.all_append

/-- a clause of a property that holds: the `k`-th, named `n` (by position: looking a name up compares strings, which
is dear to evaluate) -/
theorem Clauses.holds_at {c : Clauses} (h : c.holds = true) (k : Nat) (n : String) {b : Bool}
    (hk : c[k]? = some (n, b)) : b = true :=
  List.all_eq_true.1 h _ (List.mem_of_getElem? hk)

/-- a property fails as soon as one of its clauses (here: the `k`-th, named `n`) is false -/
theorem Clauses.not_holds_at {c : Clauses} (k : Nat) (n : String) (h : c[k]? = some (n, false)) : c.holds = false := by
  simp only [Clauses.holds, List.all_eq_false]
  exact ⟨_, List.mem_of_getElem? h, by simp⟩

/-- One line of the correspondence check: `{"input":…, "obs":…}` in, verdict out.
`agree`: the implementation's observation equals the model's;
`holds`: the property's clauses are all true of the implementation's observation. -/
def judgeWith {I O : Type} [FromJson I] [FromJson O] [ToJson O] [BEq O]
    (run : I → O) (clauses : I → O → Clauses) (j : Json) : Except String Json := do
  let i ← (j.getObjVal? "input") >>= fromJson? (α := I)
  let o ← (j.getObjVal? "obs") >>= fromJson? (α := O)
  let m := run i
  let cl := clauses i o
  let agree := m == o
  let base : List (String × Json) := [("agree", toJson agree), ("holds", toJson cl.holds)]
  let extra : List (String × Json) :=
    (if agree then [] else [("model", toJson m)]) ++
    (if cl.holds then [] else [("failed", toJson cl.failed)])
  return Json.mkObj (base ++ extra)

end NotationModel
