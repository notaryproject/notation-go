/-
Lean counterparts of what the translated functions of the C18 tie mention
(`Generated/SrcC18.lean` package signer, `SrcC18b.lean` package envelope, `SrcC18c.lean` package proto).

ORACLES (everything that is a library call or I/O; the tie theorems hold for EVERY choice):
* `signer.World.UnmarshalMap`     - `json.Unmarshal(content, &map[string]interface{})` (old value, new value + error)
* `signer.World.UnmarshalPayload` - `json.Unmarshal(content, &envelope.Payload)`       (old value, new value + error)
* `signer.World.ParseEnvelope`    - `signature.ParseEnvelope` of notation-core-go; the parsed envelope carries its
                                     `Verify` result as a field
* `signer.World.findDuplicateKey` - the token walk of signer/plugin.go (a loop over json.Decoder tokens; modelled as
                                     `JVal.dupDeep`, tied by the correspondence run, not by translation)
* `content.Equal` (oras-go/v2/content) is hand-written here as its three field comparisons (library, trusted).
* `signature.KeyTypeRSA/EC`, `signature.KeySpec`, `signature.Payload` (notation-core-go) and the names of
  notation-plugin-framework-go's wire constants are hand-written; the VALUES of the latter are checked against the
  constants regenerated from the framework's source (`Facts.c18WireConstants`, theorem `Tie.wire_constants_fact`).
-/
import NotationModel.Src.Types
import NotationModel.Generated.C18

/-! `delete(m, k)` of the translator's run-time, with what the ties need of it -/
namespace GoLite
namespace Map
/-- `delete(m, k)` -/
def erase [BEq κ] (m : Map κ ν) (k : κ) : Map κ ν := m.filter (fun p => !(p.1 == k))
theorem mem_erase [BEq κ] (m : Map κ ν) (k : κ) (p : κ × ν) : p ∈ erase m k ↔ p ∈ m ∧ (p.1 == k) = false := by
  simp [erase]
theorem keys_erase [BEq κ] (m : Map κ ν) (k : κ) : (erase m k).map (·.1) = (m.map (·.1)).filter (· != k) := by
  rw [erase, List.filter_map]; rfl
/-- `delete(m, k)` for every `k` of a list leaves the keys that are not in the list -/
theorem keys_foldl_erase [BEq κ] (ks : List κ) (m : Map κ ν) :
    (ks.foldl erase m).map (·.1) = (m.map (·.1)).filter (fun x => !ks.contains x) := by
  induction ks generalizing m with
  | nil => exact (List.filter_eq_self.2 fun _ _ => rfl).symm
  | cons k ks ih =>
    rw [List.foldl_cons, ih, keys_erase, List.filter_filter]
    simp only [List.contains_cons, Bool.not_or, Bool.and_comm, bne]
end Map
end GoLite

namespace NotationModel.Src

/- oras.land/oras-go/v2/content -/
namespace content
/-- `content.Equal`: same size, digest and media type (annotations are NOT compared) -/
def Equal (a b : ocispec.Descriptor) : Bool := a.Size == b.Size && a.Digest == b.Digest && a.MediaType == b.MediaType
end content

/- notation-core-go/signature -/
namespace signature
inductive KeyType | none | KeyTypeRSA | KeyTypeEC
  deriving DecidableEq, Repr, Inhabited
export KeyType (KeyTypeRSA KeyTypeEC)
instance : Inhabited KeyType := ⟨KeyType.none⟩
structure KeySpec where
  «Type» : KeyType
  Size : Int
  deriving DecidableEq, Repr
instance : Inhabited KeySpec := ⟨⟨KeyType.none, 0⟩⟩
end signature

/- notation-plugin-framework-go/plugin (named string types) -/
namespace plugin
def KeySpecRSA2048 : String := "RSA-2048"
def KeySpecRSA3072 : String := "RSA-3072"
def KeySpecRSA4096 : String := "RSA-4096"
def KeySpecEC256 : String := "EC-256"
def KeySpecEC384 : String := "EC-384"
def KeySpecEC521 : String := "EC-521"
def HashAlgorithmSHA256 : String := "SHA-256"
def HashAlgorithmSHA384 : String := "SHA-384"
def HashAlgorithmSHA512 : String := "SHA-512"
/-- the hand-written constants by name, to be compared with `Facts.c18WireConstants` -/
def wireConstants : List (String × String) :=
  [("KeySpecRSA2048", KeySpecRSA2048), ("KeySpecRSA3072", KeySpecRSA3072), ("KeySpecRSA4096", KeySpecRSA4096),
   ("KeySpecEC256", KeySpecEC256), ("KeySpecEC384", KeySpecEC384), ("KeySpecEC521", KeySpecEC521),
   ("HashAlgorithmSHA256", HashAlgorithmSHA256), ("HashAlgorithmSHA384", HashAlgorithmSHA384),
   ("HashAlgorithmSHA512", HashAlgorithmSHA512)]
end plugin

namespace signer

/-- payload / envelope bytes (opaque: only handed to oracles and back) -/
abbrev Bytes := String

/-- what `json.Unmarshal` puts behind an `interface{}` -/
inductive JAny where
  | null | bool (b : Bool) | num (n : Int) | str (s : String)
  | arr (xs : List JAny) | obj (m : List (String × JAny))
  deriving Repr, Inhabited

/-- `v.(map[string]interface{})` in its checked two-value form -/
def JAny.asObj : JAny → GoLite.Map String JAny × Bool
  | .obj m => (m, true)
  | _ => ([], false)

end signer

namespace signature
structure Payload where
  ContentType : String
  Content : signer.Bytes
  deriving DecidableEq, Repr, Inhabited
/-- opaque but for an identity -/
structure SignerInfo where
  id : Nat
  deriving DecidableEq, Repr, Inhabited
structure EnvelopeContent where
  Payload : Payload
  SignerInfo : SignerInfo
  deriving DecidableEq, Repr, Inhabited
/-- a parsed envelope: `Verify()` is a field (oracle) -/
structure Envelope where
  Verify : EnvelopeContent × Option GoLite.Err
  deriving Inhabited
end signature

namespace «notation»
structure SignerSignOptions where
  SignatureMediaType : String
  deriving DecidableEq, Repr, Inhabited
end «notation»

namespace plugin
structure GenerateEnvelopeRequest where
  SignatureEnvelopeType : String
  deriving DecidableEq, Repr, Inhabited
structure GenerateEnvelopeResponse where
  SignatureEnvelope : signer.Bytes
  SignatureEnvelopeType : String
  Annotations : GoLite.Map String String
  deriving DecidableEq, Repr, Inhabited
end plugin

namespace signer
/-- the oracles of the signer's checks -/
structure World where
  UnmarshalMap : Bytes → GoLite.Map String JAny → GoLite.Map String JAny × Option GoLite.Err
  UnmarshalPayload : Bytes → envelope.Payload → envelope.Payload × Option GoLite.Err
  ParseEnvelope : String → Bytes → signature.Envelope × Option GoLite.Err
  findDuplicateKey : Bytes → String × Bool
end signer

end NotationModel.Src
