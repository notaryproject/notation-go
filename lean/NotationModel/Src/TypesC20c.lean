/-
Hand-written Lean counterparts of what the translated `file.CopyToDir` (`Generated/SrcC20c.lean`,
written by extract/go2lean_fs.go on every run) mentions. As in `Src/TypesC14.lean` the translated
function is a program over a LOG of operating-system calls answered by an arbitrary oracle that
sees the whole log: whether the call fails, what `os.Stat` reports (a mode: `regular` flag and
permission bits). File handles are their names. Core Lean only.
-/
import NotationModel.GoLite

namespace NotationModel.Src
namespace copyproto

/-- `fs.FileMode` as far as `CopyToDir` looks: is it a regular file, and the permission bits -/
structure FileMode where
  regular : Bool
  perm : Nat
  deriving DecidableEq, Repr, Inhabited

structure FileInfo where
  mode : FileMode
  deriving DecidableEq, Repr, Inhabited

def FileInfo.Mode (i : FileInfo) : FileMode := i.mode
def FileMode.IsRegular (m : FileMode) : Bool := m.regular

/-- `m & os.FileMode(bits)`: the permission bits masked (type bits are above 0777 and are cleared by a mask below it) -/
def bitAnd (m mask : FileMode) : FileMode := { regular := false, perm := m.perm &&& mask.perm }

structure File where
  name : String
  deriving DecidableEq, Repr, Inhabited

inductive Call
  | stat (path : String)
  | open_ (path : String)
  | mkdirAll (path : String) (perm : Int)
  | create (path : String)
  | chmod (f : File) (mode : FileMode)
  | copy (dst src : File)
  | close (f : File)
  deriving DecidableEq, Repr

structure Oracle where
  fault : List Call → Option GoLite.Err
  statMode : List Call → FileMode

def CP (α : Type) : Type := Oracle → List Call → α × List Call

instance : Monad CP where
  pure a := fun _ l => (a, l)
  bind m f := fun o l => f (m o l).1 o (m o l).2
  map f m := fun o l => (f (m o l).1, (m o l).2)

@[simp] theorem CP.pure_apply {α : Type} (a : α) (o : Oracle) (l : List Call) :
    (pure a : CP α) o l = (a, l) := rfl
@[simp] theorem CP.bind_apply {α β : Type} (m : CP α) (f : α → CP β) (o : Oracle) (l : List Call) :
    (m >>= f) o l = f (m o l).1 o (m o l).2 := rfl
@[simp] theorem CP.map_apply {α β : Type} (f : α → β) (m : CP α) (o : Oracle) (l : List Call) :
    (f <$> m) o l = (f (m o l).1, (m o l).2) := rfl
@[simp] theorem CP.ite_apply {α : Type} (c : Prop) [Decidable c] (a b : CP α) (o : Oracle) (l : List Call) :
    (if c then a else b) o l = if c then a o l else b o l := by split <;> rfl
@[simp] theorem CP.discard_apply {α : Type} (m : CP α) (o : Oracle) (l : List Call) :
    (discard m) o l = ((), (m o l).2) := rfl

def perform (c : Call) : CP (Option GoLite.Err) := fun o l => (o.fault (l ++ [c]), l ++ [c])

def ErrNotRegularFile : GoLite.Err := ⟨"file.ErrNotRegularFile"⟩

namespace os
def FileMode (bits : Int) : copyproto.FileMode := { regular := false, perm := bits.toNat }
def Stat (path : String) : CP (FileInfo × Option GoLite.Err) := fun o l =>
  let l' := l ++ [.stat path]
  match o.fault l' with
  | some e => ((default, some e), l')
  | none => ((⟨o.statMode l'⟩, none), l')
def Open (path : String) : CP (File × Option GoLite.Err) := fun o l =>
  let l' := l ++ [.open_ path]
  match o.fault l' with
  | some e => ((default, some e), l')
  | none => ((⟨path⟩, none), l')
def MkdirAll (path : String) (perm : Int) : CP (Option GoLite.Err) := perform (.mkdirAll path perm)
def Create (path : String) : CP (File × Option GoLite.Err) := fun o l =>
  let l' := l ++ [.create path]
  match o.fault l' with
  | some e => ((default, some e), l')
  | none => ((⟨path⟩, none), l')
end os

namespace io
def Copy (dst src : File) : CP (Int × Option GoLite.Err) := fun o l =>
  ((0, o.fault (l ++ [.copy dst src])), l ++ [.copy dst src])
end io

namespace filepath
/-- `filepath.Base`: what follows the last `/` (differs from Go on a path with a trailing slash: Go strips it first) -/
def Base (p : String) : String := String.ofList ((p.toList.reverse.takeWhile (· != '/')).reverse)
def Join (a b : String) : String := String.ofList (a.toList ++ '/' :: b.toList)
end filepath

def File.Close (f : File) : CP (Option GoLite.Err) := perform (.close f)
def File.Chmod (f : File) (m : FileMode) : CP (Option GoLite.Err) := perform (.chmod f m)

def runCP {α : Type} (m : CP α) (o : Oracle) (log : List Call := []) : α × List Call := m o log

/-! Running a `CP` program symbolically: re-associate binds until an operating-system call is in front;
such a call followed by its continuation is one step. -/

theorem CP.bind_assoc {α β γ : Type} (m : CP α) (f : α → CP β) (g : β → CP γ) :
    (m >>= f) >>= g = m >>= fun a => f a >>= g := rfl
theorem CP.pure_bind {α β : Type} (a : α) (f : α → CP β) : pure a >>= f = f a := rfl
theorem CP.ite_bind {α β : Type} (c : Prop) [Decidable c] (a b : CP α) (f : α → CP β) :
    (if c then a else b) >>= f = if c then a >>= f else b >>= f := by split <;> rfl
theorem CP.discard_bind {α β : Type} (m : CP α) (f : Unit → CP β) : discard m >>= f = m >>= fun _ => f () := rfl

theorem perform_bind {β : Type} (c : Call) (k : Option GoLite.Err → CP β) (o : Oracle) (l : List Call) :
    (perform c >>= k) o l = k (o.fault (l ++ [c])) o (l ++ [c]) := rfl

theorem os.Stat_bind {β : Type} (p : String) (k : FileInfo × Option GoLite.Err → CP β) (o : Oracle) (l : List Call) :
    (os.Stat p >>= k) o l =
      match o.fault (l ++ [.stat p]) with
      | some e => k (default, some e) o (l ++ [.stat p])
      | none => k (⟨o.statMode (l ++ [.stat p])⟩, none) o (l ++ [.stat p]) := by
  simp only [CP.bind_apply, os.Stat]
  cases o.fault (l ++ [.stat p]) <;> rfl

theorem os.Open_bind {β : Type} (p : String) (k : File × Option GoLite.Err → CP β) (o : Oracle) (l : List Call) :
    (os.Open p >>= k) o l =
      match o.fault (l ++ [.open_ p]) with
      | some e => k (default, some e) o (l ++ [.open_ p])
      | none => k (⟨p⟩, none) o (l ++ [.open_ p]) := by
  simp only [CP.bind_apply, os.Open]
  cases o.fault (l ++ [.open_ p]) <;> rfl

theorem os.Create_bind {β : Type} (p : String) (k : File × Option GoLite.Err → CP β) (o : Oracle) (l : List Call) :
    (os.Create p >>= k) o l =
      match o.fault (l ++ [.create p]) with
      | some e => k (default, some e) o (l ++ [.create p])
      | none => k (⟨p⟩, none) o (l ++ [.create p]) := by
  simp only [CP.bind_apply, os.Create]
  cases o.fault (l ++ [.create p]) <;> rfl

theorem io.Copy_bind {β : Type} (d s : File) (k : Int × Option GoLite.Err → CP β) (o : Oracle) (l : List Call) :
    (io.Copy d s >>= k) o l = k (0, o.fault (l ++ [.copy d s])) o (l ++ [.copy d s]) := rfl


end copyproto
end NotationModel.Src
