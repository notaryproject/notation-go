/-
Lean counterparts of what the translated functions of the C17 tie mention
(`Generated/SrcC17.lean`: package plugin; `Generated/SrcC17b.lean`: package internal/io).

ORACLES (the tie theorems hold for EVERY choice of them):
* `io.Writer.Write` - the underlying writer of a `LimitedWriter`: a field holding any function from the
  bytes it is handed to (count, error);
* `json.Target α` - `json.Unmarshal(data, &v)` for a value of type α: any function from the bytes and the
  old value to the new value and an error (so also `proto.RequestError.UnmarshalJSON`, which decides
  what an "incomplete" error object is, is inside this oracle);
* `runO` (parameter of the translated `CLIPlugin.GetMetadata`) - `run`: process, pipes, decoding into
  `&metadata`.
Error values carry their kind only (GoLite.Err); a `proto.RequestError` handed back as an error keeps
its code in the kind (`RequestError:<code>`), see the coercion below.
`plugin.ContractVersion` (notation-plugin-framework-go, same Go package name as the repository's
package plugin) is the constant the fact extractor reads from the framework's source.
-/
import NotationModel.Src.Types
import NotationModel.Src.TypesC16  -- `plugin.CLIPlugin`
import NotationModel.Generated.C17

/-! The names under which the translated `Write` (Generated/SrcC17b.lean) refers to Go's slice expressions with one
bound and to the conversion `int64(n)`. `sliceTo xs hi` is `GoLite.slice xs 0 (some hi)` and `sliceFrom xs lo` is
`GoLite.slice xs lo none` of GoLite.lean. -/
namespace GoLite

/-- `x[:hi]` (Go panics for hi outside 0..cap; here the bound is clamped) -/
def sliceTo (xs : List α) (hi : Int) : List α := xs.take hi.toNat
/-- `x[lo:]` -/
def sliceFrom (xs : List α) (lo : Int) : List α := xs.drop lo.toNat
/-- `int64(n)` for an int (no overflow in the translated functions: lengths and byte counts) -/
abbrev int64 (n : Int) : Int := n

@[simp] theorem sliceFrom_zero' (xs : List α) : sliceFrom xs (0 : Int) = xs := by simp [sliceFrom]

theorem len_sliceTo (xs : List α) (hi : Int) (h0 : 0 ≤ hi) (h1 : hi ≤ len xs) : len (sliceTo xs hi) = hi := by
  unfold len at *
  simp only [sliceTo, List.length_take]
  omega

end GoLite

namespace NotationModel.Src

/- internal/io -/
namespace io
/-- `io.Writer` (the underlying writer): an oracle -/
structure Writer where
  Write : List UInt8 → Int × Option GoLite.Err

structure LimitedWriter where
  W : Writer
  N : Int

/-- `var ErrLimitExceeded = errors.New("write limit exceeded")` -/
def ErrLimitExceeded : GoLite.Err := ⟨"ErrLimitExceeded"⟩
end io

/- encoding/json -/
namespace json
/-- `json.Unmarshal(data, &v)` for a `v : α`: an oracle -/
class Target (α : Type) where
  decode : List UInt8 → α → α × Option GoLite.Err
def Unmarshal {α : Type} [Target α] (data : List UInt8) (v : α) : α × Option GoLite.Err := Target.decode data v
end json

/- plugin/proto -/
namespace proto
structure RequestError where
  Code : String
  Message : String
  Metadata : Option (GoLite.Map String String)
  deriving DecidableEq, Repr, Inhabited

/-- a `RequestError` handed back as an `error`: its kind keeps the code -/
def RequestError.toErr (e : RequestError) : GoLite.Err := ⟨"RequestError:" ++ e.Code⟩
instance : Coe RequestError GoLite.Err := ⟨RequestError.toErr⟩
end proto

/- package plugin of the repository AND of notation-plugin-framework-go (same package name) -/
namespace plugin
/-- `plugin.ContractVersion` of the framework -/
def ContractVersion : String := Facts.contractVersion

structure GetMetadataRequest where
  PluginConfig : GoLite.Map String String
  deriving DecidableEq, Repr, Inhabited

structure GetMetadataResponse where
  Name : String
  Description : String
  Version : String
  URL : String
  SupportedContractVersions : List String
  Capabilities : List String
  deriving DecidableEq, Repr, Inhabited
end plugin

end NotationModel.Src
