/-
Hand-written Lean counterparts of what the translated `notation.SignOCI`
(`Generated/SrcSignOCI.lean`, written by extract/go2lean_fs.go on every run) mentions.

The translated function is a program in the monad `SO`: it reads an ORACLE and extends a LOG of the
calls it makes on the repository and on the signer, in order, with their arguments. The oracle
answers every call looking at the whole log (so it may answer differently the second time), and
also stands for the library functions that only read: `orasRegistry.ParseReference`,
`digest.Parse`, and the oracles of `generateAnnotations` (`AnnEnv`, Src/TypesC11.lean). The decision
functions `validateSignArguments`, `addUserMetadataToDescriptor`, `generateAnnotations` are the
TRANSLATED ones of `Generated/SrcC11.lean` (tied to the model in Props/C11.lean).

Conventions: a digest is its string (`Digest.String` is the identity); the `ctx` argument is dropped;
logging is dropped; `ErrorPushSignatureFailed{Msg: ..}` is an error kind (the message is not
modelled); `errors.As(err, &referrerError)` is decided by the KIND of the error
(`asReferrersError`), so the push oracle can return a referrers error of either sort or any other.
Core Lean only.
-/
import NotationModel.Generated.SrcC11

namespace NotationModel.Src
namespace signoci

abbrev AnnMap := GoLite.Map String String
abbrev Sig := List Nat
abbrev Signer := «notation».Signer
abbrev SignerSignOptions := «notation».SignerSignOptions

/-- a non-nil `registry.Repository` (opaque: what it answers is the oracle's business) -/
structure Repository where
  deriving DecidableEq, Repr, Inhabited

/-- `notation.SignOptions`; `SignatureMediaType` is the promoted field of the embedded struct -/
structure SignOptions where
  SignerSignOptions : SignerSignOptions
  ArtifactReference : String
  UserMetadata : AnnMap
  deriving Repr, Inhabited

def SignOptions.SignatureMediaType (o : SignOptions) : String := o.SignerSignOptions.SignatureMediaType

/-- oras-go `registry.Reference` as far as SignOCI reads it -/
structure Reference where
  Reference : String
  deriving Repr, Inhabited

/-- oras-go `remote.ReferrersError` as far as SignOCI asks -/
structure ReferrersError where
  indexDelete : Bool
  deriving DecidableEq, Repr, Inhabited

def errReferrersIndexDelete : GoLite.Err := ⟨"remote.ReferrersError/index-delete"⟩
def errReferrersOther : GoLite.Err := ⟨"remote.ReferrersError/other"⟩

/-- `errors.As(err, &referrerError)`: decided by the kind of the error -/
def asReferrersError (e : Option GoLite.Err) : Option ReferrersError :=
  if e = some errReferrersIndexDelete then some ⟨true⟩
  else if e = some errReferrersOther then some ⟨false⟩
  else none

def ReferrersError.IsReferrersIndexDelete (e : Option ReferrersError) : Bool :=
  match e with
  | some r => r.indexDelete
  | none => false

def ErrorPushSignatureFailed : GoLite.Err := ⟨"notation.ErrorPushSignatureFailed"⟩

def Digest.String (d : String) : String := d

/-- the value a signer that implements `signerAnnotation` is seen as -/
structure SignerAnnotation where
  deriving Repr, Inhabited

/-- one call on the repository or the signer, with its arguments -/
inductive Call
  | resolve (ref : String)
  | sign (desc : ocispec.Descriptor) (opts : SignerSignOptions)
  | pluginAnnotations
  | push (mediaType : String) (sig : Sig) (subject : ocispec.Descriptor) (annotations : AnnMap)
  deriving DecidableEq, Repr

structure Oracle where
  /-- `orasRegistry.ParseReference(s)` succeeds: the `Reference` field (tag or digest) of the full reference -/
  parseRef : String → Option String
  /-- `digest.Parse(s)` succeeds -/
  isDigest : String → Bool
  /-- `repo.Resolve`, given the log including this call -/
  resolve : List Call → Except GoLite.Err ocispec.Descriptor
  /-- `signer.Sign` -/
  sign : List Call → Except GoLite.Err (Sig × Option signature.SignerInfo)
  /-- the signer's dynamic type implements `signerAnnotation` -/
  implementsAnnotations : Bool
  /-- `PluginAnnotations()`: nil or a map -/
  pluginAnnotations : List Call → Option AnnMap
  /-- `repo.PushSignature`: blob descriptor, manifest descriptor, error (a failing push may hand back anything) -/
  push : List Call → ocispec.Descriptor × ocispec.Descriptor × Option GoLite.Err
  /-- the oracles of `generateAnnotations` -/
  annEnv : «notation».AnnEnv

def SO (α : Type) : Type := Oracle → List Call → α × List Call

instance : Monad SO where
  pure a := fun _ l => (a, l)
  bind m f := fun o l => f (m o l).1 o (m o l).2
  map f m := fun o l => (f (m o l).1, (m o l).2)

@[simp] theorem SO.pure_apply {α : Type} (a : α) (o : Oracle) (l : List Call) :
    (pure a : SO α) o l = (a, l) := rfl
@[simp] theorem SO.bind_apply {α β : Type} (m : SO α) (f : α → SO β) (o : Oracle) (l : List Call) :
    (m >>= f) o l = f (m o l).1 o (m o l).2 := rfl
@[simp] theorem SO.map_apply {α β : Type} (f : α → β) (m : SO α) (o : Oracle) (l : List Call) :
    (f <$> m) o l = (f (m o l).1, (m o l).2) := rfl
@[simp] theorem SO.ite_apply {α : Type} (c : Prop) [Decidable c] (a b : SO α) (o : Oracle) (l : List Call) :
    (if c then a else b) o l = if c then a o l else b o l := by split <;> rfl

def runSO {α : Type} (m : SO α) (o : Oracle) (log : List Call := []) : α × List Call := m o log

/-! the callees -/

def validateSignArguments (signer : Option Signer) (opts : SignerSignOptions) : Option GoLite.Err :=
  «notation».validateSignArguments signer opts

/-- the translated `addUserMetadataToDescriptor` without its ghost result -/
def addUserMetadataToDescriptor (desc : ocispec.Descriptor) (md : AnnMap) : ocispec.Descriptor × Option GoLite.Err :=
  ((«notation».addUserMetadataToDescriptor desc md).1, («notation».addUserMetadataToDescriptor desc md).2.1)

/-- the translated `generateAnnotations` on a nil or non-nil plugin map, without its ghost result -/
def genAnn (env : «notation».AnnEnv) (si : Option signature.SignerInfo) (pa : Option AnnMap) : AnnMap × Option GoLite.Err :=
  ((«notation».generateAnnotations env si (pa.getD []) pa.isNone).1,
   («notation».generateAnnotations env si (pa.getD []) pa.isNone).2.1)

def generateAnnotations (si : Option signature.SignerInfo) (pa : Option AnnMap) : SO (AnnMap × Option GoLite.Err) :=
  fun o l => (genAnn o.annEnv si pa, l)

def parseReference (s : String) : SO (Reference × Option GoLite.Err) := fun o l =>
  match o.parseRef s with
  | some r => ((⟨r⟩, none), l)
  | none => ((default, some (GoLite.errorf "invalid reference")), l)

def digestParse (s : String) : SO (String × Option GoLite.Err) := fun o l =>
  if o.isDigest s then ((s, none), l) else (("", some (GoLite.errorf "invalid digest")), l)

def Repository.Resolve (_repo : Option Repository) (ref : String) : SO (ocispec.Descriptor × Option GoLite.Err) := fun o l =>
  let l' := l ++ [.resolve ref]
  match o.resolve l' with
  | .ok d => ((d, none), l')
  | .error e => ((default, some e), l')

def Signer.Sign (_signer : Option Signer) (desc : ocispec.Descriptor) (opts : SignerSignOptions) :
    SO (Sig × Option signature.SignerInfo × Option GoLite.Err) := fun o l =>
  let l' := l ++ [.sign desc opts]
  match o.sign l' with
  | .ok (s, si) => ((s, si, none), l')
  | .error e => (([], none, some e), l')

def asSignerAnnotation (_signer : Option Signer) : SO (SignerAnnotation × Bool) := fun o l =>
  ((default, o.implementsAnnotations), l)

def SignerAnnotation.PluginAnnotations (_s : SignerAnnotation) : SO (Option AnnMap) := fun o l =>
  (o.pluginAnnotations (l ++ [.pluginAnnotations]), l ++ [.pluginAnnotations])

def Repository.PushSignature (_repo : Option Repository) (mediaType : String) (sig : Sig)
    (subject : ocispec.Descriptor) (annotations : AnnMap) :
    SO (ocispec.Descriptor × ocispec.Descriptor × Option GoLite.Err) := fun o l =>
  (o.push (l ++ [.push mediaType sig subject annotations]), l ++ [.push mediaType sig subject annotations])

/-! `Resolve` and `Sign`, the two callees defined by a `match` on the oracle's answer, applied to oracle and log: a
rewrite with the answer then decides them (the other callees are plain pairs and unfold by name) -/

theorem Repository.Resolve_apply (repo : Option Repository) (ref : String) (o : Oracle) (l : List Call) :
    Repository.Resolve repo ref o l =
      (match o.resolve (l ++ [.resolve ref]) with
       | .ok d => ((d, none), l ++ [.resolve ref])
       | .error e => ((default, some e), l ++ [.resolve ref])) := rfl

theorem Signer.Sign_apply (signer : Option Signer) (desc : ocispec.Descriptor) (opts : SignerSignOptions) (o : Oracle)
    (l : List Call) :
    Signer.Sign signer desc opts o l =
      (match o.sign (l ++ [.sign desc opts]) with
       | .ok (s, si) => ((s, si, none), l ++ [.sign desc opts])
       | .error e => (([], none, some e), l ++ [.sign desc opts])) := rfl

end signoci
end NotationModel.Src
