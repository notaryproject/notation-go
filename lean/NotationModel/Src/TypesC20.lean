/-
C20 - Lean counterparts of what the translated `internal/semver` mentions.
Oracles (not translated): the regular-expression engine applied to `semVerRegEx` (its pattern
text is extracted as `Facts.semverRegex`) and `golang.org/x/mod/semver.Compare`.
-/
import NotationModel.Src.Types

namespace NotationModel.Src
namespace semver

/-- Go's `+` on strings (only inside this namespace; a candidate for GoLite) -/
scoped instance : Add String := ⟨String.append⟩

theorem add_eq_append (a b : String) : a + b = a ++ b := rfl

structure Env where
  /-- `semVerRegEx.MatchString` -/
  MatchString : String → Bool
  /-- `golang.org/x/mod/semver.Compare` -/
  Compare : String → String → Int

end semver

namespace os
/-- the sentinel `os.ErrNotExist` (`errors.Is` looks at the kind only) -/
def ErrNotExist : GoLite.Err := ⟨"os.ErrNotExist"⟩
end os

/-! `plugin`: both the package `notation-go/plugin` (CLIManager) and the framework package it
imports under the same name (GetMetadataRequest / GetMetadataResponse). -/
namespace plugin

/-- of the metadata only the version is looked at by the installation decision -/
structure GetMetadataResponse where
  Version : String
  deriving DecidableEq, Repr, Inhabited

structure GetMetadataRequest where
  deriving DecidableEq, Repr, Inhabited

structure CLIInstallOptions where
  PluginPath : String
  Overwrite : Bool
  deriving DecidableEq, Repr, Inhabited

/-- an existing plugin as returned by `CLIManager.Get` (opaque) -/
structure Plugin where
  id : Nat
  deriving DecidableEq, Repr, Inhabited

/-- oracles: the plugin root and the file system behind the manager, and the version
comparison of `internal/semver` (tied separately, `Generated/SrcC20.lean`) -/
structure Env where
  /-- `m.Get(ctx, name)` -/
  Get : String → Option Plugin × Option GoLite.Err
  /-- `existingPlugin.GetMetadata(ctx, req)` -/
  GetMetadata : Option Plugin → GetMetadataRequest → Option GetMetadataResponse × Option GoLite.Err
  /-- `semver.ComparePluginVersion` -/
  ComparePluginVersion : String → String → Int × Option GoLite.Err
  /-- `m.Uninstall(ctx, name)` -/
  Uninstall : String → Option GoLite.Err
  /-- `file.CopyToDir(src, dst)` -/
  CopyToDir : String → String → Option GoLite.Err
  /-- `file.CopyDirToDir(src, dst)` -/
  CopyDirToDir : String → String → Option GoLite.Err

end plugin
end NotationModel.Src
