/-
Lean counterparts of what the translated functions of package `plugin` (C16 tie,
`Generated/SrcC16.lean`) mention. Everything that is I/O or a library call is an ORACLE:
* `SysFS.SysPath` - a field of the manager value (dir.SysFS is an interface in Go);
* `World.pathJoin` (`path.Join` with two elements), `World.NewCLIPlugin` (os.Stat + regular-file
  test + construction), `World.Stat`, `World.RemoveAll` - parameters of the translated functions.
The tie theorems hold for EVERY choice of these oracles; the corollaries instantiate them with the
model's lexical `join` / `sysPath`.
`plugin.BinaryPrefix` (notation-plugin-framework-go) is the constant the fact extractor reads from
the framework's source (`Facts.c16BinaryPrefix`).
-/
import NotationModel.Src.Types
import NotationModel.Generated.C16

/-! Run-time additions for the translator that are not specific to C16 (`strings.HasPrefix` / `TrimPrefix` /
`CutPrefix`, Go's `+` on strings). They are in namespace `GoLite` and kept in this file so that the C16 tie
builds without a change to `GoLite.lean`. -/
namespace GoLite

/-- Go's `+` on strings -/
instance : HAdd String String String := ⟨String.append⟩
theorem add_toList (a b : String) : (a + b).toList = a.toList ++ b.toList := String.toList_append

/-- `strings.HasPrefix(s, pre)` -/
def hasPrefix (s pre : String) : Bool := pre.toList.isPrefixOf s.toList
/-- `strings.TrimPrefix(s, pre)` -/
def trimPrefix (s pre : String) : String :=
  if hasPrefix s pre then String.ofList (s.toList.drop pre.toList.length) else s
/-- `strings.CutPrefix(s, pre)` -/
def cutPrefix (s pre : String) : String × Bool :=
  if hasPrefix s pre then (String.ofList (s.toList.drop pre.toList.length), true) else (s, false)

end GoLite

namespace NotationModel.Src
namespace plugin

/-- `plugin.BinaryPrefix` of the plugin framework (same Go package name) -/
def BinaryPrefix : String := String.ofList Facts.c16BinaryPrefix

structure SysFS where
  SysPath : String → String × Option GoLite.Err

structure CLIManager where
  pluginFS : SysFS

structure CLIPlugin where
  name : String
  path : String
  deriving DecidableEq, Repr, Inhabited

structure World where
  pathJoin : String → String → String
  NewCLIPlugin : Unit → String → String → Option CLIPlugin × Option GoLite.Err
  Stat : String → Unit × Option GoLite.Err
  RemoveAll : String → Option GoLite.Err

end plugin
end NotationModel.Src
