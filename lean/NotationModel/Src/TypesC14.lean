/-
Hand-written Lean counterparts of what the translated `file.WriteFile`
(`Generated/SrcC14.lean`, written by extract/go2lean_fs.go on every run) mentions.

The translated function is a program in the state monad `FS`. The state is the WORLD as the
function can see it: the log of operating-system calls it has made so far, with their arguments,
and an ORACLE that decides - looking at the whole log, so with full knowledge of the history -
what each call answers: whether it fails, with which error, and which name `os.CreateTemp` hands
out. Tie theorems (Props/C14_WriteFile.lean, `namespace Tie`) quantify over every oracle, hence over every
pattern of failures, including failures of the cleanup calls themselves.

Modelled, not verified (trusted base): that these five calls are the only way `WriteFile` touches
the file system (`fmt.Errorf` and `(*os.File).Name` are pure), that `(*os.File).Write` either
reports an error or has written the whole slice (its documented contract), and that each call is
one atomic step as far as other processes are concerned EXCEPT `Write`, which the model splits
into any number of partial writes (Model/C14 `Event.write`).
Core Lean only.
-/
import NotationModel.GoLite

namespace NotationModel.Src
namespace fsproto

abbrev Bytes := List Nat

/-- `*os.File` as far as `WriteFile` uses it: the name it was created under -/
structure File where
  name : String
  deriving DecidableEq, Repr, Inhabited

/-- one operating-system call, with its arguments -/
inductive Call
  | createTemp (dir pattern : String)
  | write (f : File) (b : Bytes)
  | close (f : File)
  | remove (name : String)
  | rename (old new : String)
  deriving DecidableEq, Repr

/-- the oracle: given the log INCLUDING the call being answered -/
structure Oracle where
  /-- `some e`: the last call of the log fails with `e` -/
  fault : List Call → Option GoLite.Err
  /-- the name `os.CreateTemp` hands out when it is the last call of the log and succeeds -/
  tempName : List Call → String

/-- a program over the world: reads the oracle, extends the log of calls. (A plain function type
with its own `Monad` instance rather than `ReaderT Oracle (StateM ..)`, so that the tie proofs
unfold it with three equations.) -/
def FS (α : Type) : Type := Oracle → List Call → α × List Call

instance : Monad FS where
  pure a := fun _ l => (a, l)
  bind m f := fun o l => f (m o l).1 o (m o l).2
  map f m := fun o l => (f (m o l).1, (m o l).2)

@[simp] theorem FS.pure_apply {α : Type} (a : α) (o : Oracle) (l : List Call) :
    (pure a : FS α) o l = (a, l) := rfl
@[simp] theorem FS.bind_apply {α β : Type} (m : FS α) (f : α → FS β) (o : Oracle) (l : List Call) :
    (m >>= f) o l = f (m o l).1 o (m o l).2 := rfl
@[simp] theorem FS.map_apply {α β : Type} (f : α → β) (m : FS α) (o : Oracle) (l : List Call) :
    (f <$> m) o l = (f (m o l).1, (m o l).2) := rfl

@[simp] theorem FS.ite_apply {α : Type} (c : Prop) [Decidable c] (a b : FS α) (o : Oracle) (l : List Call) :
    (if c then a else b) o l = if c then a o l else b o l := by split <;> rfl
@[simp] theorem FS.mapConst_apply {α β : Type} (b : β) (m : FS α) (o : Oracle) (l : List Call) :
    (Functor.mapConst b m) o l = (b, (m o l).2) := rfl
@[simp] theorem FS.discard_apply {α : Type} (m : FS α) (o : Oracle) (l : List Call) :
    (discard m) o l = ((), (m o l).2) := rfl

/-- perform one call: log it, ask the oracle -/
def perform (c : Call) : FS (Option GoLite.Err) := fun o l => (o.fault (l ++ [c]), l ++ [c])

namespace os

/-- `os.CreateTemp(dir, pattern)`: a file and no error, or no file and an error -/
def CreateTemp (dir pattern : String) : FS (File × Option GoLite.Err) := fun o l =>
  let l' := l ++ [.createTemp dir pattern]
  match o.fault l' with
  | some e => ((default, some e), l')
  | none => ((⟨o.tempName l'⟩, none), l')

def Remove (name : String) : FS (Option GoLite.Err) := perform (.remove name)

def Rename (old new : String) : FS (Option GoLite.Err) := perform (.rename old new)

end os

/-- `f.Write(b)`: the count (not used by the translated text) and the error -/
def File.Write (f : File) (b : Bytes) : FS (Int × Option GoLite.Err) := fun o l =>
  let l' := l ++ [.write f b]
  match o.fault l' with
  | some e => ((0, some e), l')
  | none => ((b.length, none), l')

def File.Close (f : File) : FS (Option GoLite.Err) := perform (.close f)

def File.Name (f : File) : String := f.name

/-- run a program: its result and the log afterwards -/
def runFS {α : Type} (m : FS α) (o : Oracle) (log : List Call := []) : α × List Call := m o log

end fsproto
end NotationModel.Src
