/-
C20 - lemmas about sorted insertion / lookup, the directory walk, and the reduction of the
stateful model (`runOps` over plugin roots) to a function of observables only (`specStep`).
-/
import NotationModel.Lemmas.C20Order

namespace NotationModel.C20

section keyed
variable {α : Type} (key : α → Text)

/-- strictly ascending keys (so: one element per key) -/
def Sorted (l : List α) : Prop := l.Pairwise (fun a b => cmpText (key a) (key b) = .lt)

theorem mem_putBy {x y : α} {l : List α} (h : y ∈ putBy key x l) : y = x ∨ y ∈ l := by
  induction l with
  | nil => simp [putBy] at h; exact Or.inl h
  | cons z r ih =>
    simp only [putBy] at h
    cases hc : cmpText (key x) (key z) <;> rw [hc] at h <;> simp at h
    · rcases h with h | h | h <;> simp [h]
    · rcases h with h | h <;> simp [h]
    · rcases h with h | h
      · simp [h]
      · rcases ih h with h | h <;> simp [h]

theorem mem_putBy_self (x : α) (l : List α) : x ∈ putBy key x l := by
  induction l with
  | nil => simp [putBy]
  | cons z r ih =>
    simp only [putBy]
    cases hc : cmpText (key x) (key z) <;> simp [ih]

theorem sorted_putBy (x : α) {l : List α} (h : Sorted key l) : Sorted key (putBy key x l) := by
  induction l with
  | nil => simp [putBy, Sorted]
  | cons z r ih =>
    have hz := List.pairwise_cons.1 h
    simp only [putBy]
    cases hc : cmpText (key x) (key z)
    · -- x before z
      refine List.pairwise_cons.2 ⟨?_, h⟩
      intro y hy
      rcases List.mem_cons.1 hy with rfl | hy
      · exact hc
      · exact good_cmpText.trans _ _ _ hc (hz.1 y hy)
    · -- x replaces z
      have e := good_cmpText.eq_imp _ _ hc
      refine List.pairwise_cons.2 ⟨?_, hz.2⟩
      intro y hy; rw [e]; exact hz.1 y hy
    · refine List.pairwise_cons.2 ⟨?_, ih hz.2⟩
      intro y hy
      rcases mem_putBy key hy with rfl | hy
      · exact (good_cmpText.gt_iff _ _).1 hc
      · exact hz.1 y hy

theorem sorted_sortBy (l : List α) : Sorted key (sortBy key l) := by
  induction l with
  | nil => simp [sortBy, Sorted]
  | cons x r ih => exact sorted_putBy key x ih

theorem sorted_delBy (k : Text) {l : List α} (h : Sorted key l) : Sorted key (delBy key k l) :=
  List.Pairwise.filter _ h

theorem sorted_map {f : α → α} (hf : ∀ a, key (f a) = key a) {l : List α} (h : Sorted key l) :
    Sorted key (l.map f) := by
  unfold Sorted
  rw [List.pairwise_map]
  exact h.imp (by intro a b hab; rw [hf, hf]; exact hab)

theorem mem_map_at {n : Text} {g : α → α} {l : List α} {y : α}
    (h : y ∈ l.map (fun x => if key x == n then g x else x)) (hg : ∀ x, key (g x) = key x) :
    y ∈ l ∨ key y = n := by
  obtain ⟨x, hx, rfl⟩ := List.mem_map.1 h
  by_cases hn : (key x == n) = true
  · simp only [hn, if_true, hg]; exact Or.inr (beq_iff_eq.1 hn)
  · simp only [hn]; exact Or.inl hx

theorem keys_putBy (x : α) (m : List α) (k : Text) :
    k ∈ (putBy key x m).map key ↔ (k = key x ∨ k ∈ m.map key) := by
  induction m with
  | nil => simp [putBy]
  | cons z m ih =>
    simp only [putBy]
    cases hc : cmpText (key x) (key z) with
    | lt => simp
    | eq => simp [good_cmpText.eq_imp _ _ hc]
    | gt => simp only [List.map_cons, List.mem_cons, ih]; exact or_left_comm

theorem mem_sortBy_keys (l : List α) (k : Text) :
    k ∈ (sortBy key l).map key ↔ k ∈ l.map key := by
  induction l with
  | nil => rfl
  | cons x r ih =>
    show k ∈ (putBy key x (sortBy key r)).map key ↔ _
    rw [keys_putBy, ih, List.map_cons, List.mem_cons]

theorem findBy_of_mem_sorted {l : List α} (h : Sorted key l) {x : α} (hx : x ∈ l) :
    findBy key (key x) l = some x := by
  induction l with
  | nil => cases hx
  | cons z r ih =>
    have hz := List.pairwise_cons.1 h
    rcases List.mem_cons.1 hx with rfl | hx
    · simp [findBy]
    · have hlt := hz.1 x hx
      have hne : (key z == key x) = false := by
        apply beq_eq_false_iff_ne.2
        intro e; rw [e, good_cmpText.refl] at hlt; cases hlt
      simp only [findBy, List.find?_cons, hne]
      exact ih hz.2 hx

theorem findBy_putBy_self (x : α) (l : List α) : findBy key (key x) (putBy key x l) = some x := by
  induction l with
  | nil => simp [putBy, findBy]
  | cons z r ih =>
    simp only [putBy]
    cases hc : cmpText (key x) (key z)
    · simp [findBy]
    · simp [findBy]
    · have hne : (key z == key x) = false := by
        apply beq_eq_false_iff_ne.2
        intro e; rw [e, good_cmpText.refl] at hc; cases hc
      simp only [findBy, List.find?_cons, hne]
      exact ih

theorem findBy_putBy_ne (x : α) (l : List α) {k : Text} (hk : key x ≠ k) :
    findBy key k (putBy key x l) = findBy key k l := by
  have hx : (key x == k) = false := beq_eq_false_iff_ne.2 hk
  induction l with
  | nil => simp [putBy, findBy, hx]
  | cons z r ih =>
    simp only [putBy]
    cases hc : cmpText (key x) (key z)
    · simp [findBy, List.find?_cons, hx]
    · have e := good_cmpText.eq_imp _ _ hc
      have hz : (key z == k) = false := by rw [← e]; exact hx
      simp [findBy, hx, hz]
    · simp only [findBy, List.find?_cons]
      cases key z == k
      · exact ih
      · rfl

theorem findBy_delBy_self (k : Text) (l : List α) : findBy key k (delBy key k l) = none := by
  simp [findBy, delBy, List.find?_eq_none]

theorem findBy_delBy_ne (l : List α) {k k' : Text} (hk : k' ≠ k) :
    findBy key k' (delBy key k l) = findBy key k' l := by
  unfold findBy delBy
  rw [List.find?_filter]
  congr 1
  funext y
  by_cases h : key y = k' <;> simp [h, hk]

theorem findBy_some {l : List α} {k : Text} {x : α} (h : findBy key k l = some x) : x ∈ l ∧ key x = k := by
  have h1 := List.mem_of_find?_eq_some h
  have h2 := List.find?_some h
  exact ⟨h1, by simpa using h2⟩

end keyed

theorem mem_delBy {α : Type} {key : α → Text} {k : Text} {l : List α} {y : α} (h : y ∈ delBy key k l) : y ∈ l :=
  (List.mem_filter.1 h).1

theorem map_putBy {α β : Type} (key : α → Text) (key' : β → Text) (f : α → β)
    (hk : ∀ a, key' (f a) = key a) (x : α) (l : List α) :
    (putBy key x l).map f = putBy key' (f x) (l.map f) := by
  induction l with
  | nil => rfl
  | cons z r ih =>
    simp only [putBy, List.map_cons, hk]
    cases cmpText (key x) (key z) <;> simp [ih]

theorem map_delBy {α β : Type} (key : α → Text) (key' : β → Text) (f : α → β)
    (hk : ∀ a, key' (f a) = key a) (k : Text) (l : List α) :
    (delBy key k l).map f = delBy key' k (l.map f) := by
  induction l with
  | nil => rfl
  | cons z r ih =>
    simp only [delBy, List.filter_cons, List.map_cons, hk] at ih ⊢
    cases key z != k <;> simp [ih]

theorem findBy_map {α β : Type} (key : α → Text) (key' : β → Text) (f : α → β)
    (hk : ∀ a, key' (f a) = key a) (k : Text) (l : List α) :
    findBy key' k (l.map f) = (findBy key k l).map f := by
  induction l with
  | nil => rfl
  | cons z r ih =>
    simp only [findBy, List.map_cons, List.find?_cons, hk] at ih ⊢
    cases key z == k <;> simp [ih]

theorem parseName_some {s n : Text} (h : parseName s = some n) : s = binName n := by
  unfold parseName at h
  by_cases hp : binaryPrefix.isPrefixOf s = true
  · simp only [hp, if_true] at h
    by_cases hr : (List.drop binaryPrefix.length s).isEmpty = true
    · simp [hr] at h
    · simp [hr] at h
      obtain ⟨t, ht⟩ := List.isPrefixOf_iff_prefix.1 hp
      subst ht; subst h; simp [binName]
  · simp [hp] at h

theorem mkLocated_some {f : File} {c : Bool} {loc : Located} (h : mkLocated f c = some loc) :
    loc.exe = { f with exec := f.exec || c } ∧ parseName f.name = some loc.name ∧ loc.chmod = c := by
  unfold mkLocated at h
  cases hp : parseName f.name <;> rw [hp] at h <;> simp at h
  subst h; simp


def cands (l : List File) : List File := l.filter isCand
def execs (l : List File) : List File := (l.filter isCand).filter (·.exec)

theorem execs_cons (f : File) (r : List File) :
    execs (f :: r) = if isCand f && f.exec then f :: execs r else execs r := by
  unfold execs
  cases hc : isCand f <;> cases he : f.exec <;> simp [hc, he]

theorem cands_cons (f : File) (r : List File) :
    cands (f :: r) = if isCand f then f :: cands r else cands r := by
  simp [cands, List.filter_cons]

/-- at most one executable candidate, counting the one already found; the first is kept -/
theorem walk_spec : ∀ (l : List File) (w : Walk),
    walk l w =
      if (execs l).length + (if w.found.isSome then 1 else 0) ≤ 1
      then some ⟨w.found <|> (execs l).head?, w.cands ++ cands l⟩ else none := by
  intro l
  induction l with
  | nil => intro w; obtain ⟨fd, cs⟩ := w; cases fd <;> simp [walk, execs, cands]
  | cons f r ih =>
    intro w
    rw [walk, execs_cons, cands_cons]
    cases hc : isCand f with
    | false => simp [ih]
    | true =>
      cases he : f.exec with
      | false => simp [ih]
      | true =>
        cases hf : w.found with
        | some g => simp
        | none => simp [ih]
theorem specLocateDir_eq (es : List Entry) :
    specLocateDir es =
      match execs (topFiles es) with
      | [f] => mkLocated f false
      | [] => (match cands (topFiles es) with
        | [f] => mkLocated f true
        | _ => none)
      | _ => none := rfl

theorem locateDir_eq_spec (es : List Entry) : locateDir es = specLocateDir es := by
  unfold locateDir
  rw [walk_spec, specLocateDir_eq]
  cases he : execs (topFiles es) with
  | nil =>
    cases hcs : cands (topFiles es) with
    | nil => simp
    | cons a t => cases t <;> simp
  | cons f r =>
    cases r with
    | nil => simp
    | cons g r => simp

theorem locate_eq_spec (op : Op) : locate op = specLocate op := by
  unfold locate specLocate
  rw [locateDir_eq_spec]


theorem specLocateDir_some {es : List Entry} {loc : Located} (h : specLocateDir es = some loc) :
    ∃ f c, f ∈ topFiles es ∧ mkLocated f c = some loc := by
  unfold specLocateDir at h
  simp only at h
  split at h
  · rename_i f hf
    have hm : f ∈ ((topFiles es).filter isCand).filter (·.exec) := by simp [hf]
    exact ⟨f, false, (List.mem_filter.1 (List.mem_filter.1 hm).1).1, h⟩
  · split at h
    · rename_i f hf
      have hm : f ∈ (topFiles es).filter isCand := by simp [hf]
      exact ⟨f, true, (List.mem_filter.1 hm).1, h⟩
    · cases h
  · cases h

theorem locateFile_some {es : List Entry} {loc : Located} (h : locateFile es = some loc) :
    ∃ e, es = [e] ∧ e.kind = .file ∧ e.exec = true ∧ mkLocated e.toFile false = some loc := by
  unfold locateFile at h
  split at h
  · split at h
    · rename_i e hk
      simp only [Bool.and_eq_true, beq_iff_eq] at hk
      exact ⟨e, rfl, hk.1, hk.2, h⟩
    · cases h
  · cases h

theorem specLocate_exe_name {op : Op} {loc : Located} (h : specLocate op = some loc) :
    loc.exe.name = binName loc.name := by
  have hm : ∃ f c, mkLocated f c = some loc := by
    unfold specLocate at h
    split at h
    · split at h
      · cases h
      · obtain ⟨f, c, _, hm⟩ := specLocateDir_some h; exact ⟨f, c, hm⟩
    · obtain ⟨e, _, _, _, hm⟩ := locateFile_some h; exact ⟨_, _, hm⟩
  obtain ⟨f, c, hm⟩ := hm
  obtain ⟨hexe, hname, _⟩ := mkLocated_some hm
  rw [hexe]; exact parseName_some hname

theorem find_copied {op : Op} {loc : Located} (h : specLocate op = some loc) :
    findBy File.name (binName loc.name) (copied op loc) = some loc.exe := by
  by_cases hd : op.srcIsDir = true
  · have hn := specLocate_exe_name h
    unfold specLocate at h
    simp only [hd, if_true] at h
    split at h
    · cases h
    · obtain ⟨f, c, hf, hm⟩ := specLocateDir_some h
      obtain ⟨hexe, _, hch⟩ := mkLocated_some hm
      have hfn : binName loc.name = f.name := by rw [← hn, hexe]
      have hfind : findBy File.name f.name (topFiles op.entries) = some f :=
        findBy_of_mem_sorted File.name (sorted_sortBy File.name _) hf
      simp only [copied, hd, if_true]
      rw [findBy_map File.name File.name _ (by intro a; split <;> rfl), hfn, hfind]
      simp only [Option.map_some, hexe, hch]
      cases c <;> simp
  · simp [copied, hd, findBy, specLocate_exe_name h]

theorem newOf_some {op : Op} {l : Option Located} {nw : New} (h : newOf op l = some nw) :
    ∃ loc, l = some loc ∧ validName loc.name = true ∧ blocked op loc.name = false ∧
      metadata loc.name loc.exe = some nw.version ∧ nw.name = loc.name ∧ nw.files = copied op loc := by
  unfold newOf at h
  cases l with
  | none => cases h
  | some loc =>
    simp only at h
    by_cases hv : validName loc.name = true
    · by_cases hb : blocked op loc.name = true
      · simp [hv, hb] at h
      · cases hm : metadata loc.name loc.exe with
        | none => simp [hv, hb, hm] at h
        | some v =>
          simp only [hv, hb, hm, Bool.not_true, Bool.false_eq_true, if_false, Option.some.injEq] at h
          subst h
          exact ⟨loc, rfl, hv, by simpa using hb, hm, rfl, rfl⟩
    · simp [hv] at h

theorem newOf_of {op : Op} {loc : Located} {v : Text} (hv : validName loc.name = true)
    (hb : blocked op loc.name = false) (hm : metadata loc.name loc.exe = some v) :
    newOf op (some loc) = some ⟨loc.name, v, copied op loc⟩ := by
  simp [newOf, hv, hb, hm]

theorem newOf_not_inside {op : Op} {l : Option Located} {nw : New} (h : newOf op l = some nw) :
    insideOwn op nw.name = false := by
  obtain ⟨loc, _, _, hb, _, hn, _⟩ := newOf_some h
  rw [hn]
  exact (Bool.or_eq_false_iff.1 hb).1

theorem newOf_blocked {op : Op} {loc : Located} (h : blocked op loc.name = true) : newOf op (some loc) = none := by
  unfold newOf
  by_cases hv : validName loc.name = true <;> simp [hv, h]

theorem newOf_name_version (op op' : Op) (l : Option Located) (h : op.srcIn = op'.srcIn) (hc : op.ctx = op'.ctx) :
    (newOf op l).map (fun n => (n.name, n.version)) = (newOf op' l).map (fun n => (n.name, n.version)) := by
  unfold newOf
  cases l with
  | none => rfl
  | some l =>
    simp only
    have hio : blocked op' l.name = blocked op l.name := by simp [blocked, insideOwn, h, hc]
    rw [hio]
    by_cases hv : validName l.name = true
    · by_cases hi : blocked op l.name = true
      · simp [hv, hi]
      · cases metadata l.name l.exe <;> simp [hv, hi]
    · simp [hv]

theorem topFiles_sorted (es : List Entry) : Sorted File.name (topFiles es) := sorted_sortBy File.name _

theorem sorted_copied (op : Op) (loc : Located) : Sorted File.name (copied op loc) := by
  unfold copied
  split
  · exact sorted_map File.name (by intro g; split <;> rfl) (topFiles_sorted op.entries)
  · simp [Sorted]

theorem answer_new {op : Op} {nw : New} (h : specNew op = some nw) :
    answer ⟨nw.name, nw.files⟩ = some nw.version := by
  obtain ⟨loc, hl, hv, _, hm, hn, hf⟩ := newOf_some h
  simp only [answer, hn, hf, hv, Bool.not_true, Bool.false_eq_true, if_false]
  rw [find_copied hl]
  simpa using hm

/-! ### the model as a function of the observed root -/

/-- the existence / version checks of Install on the observed root -/
def ruleR (p : Option PluginObs) (ow : Bool) (nw : New) : Except Err (Option Text) :=
  match p with
  | none => .ok none
  | some p => versionCheck p.version ow nw.version

def mkStep (e : Err) (ex nw : Option Text) (R : List PluginObs) : StepObs :=
  ⟨e, ex, nw, R, R.map (·.name)⟩

/-- a directory after its `notation-<name>` was deleted: nothing to fetch -/
def rmexeObs (n : Text) (p : PluginObs) : PluginObs :=
  if p.name == n then ⟨p.name, delBy FileObs.name (binName n) p.files, none⟩ else p

/-- the directory's own executable names a private interpreter -/
def exeInterp (p : PluginObs) : Bool :=
  ((findBy FileObs.name (binName p.name) p.files).map (·.interp)) == some true

/-- a directory after the private interpreters of its files were removed: the files are what
they were; it stops answering iff its executable used one -/
def rminterpObs (n : Text) (p : PluginObs) : PluginObs :=
  if p.name == n then { p with version := if exeInterp p then none else p.version } else p

/-- one operation, computed from the observed root as it is after the source chmod -/
def specStep1 (R : List PluginObs) (op : Op) : StepObs :=
  match op.kind with
  | .install =>
    match specNew op with
    | none => mkStep .other none none R
    | some nw =>
      match ruleR (existingR R nw.name) op.overwrite nw with
      | .error e => mkStep e none none R
      | .ok ex =>
        mkStep .ok ex (some nw.version) (putBy PluginObs.name (newObs nw) (delBy PluginObs.name nw.name R))
  | .uninstall =>
    if !validName op.name then mkStep .other none none R
    else if (lookupR R op.name).isSome then mkStep .ok none none (delBy PluginObs.name op.name R)
    else mkStep .notExist none none R
  | .plant =>
    if !validName op.name then mkStep .ok none none R
    else mkStep .ok none none
      (putBy PluginObs.name (pobs ⟨op.name, topFiles op.entries⟩) (delBy PluginObs.name op.name R))
  | .rmexe => mkStep .ok none none (R.map (rmexeObs op.name))
  | .rminterp => mkStep .ok none none (R.map (rminterpObs op.name))

-- `@[simp]`: the bare `simp` calls on `versionCheck .. true ..` (e.g. in `replace_iff`) rely on it
@[simp] theorem versionCheck_overwrite (ex : Option Text) (vn : Text) : versionCheck ex true vn = .ok ex := by
  cases ex <;> rfl

theorem versionCheck_err_ne_ok {ex : Option Text} {ow : Bool} {vn : Text} {e : Err}
    (h : versionCheck ex ow vn = .error e) : e ≠ .ok := by
  cases ow with
  | true => rw [versionCheck_overwrite] at h; cases h
  | false =>
    cases ex with
    | none => cases h; decide
    | some vo =>
      simp only [versionCheck] at h
      split at h <;> cases h <;> decide

theorem versionRule_err_ne_ok {st : State} {ow : Bool} {nw : New} {e : Err}
    (h : versionRule st ow nw = .error e) : e ≠ .ok := by
  unfold versionRule at h
  cases hg : getExe st nw.name with
  | none => simp [hg] at h
  | some f => simp only [hg] at h; exact versionCheck_err_ne_ok h

/-- the version rule in the vocabulary of the clauses: may `vn` replace the existing plugin `p`? -/
def allowedR (p : Option PluginObs) (ow : Bool) (vn : Text) : Bool :=
  match p with
  | none => true
  | some p => ow || higher vn p

@[simp] theorem allowedR_none (ow : Bool) (vn : Text) : allowedR none ow vn = true := rfl
@[simp] theorem allowedR_some (p : PluginObs) (ow : Bool) (vn : Text) :
    allowedR (some p) ow vn = (ow || higher vn p) := rfl

def refusalR (p : Option PluginObs) (vn : Text) : Err :=
  if relTo .lt vn p then .downgrade else if relTo .eq vn p then .equalVersion else .other

theorem ruleR_eq (p : Option PluginObs) (ow : Bool) (nw : New) :
    ruleR p ow nw =
      if allowedR p ow nw.version then .ok (p.bind (·.version)) else .error (refusalR p nw.version) := by
  cases p with
  | none => rfl
  | some p =>
    obtain ⟨n, fs, v⟩ := p
    cases ow with
    | true => simp [ruleR, allowedR]
    | false =>
      cases v with
      | none => rfl
      | some vo =>
        cases hc : compareVersions nw.version vo with
        | none => simp [ruleR, versionCheck, allowedR, refusalR, higher, relTo, hc]
        | some o => cases o <;> simp [ruleR, versionCheck, allowedR, refusalR, higher, relTo, hc]

theorem refusalR_ne_ok (p : Option PluginObs) (vn : Text) : refusalR p vn ≠ .ok := by
  unfold refusalR
  split
  · decide
  · split <;> decide

theorem specStep1_install {op : Op} (hk : op.kind = .install) (R : List PluginObs) :
    specStep1 R op =
      match specNew op with
      | none => mkStep .other none none R
      | some nw =>
        if allowedR (existingR R nw.name) op.overwrite nw.version then
          mkStep .ok ((existingR R nw.name).bind (·.version)) (some nw.version)
            (putBy PluginObs.name (newObs nw) (delBy PluginObs.name nw.name R))
        else mkStep (refusalR (existingR R nw.name) nw.version) none none R := by
  unfold specStep1
  simp only [hk]
  cases specNew op with
  | none => rfl
  | some nw =>
    simp only [ruleR_eq]
    cases allowedR (existingR R nw.name) op.overwrite nw.version <;> rfl

theorem refusalR_class (p : Option PluginObs) (vn : Text) :
    ((refusalR p vn != .downgrade || relTo .lt vn p) && (refusalR p vn != .equalVersion || relTo .eq vn p)) = true := by
  unfold refusalR
  cases relTo .lt vn p <;> cases relTo .eq vn p <;> rfl

theorem overwrite_of_not_allowedR {p : Option PluginObs} {ow : Bool} {vn : Text} (h : ¬ allowedR p ow vn = true) :
    ow = false := by
  cases p with
  | none => exact absurd rfl h
  | some p => cases ow with
    | false => rfl
    | true => exact absurd rfl h

/-- every step is a `mkStep`; a refusal keeps the root; only Install refuses with a version class -/
theorem specStep1_shape (R : List PluginObs) (op : Op) :
    ∃ e ex nw R', specStep1 R op = mkStep e ex nw R' ∧ (e ≠ .ok → R' = R) ∧
      (op.kind ≠ .install → e ≠ .downgrade ∧ e ≠ .equalVersion) := by
  cases hk : op.kind with
  | install =>
    rw [specStep1_install hk]
    cases specNew op with
    | none => exact ⟨_, _, _, _, rfl, fun _ => rfl, fun h => absurd rfl h⟩
    | some nw =>
      simp only []
      cases allowedR (existingR R nw.name) op.overwrite nw.version with
      | true => exact ⟨_, _, _, _, rfl, fun h => absurd rfl h, fun h => absurd rfl h⟩
      | false => exact ⟨_, _, _, _, rfl, fun _ => rfl, fun h => absurd rfl h⟩
  | uninstall =>
    simp only [specStep1, hk]
    cases validName op.name with
    | false => exact ⟨_, _, _, _, rfl, fun _ => rfl, fun _ => by decide⟩
    | true =>
      cases (lookupR R op.name).isSome with
      | true => exact ⟨_, _, _, _, rfl, fun h => absurd rfl h, fun _ => by decide⟩
      | false => exact ⟨_, _, _, _, rfl, fun _ => rfl, fun _ => by decide⟩
  | plant =>
    simp only [specStep1, hk]
    cases validName op.name with
    | false => exact ⟨_, _, _, _, rfl, fun _ => rfl, fun _ => by decide⟩
    | true => exact ⟨_, _, _, _, rfl, fun h => absurd rfl h, fun _ => by decide⟩
  | rmexe =>
    simp only [specStep1, hk]
    exact ⟨_, _, _, _, rfl, fun h => absurd rfl h, fun _ => by decide⟩
  | rminterp =>
    simp only [specStep1, hk]
    exact ⟨_, _, _, _, rfl, fun h => absurd rfl h, fun _ => by decide⟩

def specStep (R : List PluginObs) (op : Op) : StepObs := specStep1 (touchR R op) op

def specRun : List PluginObs → List Op → List StepObs
  | _, [] => []
  | R, op :: ops => specStep R op :: specRun (specStep R op).root ops

theorem pobs_name (p : Plugin) : (pobs p).name = p.name := rfl

theorem observe_names (st : State) : (observe st).map (·.name) = st.map Plugin.name := by
  simp only [observe, List.map_map]; rfl

theorem lookupR_observe (st : State) (n : Text) :
    lookupR (observe st) n = (findBy Plugin.name n st).map pobs :=
  findBy_map Plugin.name PluginObs.name pobs pobs_name n st

theorem fobs_name (f : File) : (fobs f).name = f.name := rfl

theorem hasExe_pobs (p : Plugin) :
    hasExe (pobs p) = (findBy File.name (binName p.name) p.files).isSome := by
  rw [Bool.eq_iff_iff]
  simp only [hasExe, pobs, findBy, List.any_map, List.any_eq_true, List.find?_isSome, Function.comp, fobs]

theorem versionRule_eq (st : State) (ow : Bool) {nw : New} (hv : validName nw.name = true) :
    versionRule st ow nw = ruleR (existingR (observe st) nw.name) ow nw := by
  unfold existingR
  rw [lookupR_observe]
  unfold versionRule getExe ruleR
  simp only [hv, Bool.not_true, Bool.false_eq_true, if_false]
  cases hf : findBy Plugin.name nw.name st with
  | none => simp
  | some p =>
    obtain ⟨hmem, hname⟩ := findBy_some Plugin.name hf
    simp only [Option.map_some, hasExe_pobs, hname]
    cases hx : findBy File.name (binName nw.name) p.files with
    | none => simp
    | some f =>
      have hpv : (pobs p).version = metadata nw.name f := by
        simp [pobs, answer, hname, hv, hx]
      simp [hpv]

theorem observe_replace {op : Op} {nw : New} (h : specNew op = some nw) (st : State) :
    observe (replace st nw) =
      putBy PluginObs.name (newObs nw) (delBy PluginObs.name nw.name (observe st)) := by
  unfold observe replace
  rw [map_putBy Plugin.name PluginObs.name pobs pobs_name, map_delBy Plugin.name PluginObs.name pobs pobs_name]
  congr 1
  simp [pobs, newObs, answer_new h]

theorem newOf_valid {op : Op} {l : Option Located} {nw : New} (h : newOf op l = some nw) :
    validName nw.name = true := by
  obtain ⟨loc, _, hv, _, _, hn, _⟩ := newOf_some h
  rw [hn]; exact hv

theorem pobs_rmexe (n : Text) (p : Plugin) :
    pobs (if p.name == n then { p with files := delBy File.name (binName n) p.files } else p) =
      rmexeObs n (pobs p) := by
  unfold rmexeObs
  by_cases h : (p.name == n) = true
  · have hn : p.name = n := by simpa using h
    simp only [h, if_true, pobs_name]
    simp only [pobs, map_delBy File.name FileObs.name fobs fobs_name]
    congr 1
    simp only [answer, hn]
    split
    · rfl
    · rw [findBy_delBy_self]; rfl
  · simp only [h, pobs_name]; rfl

theorem answer_chmod (p : Plugin) (fn : Text) (h : fn ≠ binName p.name) :
    answer { p with files := p.files.map fun f => if f.name == fn then { f with exec := true } else f } =
      answer p := by
  unfold answer
  simp only
  split
  · rfl
  · rw [findBy_map File.name File.name _ (by intro a; split <;> rfl)]
    cases hf : findBy File.name (binName p.name) p.files with
    | none => rfl
    | some g =>
      have hg := (findBy_some File.name hf).2
      have hne : g.name ≠ fn := by rw [hg]; exact fun e => h e.symm
      simp [hne]

theorem observe_chmodIn (X fn : Text) (st : State) (h : fn ≠ binName X) :
    observe (chmodIn X fn st) = chmodInR X fn (observe st) := by
  unfold observe chmodIn chmodInR
  simp only [List.map_map]
  apply List.map_congr_left
  intro p _
  simp only [Function.comp, pobs_name]
  by_cases hp : (p.name == X) = true
  · have hX : p.name = X := by simpa using hp
    simp only [hp, if_true]
    have ha := answer_chmod p fn (by rw [hX]; exact h)
    simp only [pobs, ha, List.map_map]
    congr 1
    apply List.map_congr_left
    intro f _
    simp only [Function.comp, fobs]
    by_cases hf : (f.name == fn) = true <;> simp [hf, File.usesInterp]
  · simp only [hp]; rfl

theorem srcChmod_cases (op : Op) :
    srcChmod op (specLocate op) = none ∨
      ∃ X fn, srcChmod op (specLocate op) = some (X, fn) ∧ fn ≠ binName X := by
  cases hl : specLocate op with
  | none => exact Or.inl rfl
  | some loc =>
    simp only [srcChmod]
    split
    · rename_i hc
      refine Or.inr ⟨_, _, rfl, ?_⟩
      -- `fn = binName loc.name`, `X = op.srcIn ≠ loc.name` (not inside its own directory), `binName` injective
      simp only [Bool.and_eq_true, Bool.not_eq_true', insideOwn, Bool.and_eq_false_iff] at hc
      obtain ⟨⟨⟨⟨_, _⟩, hio⟩, _⟩, hne⟩ := hc
      rw [specLocate_exe_name hl]
      intro e
      rcases hio with hio | hio
      · simp [hne] at hio
      · simp [List.append_cancel_left e] at hio
    · exact Or.inl rfl

theorem observe_touchSt (st : State) (op : Op) : observe (touchSt st op) = touchR (observe st) op := by
  unfold touchSt touchR
  rw [locate_eq_spec]
  rcases srcChmod_cases op with h | ⟨X, fn, h, hne⟩
  · rw [h]
  · rw [h]; exact observe_chmodIn X fn st hne

theorem mem_touchSt {st : State} {op : Op} {p : Plugin} (hp : p ∈ touchSt st op) :
    ∃ q ∈ st, q.name = p.name ∧ answer q = answer p := by
  unfold touchSt at hp
  rw [locate_eq_spec] at hp
  rcases srcChmod_cases op with h | ⟨X, fn, h, hne⟩ <;> rw [h] at hp
  · exact ⟨p, hp, rfl, rfl⟩
  · obtain ⟨q, hq, rfl⟩ := List.mem_map.1 hp
    refine ⟨q, hq, ?_⟩
    split
    · rename_i hX
      exact ⟨rfl, (answer_chmod q fn (by rw [beq_iff_eq.1 hX]; exact hne)).symm⟩
    · exact ⟨rfl, rfl⟩

theorem srcChmod_noninstall {op : Op} (h : op.kind ≠ .install) (l : Option Located) : srcChmod op l = none := by
  cases l with
  | none => rfl
  | some l => simp [srcChmod, beq_eq_false_iff_ne.2 h]

theorem touchR_noninstall (R : List PluginObs) (op : Op) (h : op.kind ≠ .install) : touchR R op = R := by
  unfold touchR; rw [srcChmod_noninstall h]

theorem touchSt_noninstall (st : State) (op : Op) (h : op.kind ≠ .install) : touchSt st op = st := by
  unfold touchSt; rw [srcChmod_noninstall h]

theorem breakInterp_name (f : File) : (breakInterp f).name = f.name := by
  unfold breakInterp
  split
  · split <;> rfl
  · rfl

theorem fobs_breakInterp (f : File) : fobs (breakInterp f) = fobs f := by
  unfold breakInterp
  cases hs : f.script with
  | none => rfl
  | some sc =>
    by_cases hi : sc.interp = true
    · simp [hi, fobs, File.usesInterp, hs]
    · simp [hi]

theorem metadata_breakInterp (n : Text) (f : File) :
    metadata n (breakInterp f) = if f.usesInterp then none else metadata n f := by
  unfold breakInterp File.usesInterp
  cases hs : f.script with
  | none => simp
  | some sc =>
    by_cases hi : sc.interp = true
    · simp [hi, metadata]
    · simp [hi]

theorem pobs_rminterp (n : Text) (p : Plugin) :
    pobs (if p.name == n then { p with files := p.files.map breakInterp } else p) =
      rminterpObs n (pobs p) := by
  unfold rminterpObs
  by_cases h : (p.name == n) = true
  · simp only [h, if_true, pobs_name]
    have hfiles : (p.files.map breakInterp).map fobs = p.files.map fobs := by
      simp only [List.map_map]
      apply List.map_congr_left
      intro f _
      exact fobs_breakInterp f
    have hfind : findBy File.name (binName p.name) (p.files.map breakInterp) =
        (findBy File.name (binName p.name) p.files).map breakInterp :=
      findBy_map File.name File.name breakInterp breakInterp_name _ _
    have hex : exeInterp (pobs p) =
        (((findBy File.name (binName p.name) p.files).map File.usesInterp) == some true) := by
      unfold exeInterp
      simp only [pobs]
      rw [findBy_map File.name FileObs.name fobs fobs_name]
      cases findBy File.name (binName p.name) p.files <;> simp [fobs]
    rw [hex]
    simp only [pobs, hfiles]
    congr 1
    simp only [answer]
    split
    · simp
    · rw [hfind]
      cases hf : findBy File.name (binName p.name) p.files with
      | none => simp
      | some g =>
        simp only [Option.map_some, Option.bind_some, metadata_breakInterp]
        cases g.usesInterp <;> simp
  · simp only [h, pobs_name]; rfl

theorem observe_rmexe (st : State) (n : Text) : observe (rmexe st n) = (observe st).map (rmexeObs n) := by
  simp only [observe, rmexe, List.map_map]
  exact List.map_congr_left fun p _ => pobs_rmexe n p

theorem observe_rminterp (st : State) (n : Text) :
    observe (rminterp st n) = (observe st).map (rminterpObs n) := by
  simp only [observe, rminterp, List.map_map]
  exact List.map_congr_left fun p _ => pobs_rminterp n p

def obsOf (r : Outcome × State) : StepObs :=
  ⟨r.1.err, r.1.existing, r.1.new, observe r.2, (observe r.2).map (·.name)⟩

theorem install1_eq_spec (st : State) (op : Op) (hk : op.kind = .install) :
    obsOf (install1 st op) = specStep1 (observe st) op := by
  simp only [specStep1, hk, install1, locate_eq_spec, specNew]
  cases hn : newOf op (specLocate op) with
  | none => rfl
  | some nw =>
    simp only []
    rw [versionRule_eq st op.overwrite (newOf_valid hn)]
    cases ruleR (existingR (observe st) nw.name) op.overwrite nw with
    | error e => rfl
    | ok ex => simp only [obsOf, mkStep, observe_replace hn]

theorem step_eq_spec (st : State) (op : Op) : stepObs st op = specStep (observe st) op := by
  show obsOf (step st op) = specStep1 (touchR (observe st) op) op
  by_cases hi : op.kind = .install
  · rw [← observe_touchSt, ← install1_eq_spec _ op hi]
    simp only [step, hi, install]
  · rw [touchR_noninstall _ _ hi]
    unfold step specStep1
    cases hk : op.kind with
    | install => exact absurd hk hi
    | uninstall =>
      simp only [uninstall, lookupR_observe, Option.isSome_map]
      split
      · rfl
      · split
        · simp only [obsOf, mkStep, observe, map_delBy Plugin.name PluginObs.name pobs pobs_name]
        · rfl
    | plant =>
      simp only [plant]
      split
      · rfl
      · simp only [obsOf, mkStep, observe, map_putBy Plugin.name PluginObs.name pobs pobs_name,
          map_delBy Plugin.name PluginObs.name pobs pobs_name]
    | rmexe => simp only [obsOf, mkStep, observe_rmexe]
    | rminterp => simp only [obsOf, mkStep, observe_rminterp]

theorem runOps_eq_spec : ∀ (ops : List Op) (st : State),
    runOps st ops = specRun (observe st) ops := by
  intro ops
  induction ops with
  | nil => intro st; rfl
  | cons op ops ih =>
    intro st
    have h := step_eq_spec st op
    simp only [runOps, specRun]
    rw [h, ih, show observe (step st op).2 = (specStep (observe st) op).root from congrArg StepObs.root h]

end NotationModel.C20
