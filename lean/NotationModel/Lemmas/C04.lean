/-
C04 - helper lemmas: the map-building loops of `pkix.ParseDistinguishedName`, the identity loop
of `verifyX509TrustedIdentities` and the check itself computed in closed form.
-/
import NotationModel.Model.C04

namespace NotationModel.C04

/-! ### association lists -/

/-- the attribute types of a map, in insertion order -/
def keys (m : List Attr) : List Text := m.map Prod.fst

@[simp] theorem keys_nil : keys [] = [] := rfl
@[simp] theorem keys_cons (a : Attr) (m : List Attr) : keys (a :: m) = a.1 :: keys m := rfl
@[simp] theorem keys_append (m l : List Attr) : keys (m ++ l) = keys m ++ keys l := by
  simp [keys]

theorem mem_keys {k : Text} {m : List Attr} : k ∈ keys m ↔ ∃ v, (k, v) ∈ m := by
  simp [keys]

theorem nodupKeys_iff (m : List Attr) : nodupKeys m = true ↔ (keys m).Nodup := by
  induction m with
  | nil => simp [nodupKeys]
  | cons a r ih =>
    have : (r.any fun b => b.1 == a.1) = false ↔ a.1 ∉ keys r := by
      simp only [List.any_eq_false, beq_iff_eq, mem_keys, not_exists]
      exact ⟨fun h v hv => h _ hv rfl, fun h b hb e => h b.2 (e ▸ hb)⟩
    simp only [nodupKeys, keys_cons, List.nodup_cons, Bool.and_eq_true, Bool.not_eq_true', ih, this]

theorem lookup_eq_none {k : Text} {m : List Attr} : lookup k m = none ↔ k ∉ keys m := by
  induction m with
  | nil => simp [lookup]
  | cons a r ih =>
    obtain ⟨k', v⟩ := a
    by_cases h : k' = k
    · simp [lookup, h]
    · simp [lookup, h, ih, Ne.symm h]

theorem lookup_mem {k v : Text} {m : List Attr} (h : lookup k m = some v) : (k, v) ∈ m := by
  induction m with
  | nil => cases h
  | cons a r ih =>
    obtain ⟨k', v'⟩ := a
    by_cases hk : k' = k <;> simp_all [lookup]

/-- reading a map with a test on the value = searching the list, when keys are unique -/
theorem lookup_any (m : List Attr) (hn : (keys m).Nodup) (k : Text) (p : Text → Bool) :
    present p (lookup k m) = m.any (fun a => a.1 == k && p a.2) := by
  induction m with
  | nil => rfl
  | cons a r ih =>
    rw [keys_cons, List.nodup_cons] at hn
    simp only [lookup, List.any_cons, ← ih hn.2]
    by_cases h : a.1 = k
    · -- the first entry answers; no later entry has the key
      simp [h, lookup_eq_none.2 (h ▸ hn.1), present]
    · simp [h]

/-! ### pkix.ParseDistinguishedName in closed form -/

theorem norm_norm (a : Attr) : norm (norm a) = norm a := by
  have h : aliasTo ≠ aliasFrom := by decide
  unfold norm
  by_cases e : a.1 = aliasFrom
  · simp [e, h]
  · simp [e]

theorem flat_nil : flat [] = [] := rfl

theorem flat_cons (r : List Attr) (rs : List (List Attr)) : flat (r :: rs) = r.map norm ++ flat rs := by
  simp [flat]

theorem mem_flat {a : Attr} {rs : List (List Attr)} :
    a ∈ flat rs ↔ ∃ r ∈ rs, ∃ b ∈ r, norm b = a := by
  simp only [flat, List.mem_map, List.mem_flatten]
  constructor
  · rintro ⟨b, ⟨r, hr, hb⟩, e⟩; exact ⟨r, hr, b, hb, e⟩
  · rintro ⟨r, hr, b, hb, e⟩; exact ⟨b, ⟨r, hr, hb⟩, e⟩

theorem nodup_keys_snoc {m : List Attr} {a : Attr} (hm : (keys m).Nodup) (ha : a.1 ∉ keys m) :
    (keys (m ++ [a])).Nodup := by
  rw [keys_append, List.nodup_append]
  exact ⟨hm, by simp, fun x hx y hy e => ha (by rw [← List.mem_singleton.1 hy, ← e]; exact hx)⟩

theorem addAttrs_eq (as : List Attr) : ∀ m : AttrMap, (keys m).Nodup →
    addAttrs as m = if (keys (m ++ as.map norm)).Nodup then some (m ++ as.map norm) else none := by
  induction as with
  | nil => intro m hm; simp [addAttrs, hm]
  | cons a as ih =>
    intro m hm
    simp only [addAttrs, List.map_cons]
    cases h : lookup (norm a).1 m with
    | none =>
      simp only [ih _ (nodup_keys_snoc hm (lookup_eq_none.1 h)), List.append_assoc, List.singleton_append]
    | some v =>
      have : ¬ (keys (m ++ norm a :: as.map norm)).Nodup := fun hnd => by
        rw [keys_append, List.nodup_append] at hnd
        exact hnd.2.2 _ (mem_keys.2 ⟨v, lookup_mem h⟩) _ List.mem_cons_self rfl
      rw [if_neg this]

theorem addRDNs_eq (rs : List (List Attr)) : ∀ m : AttrMap, (keys m).Nodup →
    addRDNs rs m =
      if (∀ r ∈ rs, r.length ≤ maxAttrs) ∧ (keys (m ++ flat rs)).Nodup then some (m ++ flat rs) else none := by
  induction rs with
  | nil => intro m hm; simp [addRDNs, flat_nil, hm]
  | cons r rs ih =>
    intro m hm
    simp only [addRDNs, flat_cons, ← List.append_assoc, List.forall_mem_cons]
    by_cases hl : r.length > maxAttrs
    · rw [if_pos hl, if_neg fun h => Nat.not_le.2 hl h.1.1]
    · rw [if_neg hl, addAttrs_eq r m hm]
      by_cases hnd : (keys (m ++ r.map norm)).Nodup
      · simp only [if_pos hnd, ih _ hnd, Nat.not_lt.1 hl, true_and]
      · have : ¬ (keys (m ++ r.map norm ++ flat rs)).Nodup := fun h => by
          rw [keys_append] at h; exact hnd (List.nodup_append.1 h).1
        rw [if_neg hnd, if_neg fun h => this h.2]

theorem mandatoryPresent_eq (m : AttrMap) (hn : (keys m).Nodup) :
    mandatoryPresent m = hasMandatory m := by
  unfold mandatoryPresent hasMandatory
  congr 1
  funext f
  exact lookup_any m hn f (fun v => !v.isEmpty)

/-- `pkix.ParseDistinguishedName` succeeds exactly on the interpretable names, and then
returns the flat attribute list -/
theorem parseDN_eq (text : Text) (rdns : Option (List (List Attr))) :
    parseDN text rdns = if validDN text rdns then some (attrsOf rdns) else none := by
  unfold parseDN validDN
  cases hasInfix unsupported text with
  | true => rfl
  | false =>
    cases rdns with
    | none => rfl
    | some rs =>
      simp only [Bool.false_eq_true, if_false, addRDNs_eq rs [] List.nodup_nil, List.nil_append]
      by_cases h : (∀ r ∈ rs, r.length ≤ maxAttrs) ∧ (keys (flat rs)).Nodup
      · have hall : rs.all (fun r => decide (r.length ≤ maxAttrs)) = true := by simpa using h.1
        simp only [if_pos h, mandatoryPresent_eq _ h.2, hall, (nodupKeys_iff _).2 h.2, attrsOf,
          Bool.not_false, Bool.true_and]
      · have : (rs.all (fun r => decide (r.length ≤ maxAttrs)) && nodupKeys (flat rs)) = false := by
          rw [Bool.eq_false_iff]
          intro hh
          simp only [Bool.and_eq_true, List.all_eq_true, decide_eq_true_eq, nodupKeys_iff] at hh
          exact h hh
        simp only [if_neg h, this, Bool.false_and, Bool.and_false, Bool.false_eq_true, if_false]

theorem validDN_keys_nodup {text : Text} {rs : List (List Attr)} (h : validDN text (some rs) = true) :
    (keys (flat rs)).Nodup := by
  unfold validDN at h
  simp only [Bool.and_eq_true] at h
  exact (nodupKeys_iff _).1 h.2.1.2

/-- `pkix.IsSubsetDN` = attribute-wise containment, when the container has unique keys -/
theorem isSubset_eq (m l : AttrMap) (hl : (keys l).Nodup) :
    isSubset m l = m.all (fun a => l.contains a) := by
  unfold isSubset
  apply List.all_congr rfl
  intro kv
  rw [lookup_any l hl kv.1 (fun got => got == kv.2), Bool.eq_iff_iff]
  simp only [List.any_eq_true, Bool.and_eq_true, beq_iff_eq, List.contains_iff_mem]
  constructor
  · rintro ⟨a, ha, e1, e2⟩
    have : a = kv := Prod.ext e1 e2
    rw [← this]; exact ha
  · intro h; exact ⟨kv, h, rfl, rfl⟩

/-! ### the identity loop in closed form -/

theorem collect_cons (id : Identity) (rest : List Identity) (acc : List AttrMap) :
    collect (id :: rest) acc =
      if malformed id then none else collect rest (if usable id then acc ++ [attrsOf id.rdns] else acc) := by
  cases hc : cut id.raw with
  | none => simp [collect, malformed, hc]
  | some pv =>
    obtain ⟨pfx, val⟩ := pv
    by_cases hp : pfx = x509Subject
    · cases he : val.isEmpty <;> cases hv : validDN val id.rdns <;>
        simp [collect, malformed, usable, x509Value, hc, hp, parseDN_eq, he, hv]
    · simp [collect, malformed, usable, x509Value, hc, hp]

theorem collect_eq (ids : List Identity) : ∀ acc : List AttrMap,
    collect ids acc =
      if ids.any malformed then none
      else some (acc ++ (ids.filter usable).map (fun id => attrsOf id.rdns)) := by
  induction ids with
  | nil => intro acc; simp [collect]
  | cons id rest ih =>
    intro acc
    rw [collect_cons, ih, List.any_cons, List.filter_cons]
    cases malformed id <;> cases usable id <;> simp

theorem isX509_of_usable {id : Identity} (h : usable id = true) : isX509 id = true := by
  unfold usable at h
  unfold isX509
  cases hx : x509Value id with
  | none => rw [hx] at h; cases h
  | some v => rfl

/-- **the model computes the specification**: the check as a function of the list and the leaf -/
theorem verifyIdentities_eq (ids : List Identity) (chain : List DN) :
    verifyIdentities ids chain =
      (ids.any isWild || (!ids.any malformed &&
        match chain.head? with
        | none => false
        | some d => validDN d.text d.rdns && ids.any (fun id => within id (attrsOf d.rdns)))) := by
  unfold verifyIdentities
  rw [show (ids.any fun id => id.raw == wildcard) = ids.any isWild from rfl, collect_eq,
    show chain[leafIndex]? = chain.head? from List.head?_eq_getElem?.symm]
  cases ids.any isWild with
  | true => rfl
  | false =>
    cases ids.any malformed with
    | true => rfl
    | false =>
      simp only [Bool.false_eq_true, if_false, List.nil_append, Bool.false_or, Bool.not_false, Bool.true_and]
      -- The model's arm `some []` ("no x509 identity is configured") is no case of its own: on the empty
      -- list its last arm answers `false` as well, because `[].any _ = false`. That is why the closed form
      -- has no conjunct `any isX509`, and it is all that the three `cases _ <;> rfl` on the collected list say.
      cases chain.head? with
      | none => cases (ids.filter usable).map (fun id => attrsOf id.rdns) <;> rfl
      | some d =>
        simp only [parseDN_eq]
        cases hv : validDN d.text d.rdns with
        | false => cases (ids.filter usable).map (fun id => attrsOf id.rdns) <;> rfl
        | true =>
          have hany : ((ids.filter usable).map (fun id => attrsOf id.rdns)).any (fun m => isSubset m (attrsOf d.rdns)) =
              ids.any (fun id => within id (attrsOf d.rdns)) := by
            rw [List.any_map, List.any_filter]
            apply List.any_congr rfl
            intro id
            cases hr : d.rdns with
            | none => simp [validDN, hr] at hv
            | some ls =>
              rw [hr] at hv
              simp only [Function.comp, within, attrsOf, isSubset_eq _ _ (validDN_keys_nodup hv)]
          rw [Bool.true_and, ← hany]
          cases (ids.filter usable).map (fun id => attrsOf id.rdns) <;> rfl

end NotationModel.C04
