/-
C20 - lemmas about the orderings of the model: `cmpNat`, `cmpChar`, `lex`, `cmpText`,
`cmpIdent`, `cmpPre`, `cmpVersion` are all "good" comparisons (reflexive, equality-reflecting,
antisymmetric, transitive).
-/
import NotationModel.Model.C20

namespace NotationModel.C20

/-- a comparison function that is a strict total order with `.eq` exactly on equal arguments -/
structure Good {α : Type} (c : α → α → Ordering) : Prop where
  refl : ∀ a, c a a = .eq
  eq_imp : ∀ a b, c a b = .eq → a = b
  swap : ∀ a b, c b a = (c a b).swap
  trans : ∀ a b d, c a b = .lt → c b d = .lt → c a d = .lt

theorem Good.gt_iff {α : Type} {c : α → α → Ordering} (g : Good c) (a b : α) :
    c a b = .gt ↔ c b a = .lt := by
  rw [g.swap a b]; cases c a b <;> simp [Ordering.swap]

theorem Good.eq_iff {α : Type} {c : α → α → Ordering} (g : Good c) (a b : α) :
    c a b = .eq ↔ a = b :=
  ⟨g.eq_imp a b, fun h => h ▸ g.refl a⟩

/-- a comparison that core knows to be transitive and to answer `.eq` only on equal arguments is good -/
theorem Good.of_cmp {α : Type} (c : α → α → Ordering) [Std.TransCmp c] [Std.LawfulEqCmp c] : Good c where
  refl _ := Std.ReflCmp.compare_self
  eq_imp _ _ := Std.LawfulEqCmp.eq_of_compare
  swap _ _ := Std.OrientedCmp.eq_swap
  trans _ _ _ := Std.TransCmp.lt_trans

theorem Good.transCmp {α : Type} {c : α → α → Ordering} (g : Good c) : Std.TransCmp c where
  eq_swap {a b} := g.swap b a
  isLE_trans {a b d} h1 h2 := by
    cases hab : c a b with
    | gt => rw [hab] at h1; cases h1
    | eq => rw [g.eq_imp a b hab]; exact h2
    | lt =>
      cases hbd : c b d with
      | gt => rw [hbd] at h2; cases h2
      | eq => rw [← g.eq_imp b d hbd, hab]; rfl
      | lt => rw [g.trans a b d hab hbd]; rfl

theorem Good.lawfulEqCmp {α : Type} {c : α → α → Ordering} (g : Good c) : Std.LawfulEqCmp c where
  compare_self {a} := g.refl a
  eq_of_compare {a b} := g.eq_imp a b

/-- `cmpNat a b` is `compare a b` by definition -/
theorem cmpNat_lt (a b : Nat) : cmpNat a b = .lt ↔ a < b := Nat.compare_eq_lt

theorem cmpNat_eq (a b : Nat) : cmpNat a b = .eq ↔ a = b := Nat.compare_eq_eq

theorem good_cmpNat : Good cmpNat := Good.of_cmp (compare : Nat → Nat → Ordering)

theorem Good.comap {α β : Type} {c : β → β → Ordering} (g : Good c) (f : α → β)
    (inj : ∀ a b, f a = f b → a = b) : Good (fun a b => c (f a) (f b)) where
  refl _ := g.refl _
  eq_imp a b h := inj a b (g.eq_imp _ _ h)
  swap _ _ := g.swap _ _
  trans _ _ _ := g.trans _ _ _

theorem good_cmpChar : Good cmpChar := good_cmpNat.comap Char.toNat fun _ _ => Char.toNat_inj.1

/-- the model's `andThen` is core's `Ordering.then` -/
theorem andThen_eq_then (o p : Ordering) : andThen o p = o.then p := by cases o <;> rfl
theorem andThen_lt (o p : Ordering) : andThen o p = .lt ↔ o = .lt ∨ (o = .eq ∧ p = .lt) := by
  rw [andThen_eq_then]; exact Ordering.then_eq_lt
theorem andThen_eq (o p : Ordering) : andThen o p = .eq ↔ o = .eq ∧ p = .eq := by
  rw [andThen_eq_then]; exact Ordering.then_eq_eq
theorem andThen_swap (o p : Ordering) : andThen o.swap p.swap = (andThen o p).swap := by
  rw [andThen_eq_then, andThen_eq_then]; exact (Ordering.swap_then ..).symm
theorem andThen_trans {α : Type} {c : α → α → Ordering} (g : Good c) {a b d : α} {p q r : Ordering}
    (hpqr : p = .lt → q = .lt → r = .lt)
    (h1 : andThen (c a b) p = .lt) (h2 : andThen (c b d) q = .lt) : andThen (c a d) r = .lt := by
  rw [andThen_lt] at h1 h2 ⊢
  rcases h1 with h1 | ⟨e1, h1⟩
  · rcases h2 with h2 | ⟨e2, _⟩
    · exact Or.inl (g.trans a b d h1 h2)
    · exact Or.inl (g.eq_imp b d e2 ▸ h1)
  · have e := g.eq_imp a b e1
    subst e
    exact h2.imp_right fun ⟨e2, h2⟩ => ⟨e2, hpqr h1 h2⟩

section lex
variable {α : Type} {c : α → α → Ordering}

theorem lex_cons_cons (a b : α) (as bs : List α) :
    lex c (a :: as) (b :: bs) = andThen (c a b) (lex c as bs) := by
  simp only [lex, andThen]

/-- the model's `lex` is core's `List.compareLex` -/
theorem lex_eq_compareLex : lex c = List.compareLex c := by
  funext as bs
  induction as generalizing bs with
  | nil => cases bs <;> rfl
  | cons a as ih =>
    cases bs with
    | nil => rfl
    | cons b bs => rw [lex_cons_cons, andThen_eq_then, ih, List.compareLex_cons_cons]

theorem good_lex (g : Good c) : Good (lex c) := by
  have := g.transCmp
  have := g.lawfulEqCmp
  rw [lex_eq_compareLex]
  exact Good.of_cmp _

end lex

theorem good_cmpText : Good cmpText := good_lex good_cmpChar

theorem good_cmpIdent : Good cmpIdent where
  refl a := by cases a <;> simp [cmpIdent, good_cmpNat.refl, good_cmpText.refl]
  eq_imp a b h := by
    cases a <;> cases b <;> simp [cmpIdent] at h ⊢
    · exact good_cmpNat.eq_imp _ _ h
    · exact good_cmpText.eq_imp _ _ h
  swap a b := by
    cases a <;> cases b <;> simp [cmpIdent, Ordering.swap]
    · exact good_cmpNat.swap _ _
    · exact good_cmpText.swap _ _
  trans a b d h1 h2 := by
    cases a <;> cases b <;> cases d <;> simp [cmpIdent] at h1 h2 ⊢
    · exact good_cmpNat.trans _ _ _ h1 h2
    · exact good_cmpText.trans _ _ _ h1 h2

theorem good_cmpPre : Good cmpPre where
  refl a := by
    cases a with
    | nil => rfl
    | cons x xs => simp only [cmpPre]; exact (good_lex good_cmpIdent).refl _
  eq_imp a b h := by
    cases a <;> cases b <;> simp [cmpPre] at h ⊢
    exact List.cons_eq_cons.1 ((good_lex good_cmpIdent).eq_imp _ _ h)
  swap a b := by
    cases a <;> cases b <;> simp [cmpPre, Ordering.swap]
    exact (good_lex good_cmpIdent).swap _ _
  trans a b d h1 h2 := by
    cases a <;> cases b <;> cases d <;> simp [cmpPre] at h1 h2 ⊢
    exact (good_lex good_cmpIdent).trans _ _ _ h1 h2

theorem good_andThen {α β : Type} {c1 : α → α → Ordering} {c2 : β → β → Ordering}
    (g1 : Good c1) (g2 : Good c2) :
    Good (fun (p q : α × β) => andThen (c1 p.1 q.1) (c2 p.2 q.2)) where
  refl p := by simp [g1.refl, g2.refl, andThen]
  eq_imp p q h := by
    rw [andThen_eq] at h
    exact Prod.ext (g1.eq_imp _ _ h.1) (g2.eq_imp _ _ h.2)
  swap p q := by
    show andThen (c1 q.1 p.1) (c2 q.2 p.2) = _
    rw [g1.swap p.1 q.1, g2.swap p.2 q.2, andThen_swap]
  trans p q r h1 h2 := andThen_trans g1 (g2.trans _ _ _) h1 h2

/-- `cmpVersion` is the nested `andThen` over these fields -/
def Version.tuple (v : Version) : Nat × Nat × Nat × List Ident := (v.major, v.minor, v.patch, v.pre)

theorem good_cmpVersion : Good cmpVersion := by
  have g := good_andThen good_cmpNat (good_andThen good_cmpNat (good_andThen good_cmpNat good_cmpPre))
  have := g.comap Version.tuple (by
    intro a b h; cases a; cases b; simp [Version.tuple] at h ⊢; exact h)
  exact this

end NotationModel.C20
