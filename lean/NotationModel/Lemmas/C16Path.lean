/-
C16 - lemmas about the lexical path functions of `Model/C16.lean` (used by `Props/C16.lean`).
-/
import NotationModel.Model.C16
namespace NotationModel.C16

theorem splitSlash_ne_nil (p : Text) : splitSlash p ≠ [] := by
  cases p with
  | nil => simp [splitSlash]
  | cons c cs =>
    simp only [splitSlash]
    split
    · simp
    · split <;> simp

theorem splitSlash_append (a b : Text) : splitSlash (a ++ '/' :: b) = splitSlash a ++ splitSlash b := by
  induction a with
  | nil => simp [splitSlash]
  | cons c a ih =>
    simp only [List.cons_append, splitSlash]
    by_cases hc : c = '/'
    · simp [hc, ih]
    · simp only [hc, if_false, ih]
      cases h : splitSlash a with
      | nil => exact absurd h (splitSlash_ne_nil a)
      | cons x t => simp

theorem splitSlash_noslash (n : Text) (h : '/' ∉ n) : splitSlash n = [n] := by
  induction n with
  | nil => rfl
  | cons c n ih =>
    have hc : c ≠ '/' := fun e => h (by simp [e])
    have hn : '/' ∉ n := fun e => h (by simp [e])
    simp [splitSlash, hc, ih hn]

theorem splitSlash_slashfree (p : Text) : ∀ c ∈ splitSlash p, '/' ∉ c := by
  induction p with
  | nil => simp [splitSlash]
  | cons a p ih =>
    rw [splitSlash]
    split
    · simpa using ih
    · rename_i ha
      cases h : splitSlash p with
      | nil => exact absurd h (splitSlash_ne_nil p)
      | cons x t =>
        rw [h] at ih
        rw [List.forall_mem_cons] at ih ⊢
        exact ⟨fun hm => (List.mem_cons.1 hm).elim (fun e => ha e.symm) ih.1, ih.2⟩

/-- a proper path component: not empty, no separator -/
def Plain (c : Text) : Prop := c ≠ [] ∧ '/' ∉ c

/-- a component `Clean` keeps as it is -/
def Good (c : Text) : Prop := c ≠ [] ∧ c ≠ dot ∧ c ≠ dotdot ∧ '/' ∉ c

theorem Good.plain {c : Text} (h : Good c) : Plain c := ⟨h.1, h.2.2.2⟩

theorem comps_append_slash (a b : Text) : comps (a ++ '/' :: b) = comps a ++ comps b := by
  simp [comps, splitSlash_append]

theorem comps_cons_slash (b : Text) : comps ('/' :: b) = comps b := by
  simp [comps, splitSlash]

theorem splitSlash_joinSlash : ∀ (cs : List Text), cs ≠ [] → (∀ x ∈ cs, '/' ∉ x) → splitSlash (joinSlash cs) = cs
  | [], h, _ => absurd rfl h
  | [a], _, h => by simpa [joinSlash] using splitSlash_noslash a (h a (by simp))
  | a :: b :: r, _, h => by
    have ih := splitSlash_joinSlash (b :: r) (by simp) (fun x hx => h x (by simp [hx]))
    simp only [joinSlash, splitSlash_append, ih, splitSlash_noslash a (h a (by simp))]
    rfl

theorem comps_joinSlash (cs : List Text) (h : ∀ x ∈ cs, Plain x) : comps (joinSlash cs) = cs := by
  cases cs with
  | nil => rfl
  | cons a r =>
    rw [comps, splitSlash_joinSlash _ (by simp) (fun x hx => (h x hx).2)]
    exact List.filter_eq_self.2 (fun x hx => by simpa using (h x hx).1)

theorem step_drop {c : Text} (r : Bool) (stk : List Text) (h : c = [] ∨ c = dot) : step r stk c = stk := by
  simp only [step, h, if_true]

theorem dotdot_not_dropped : ¬ (dotdot = [] ∨ dotdot = dot) := by decide

theorem step_dotdot_nil (r : Bool) : step r [] dotdot = if r then [] else [dotdot] := by
  simp only [step, dotdot_not_dropped, if_false, if_true]

theorem step_dotdot_cons (r : Bool) (t : Text) (rest : List Text) :
    step r (t :: rest) dotdot = if t = dotdot then dotdot :: t :: rest else rest := by
  simp only [step, dotdot_not_dropped, if_false, if_true]

theorem step_push {c : Text} (r : Bool) (stk : List Text) (h1 : c ≠ []) (h2 : c ≠ dot) (h3 : c ≠ dotdot) :
    step r stk c = c :: stk := by
  simp [step, h1, h2, h3]

/-- What holds of the stack and of every component that is pushed holds of the stack afterwards. The
only other thing `step` ever puts on a stack is a `..`: on an empty relative stack, or on top of
another `..`, which the stack then held already. -/
theorem step_forall {P : Text → Prop} {r : Bool} {stk : List Text} {c : Text} (hs : ∀ x ∈ stk, P x)
    (hd : r = false → P dotdot) (hc : c ≠ [] → c ≠ dot → c ≠ dotdot → P c) : ∀ x ∈ step r stk c, P x := by
  by_cases h0 : c = [] ∨ c = dot
  · rw [step_drop r stk h0]
    exact hs
  · by_cases h3 : c = dotdot
    · subst h3
      cases stk with
      | nil =>
        rw [step_dotdot_nil]
        cases r
        · simpa using hd rfl
        · simp
      | cons t rest =>
        rw [step_dotdot_cons]
        split
        · rename_i ht
          intro x hx
          rcases List.mem_cons.1 hx with e | e
          · exact e ▸ ht ▸ hs t (by simp)
          · exact hs x e
        · intro x hx
          exact hs x (List.mem_cons_of_mem _ hx)
    · have h1 : c ≠ [] := fun e => h0 (Or.inl e)
      have h2 : c ≠ dot := fun e => h0 (Or.inr e)
      rw [step_push r stk h1 h2 h3]
      intro x hx
      rcases List.mem_cons.1 hx with e | e
      · exact e ▸ hc h1 h2 h3
      · exact hs x e

theorem foldl_step_forall {P : Text → Prop} {r : Bool} (hd : r = false → P dotdot) :
    ∀ (cs stk : List Text), (∀ x ∈ stk, P x) → (∀ c ∈ cs, c ≠ [] → c ≠ dot → c ≠ dotdot → P c) →
      ∀ x ∈ cs.foldl (step r) stk, P x
  | [], _, hs, _ => hs
  | c :: cs, _, hs, hc =>
    foldl_step_forall hd cs _ (step_forall hs hd (hc c (by simp))) (fun c' h' => hc c' (by simp [h']))

theorem normComps_forall {P : Text → Prop} {r : Bool} (hd : r = false → P dotdot) (cs : List Text)
    (hc : ∀ c ∈ cs, c ≠ [] → c ≠ dot → c ≠ dotdot → P c) : ∀ x ∈ normComps r cs, P x := by
  intro x hx
  exact foldl_step_forall hd cs [] (by simp) hc x (List.mem_reverse.1 hx)

theorem normComps_true_good (cs : List Text) (hc : ∀ c ∈ cs, '/' ∉ c) : ∀ x ∈ normComps true cs, Good x :=
  normComps_forall (fun e => nomatch e) cs (fun c hm h1 h2 h3 => ⟨h1, h2, h3, hc c hm⟩)

theorem rootComps_plain (root : Text) : ∀ x ∈ rootComps root, Plain x :=
  normComps_forall (fun _ => ⟨by decide, by decide⟩) _ (fun c hm h1 _ _ => ⟨h1, splitSlash_slashfree root c hm⟩)

theorem foldl_step_good (r : Bool) : ∀ (items stk : List Text), (∀ x ∈ items, Good x) →
    items.foldl (step r) stk = items.reverse ++ stk
  | [], stk, _ => by simp
  | c :: cs, stk, h => by
    have hc := h c (by simp)
    simp only [List.foldl_cons, step_push r stk hc.1 hc.2.1 hc.2.2.1]
    rw [foldl_step_good r cs _ (fun x hx => h x (by simp [hx]))]
    simp

theorem normComps_append_good (r : Bool) (cs items : List Text) (h : ∀ x ∈ items, Good x) :
    normComps r (cs ++ items) = normComps r cs ++ items := by
  simp [normComps, List.foldl_append, foldl_step_good r items _ h]

theorem normComps_good (r : Bool) (items : List Text) (h : ∀ x ∈ items, Good x) : normComps r items = items :=
  normComps_append_good r [] items h

theorem normComps_nil_cons (r : Bool) (cs : List Text) : normComps r ([] :: cs) = normComps r cs := by
  simp [normComps, step_drop r [] (Or.inl rfl)]

theorem normComps_append_nil (r : Bool) (cs : List Text) : normComps r (cs ++ [[]]) = normComps r cs := by
  simp [normComps, List.foldl_append, step_drop r _ (Or.inl rfl)]

-- `rootComps p` is, for ANY path `p`, the list of components of `Clean(p)`; the model names it after its main use
theorem clean_eq {p : Text} (hp : p ≠ []) :
    clean p = if isRooted p then '/' :: joinSlash (rootComps p)
      else if rootComps p = [] then dot else joinSlash (rootComps p) := by
  rw [clean, if_neg hp]
  rfl

theorem join_eq_clean {elems : List Text} (hne : elems ≠ []) (h : ∀ e ∈ elems, e ≠ []) :
    join elems = clean (joinSlash elems) := by
  have hf : elems.filter (fun e => !e.isEmpty) = elems :=
    List.filter_eq_self.2 (fun e he => by simpa using h e he)
  cases elems with
  | nil => exact absurd rfl hne
  | cons a r => rw [join, hf]

theorem join_nil_cons (elems : List Text) : join ([] :: elems) = join elems := rfl

theorem join_pair_nil (a : Text) : join [a, []] = join [a] := by
  cases a <;> rfl

theorem joinSlash_singleton (a : Text) : joinSlash [a] = a := rfl

theorem joinSlash_pair (a b : Text) : joinSlash [a, b] = a ++ '/' :: b := rfl

theorem isRooted_append {a : Text} (b : Text) (ha : a ≠ []) : isRooted (a ++ b) = isRooted a := by
  cases a with
  | nil => exact absurd rfl ha
  | cons c a => rfl

theorem Plain.not_rooted {c : Text} (h : Plain c) : isRooted c = false := by
  cases c with
  | nil => rfl
  | cons a t =>
    have : a ≠ '/' := fun e => h.2 (e ▸ List.mem_cons_self)
    simp [isRooted, this]

theorem joinSlash_ne_nil : ∀ (cs : List Text), cs ≠ [] → (∀ x ∈ cs, x ≠ []) → joinSlash cs ≠ []
  | [], h, _ => absurd rfl h
  | [a], _, h => h a (by simp)
  | a :: b :: r, _, h => by simp [joinSlash]

theorem joinSlash_not_rooted : ∀ (cs : List Text), (∀ x ∈ cs, Plain x) → isRooted (joinSlash cs) = false
  | [], _ => rfl
  | [a], h => (h a (by simp)).not_rooted
  | a :: b :: r, h => by
    have ha := h a (by simp)
    rw [joinSlash, isRooted_append _ ha.1, ha.not_rooted]

theorem rootComps_append_joinSlash {p : Text} (hp : p ≠ []) {cs : List Text} (hne : cs ≠ []) (h : ∀ x ∈ cs, '/' ∉ x) :
    rootComps (p ++ '/' :: joinSlash cs) = normComps (isRooted p) (splitSlash p ++ cs) := by
  rw [rootComps, isRooted_append _ hp, splitSlash_append, splitSlash_joinSlash cs hne h]

theorem rootComps_append_good {p : Text} (hp : p ≠ []) {items : List Text} (hne : items ≠ []) (h : ∀ x ∈ items, Good x) :
    rootComps (p ++ '/' :: joinSlash items) = rootComps p ++ items := by
  rw [rootComps_append_joinSlash hp hne (fun x hx => (h x hx).2.2.2), normComps_append_good _ _ _ h]
  rfl

theorem clean_joinSlash_good {items : List Text} (hne : items ≠ []) (h : ∀ x ∈ items, Good x) :
    clean (joinSlash items) = joinSlash items := by
  have hp : ∀ x ∈ items, Plain x := fun x hx => (h x hx).plain
  rw [clean_eq (joinSlash_ne_nil items hne (fun x hx => (hp x hx).1)), rootComps, joinSlash_not_rooted items hp,
    splitSlash_joinSlash items hne (fun x hx => (hp x hx).2), normComps_good false items h]
  simp [hne]

theorem join_good {items : List Text} (hne : items ≠ []) (h : ∀ x ∈ items, Good x) : join items = joinSlash items := by
  rw [join_eq_clean hne (fun x hx => (h x hx).1), clean_joinSlash_good hne h]

/-- **the path the manager works on**, as a text: `SysPath(name)`, and `SysPath(path.Join(name, binName(name)))`
by `join_good` - for every root string -/
theorem sysPath_good (root : Text) {items : List Text} (hne : items ≠ []) (h : ∀ x ∈ items, Good x) :
    sysPath root [joinSlash items] =
      if isRooted root then '/' :: joinSlash (rootComps root ++ items) else joinSlash (rootComps root ++ items) := by
  have hq := joinSlash_ne_nil items hne (fun x hx => (h x hx).1)
  cases root with
  | nil =>
    rw [sysPath, join_nil_cons, join_eq_clean (by simp) (by simpa using hq), joinSlash_singleton, clean_joinSlash_good hne h]
    rfl
  | cons c root =>
    have hne' : rootComps (c :: root) ++ items ≠ [] := fun e => hne (List.append_eq_nil_iff.1 e).2
    rw [sysPath, join_eq_clean (by simp) (by simpa using hq), joinSlash_pair, clean_eq (by simp),
      rootComps_append_good (by simp) hne h, isRooted_append _ (by simp), if_neg hne']

theorem comps_sysPath (root : Text) {items : List Text} (hne : items ≠ []) (h : ∀ x ∈ items, Good x) :
    comps (sysPath root [joinSlash items]) = rootComps root ++ items := by
  have hp : ∀ x ∈ rootComps root ++ items, Plain x :=
    List.forall_mem_append.2 ⟨rootComps_plain root, fun x hx => (h x hx).plain⟩
  rw [sysPath_good root hne h]
  split
  · rw [comps_cons_slash, comps_joinSlash _ hp]
  · rw [comps_joinSlash _ hp]

end NotationModel.C16
