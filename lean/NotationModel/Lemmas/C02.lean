/-
C02 - canonical states and closed forms of the stages of `processE`; what is checked of the state at each exit and how every clause
follows from it (`Inv`, `Inv.holds`); the walk through all exits (`holds_process`).
-/
import NotationModel.Model.C02

namespace NotationModel.C02

/-! ### canonical results and states -/

-- defined through `capsOf`, as the model computes them, so that the closed forms of the stages hold by `rfl`;
-- `nativeId_eq`, `nativeRev_eq` give them in the property's words
def nativeId (i : Input) : Bool := !(capsOf i).contains capIdentity
def nativeRev (i : Input) (enf : Enf) : Bool := !revSkippedBy enf && !(capsOf i).contains capRevocation

theorem nativeId_eq (i : Input) : nativeId i = !askedIdentity i := by
  unfold nativeId askedIdentity named capsOf
  cases i.pluginAttr <;> cases i.capIdentity <;> cases i.capRevocation <;> simp [capIdentity, capRevocation]

theorem nativeRev_eq (i : Input) (enf : Enf) :
    nativeRev i enf = (!revSkippedBy enf && !(named i && i.capRevocation)) := by
  unfold nativeRev named capsOf
  cases i.pluginAttr <;> cases i.capIdentity <;> cases i.capRevocation <;> simp [capIdentity, capRevocation]

theorem revFailedTruth_native (i : Input) (enf : Enf) (h : nativeRev i enf = true) :
    revFailedTruth i enf = (i.revocation != .ok) := by
  rw [nativeRev_eq] at h
  unfold revFailedTruth askedRevocation
  cases hn : (named i && i.capRevocation) <;> simp_all

def authR (i : Input) (enf : Enf) : Result :=
  { type := Facts.typeAuthenticity, action := enf.get Facts.typeAuthenticity,
    failed := i.trust != .found || (nativeId i && !i.identityMatch) }
def expR (i : Input) (enf : Enf) : Result :=
  { type := Facts.typeExpiry, action := enf.get Facts.typeExpiry, failed := i.expired }
def tsR (i : Input) (enf : Enf) : Result :=
  { type := Facts.typeAuthenticTimestamp, action := enf.get Facts.typeAuthenticTimestamp, failed := !i.timestampOk }
def revR (i : Input) (enf : Enf) : Result :=
  { type := Facts.typeRevocation, action := enf.get Facts.typeRevocation, failed := i.revocation != .ok }

@[simp] theorem authR_type (i : Input) (enf : Enf) : (authR i enf).type = Facts.typeAuthenticity := rfl
@[simp] theorem expR_type (i : Input) (enf : Enf) : (expR i enf).type = Facts.typeExpiry := rfl
@[simp] theorem tsR_type (i : Input) (enf : Enf) : (tsR i enf).type = Facts.typeAuthenticTimestamp := rfl
@[simp] theorem revR_type (i : Input) (enf : Enf) : (revR i enf).type = Facts.typeRevocation := rfl
@[simp] theorem authR_action (i : Input) (enf : Enf) : (authR i enf).action = enf.get Facts.typeAuthenticity := rfl
@[simp] theorem expR_action (i : Input) (enf : Enf) : (expR i enf).action = enf.get Facts.typeExpiry := rfl
@[simp] theorem tsR_action (i : Input) (enf : Enf) : (tsR i enf).action = enf.get Facts.typeAuthenticTimestamp := rfl
@[simp] theorem revR_action (i : Input) (enf : Enf) : (revR i enf).action = enf.get Facts.typeRevocation := rfl
@[simp] theorem authR_failed (i : Input) (enf : Enf) :
    (authR i enf).failed = (i.trust != .found || (nativeId i && !i.identityMatch)) := rfl
@[simp] theorem expR_failed (i : Input) (enf : Enf) : (expR i enf).failed = i.expired := rfl
@[simp] theorem tsR_failed (i : Input) (enf : Enf) : (tsR i enf).failed = !i.timestampOk := rfl
@[simp] theorem revR_failed (i : Input) (enf : Enf) : (revR i enf).failed = (i.revocation != .ok) := rfl

def S0 (i : Input) : St := { managerGets := if i.pluginAttr == .named then 1 else 0 }
def S1 (i : Input) (enf : Enf) : St := { S0 i with storeLoads := 1, results := [authR i enf] }
def S2 (i : Input) (enf : Enf) : St := { S1 i enf with results := [authR i enf, expR i enf] }
def S3 (i : Input) (enf : Enf) : St := { S1 i enf with results := [authR i enf, expR i enf, tsR i enf] }
/-- the states from the revocation stage on: authenticity result failed or not, a revocation result or none (native or
the plugin's, it reports `revFailedTruth`), plugin executed or not -/
def PState (i : Input) (enf : Enf) (fa rv exec : Bool) : St :=
  { S0 i with
    storeLoads := 1
    results := { authR i enf with failed := fa } :: expR i enf :: tsR i enf ::
      if rv then [{ revR i enf with failed := revFailedTruth i enf }] else []
    validatorCalls := if nativeRev i enf then 1 else 0
    pluginVerifyCaps := if exec then some (toVerify i enf) else none
    pluginAttrsToProcess := if exec then some (sortKeys (i.extAttrs.map (·.key))) else none }

def S4 (i : Input) (enf : Enf) : St := PState i enf (authR i enf).failed (nativeRev i enf) false

/-! ### closed forms of the stages -/

/-- authenticity stage from the state after discovery (`failAuthenticity` acts on the one result there is) -/
theorem authStage_closed (i : Input) (enf : Enf) :
    authStage i enf (S0 i) = if isCritical (authR i enf) then .error (S1 i enf) else .ok (S1 i enf) := by
  unfold authStage St.push S1 S0 authR nativeId
  generalize (capsOf i).contains capIdentity = c
  generalize enf.get Facts.typeAuthenticity = a
  by_cases ha : a = Facts.actionEnforce <;> cases c <;> cases hm : i.identityMatch <;>
    by_cases ht : i.trust = .found <;> simp [*, isCritical, failAuthenticity]

theorem expiryStage_closed (i : Input) (enf : Enf) :
    expiryStage i enf (S1 i enf) = if isCritical (expR i enf) then .error (S2 i enf) else .ok (S2 i enf) := by
  rfl

theorem timestampStage_closed (i : Input) (enf : Enf) :
    timestampStage i enf (S2 i enf) = if isCritical (tsR i enf) then .error (S3 i enf) else .ok (S3 i enf) := by
  rfl

theorem revocationStage_closed (i : Input) (enf : Enf) :
    revocationStage i enf (S3 i enf) =
      if nativeRev i enf && isCritical (revR i enf) then .error (S4 i enf) else .ok (S4 i enf) := by
  unfold revocationStage S4 PState
  rw [show (!revSkippedBy enf && !(capsOf i).contains capRevocation) = nativeRev i enf from rfl]
  cases h : nativeRev i enf
  · rfl
  · rw [revFailedTruth_native i enf h]; rfl

/-! ### discovery -/

theorem processE_ok (i : Input) (enf : Enf) (h : discover i {} = .ok (S0 i)) :
    processE i enf =
      ((authStage i enf (S0 i) >>= expiryStage i enf >>= timestampStage i enf >>= revocationStage i enf)
        >>= pluginStage i enf) := by
  unfold processE; rw [h]; rfl

theorem processE_err (i : Input) (enf : Enf) (s : St) (h : discover i {} = .error s) :
    processE i enf = .error s := by
  unfold processE; rw [h]; rfl

/-- plugin discovery either passes into the canonical state `S0`, or fails with no result
and at most one manager call -/
theorem discover_cases (i : Input) :
    discover i {} = .ok (S0 i) ∨ discover i {} = .error {} ∨ discover i {} = .error { managerGets := 1 } := by
  unfold discover S0
  cases i.pluginAttr <;> simp
  cases i.minVerAttr <;> simp
  all_goals
    cases i.pluginState <;> simp
    all_goals
      cases i.pluginVersion <;> simp
      all_goals split <;> simp [*]

/-- inside the property's domain, discovery fails exactly when a plugin is named and unusable -/
theorem discover_ok_iff (i : Input) (hpa : i.pluginAttr = .absent ∨ i.pluginAttr = .named)
    (hmv : i.minVerAttr = .absent ∨ i.minVerAttr = .valid) :
    discover i {} = .ok (S0 i) ↔ (named i = false ∨ pluginUsable i = true) := by
  unfold discover S0 named pluginUsable capsOf
  rcases hpa with hpa | hpa <;> rcases hmv with hmv | hmv <;> simp [hpa, hmv]
  all_goals
    cases i.pluginState <;> simp
    all_goals
      cases i.pluginVersion <;> simp
      all_goals cases i.capIdentity <;> cases i.capRevocation <;> simp

section Workflow
variable (i : Input) (enf : Enf)

/-! ### sound results, the invariant, and how the clauses follow -/

theorem toVerify_eq (hn : named i = true) :
    toVerify i enf = (if i.capIdentity then [capIdentity] else []) ++
                     (if i.capRevocation && !revSkippedBy enf then [capRevocation] else []) := by
  unfold named at hn
  unfold toVerify capsOf
  cases i.capIdentity <;> cases i.capRevocation <;> cases revSkippedBy enf <;>
    simp [hn, capIdentity, capRevocation]

theorem find_type_cases (rs : List Result) (t : String) :
    rs.find? (·.type == t) = none ∨ ∃ r, r ∈ rs ∧ r.type = t ∧ rs.find? (·.type == t) = some r := by
  cases h : rs.find? (·.type == t) with
  | none => exact .inl rfl
  | some r => exact .inr ⟨r, List.mem_of_find?_eq_some h, by simpa using List.find?_some h, rfl⟩

/-- A reported result says no more than the truth of whoever owns its validation (native code or plugin). For expiry,
timestamp and revocation that is an equality. For authenticity it is only an implication: until the plugin's identity
verdict is folded in, the result may still pass where the truth is a failure; `Complete.auth` makes it an equality at
accepting exits (hence `PState_accepts` at the flag `authFailedTruth i`, and the rewriting of states to that flag). -/
structure Sound (r : Result) : Prop where
  action : r.action = enf.get r.type
  truth : (r.type = Facts.typeAuthenticity ∧ (r.failed = true → authFailedTruth i = true)) ∨
    (r.type = Facts.typeExpiry ∧ r.failed = i.expired) ∨
    (r.type = Facts.typeAuthenticTimestamp ∧ r.failed = !i.timestampOk) ∨
    (r.type = Facts.typeRevocation ∧ revSkippedBy enf = false ∧ r.failed = revFailedTruth i enf)

section
variable {i enf} {r : Result} (h : Sound i enf r)
include h

-- the type names are distinct strings: `simp_all` refutes three alternatives of `truth`, the fourth is the claim

theorem Sound.expiry (ht : r.type = Facts.typeExpiry) : r.failed = i.expired := by
  rcases h.truth with ⟨h', e⟩ | ⟨_, e⟩ | ⟨h', e⟩ | ⟨h', e⟩ <;>
    simp_all [Facts.typeAuthenticity, Facts.typeExpiry, Facts.typeAuthenticTimestamp, Facts.typeRevocation]

theorem Sound.timestamp (ht : r.type = Facts.typeAuthenticTimestamp) : r.failed = !i.timestampOk := by
  rcases h.truth with ⟨h', e⟩ | ⟨h', e⟩ | ⟨_, e⟩ | ⟨h', e⟩ <;>
    simp_all [Facts.typeAuthenticity, Facts.typeExpiry, Facts.typeAuthenticTimestamp, Facts.typeRevocation]

theorem Sound.revocation (ht : r.type = Facts.typeRevocation) :
    revSkippedBy enf = false ∧ r.failed = revFailedTruth i enf := by
  rcases h.truth with ⟨h', e⟩ | ⟨h', e⟩ | ⟨h', e⟩ | ⟨_, e⟩ <;>
    simp_all [Facts.typeAuthenticity, Facts.typeExpiry, Facts.typeAuthenticTimestamp, Facts.typeRevocation]

theorem Sound.critical (hc : isCritical r = true) : acceptSpec i enf = false := by
  simp only [isCritical, h.action, Bool.and_eq_true] at hc
  rcases h.truth with ⟨ht, h'⟩ | ⟨ht, h'⟩ | ⟨ht, h'⟩ | ⟨ht, hs, h'⟩ <;> rw [ht] at hc
  · simp [acceptSpec, enforced, hc.1, h' hc.2]
  · simp [acceptSpec, enforced, hc.1, ← h', hc.2]
  · simp [acceptSpec, enforced, hc.1, ← h', hc.2]
  · simp [acceptSpec, enforced, hc.1, hs, ← h', hc.2]

end

theorem sound_auth (f : Bool) (hf : f = true → authFailedTruth i = true) :
    Sound i enf { authR i enf with failed := f } :=
  ⟨rfl, .inl ⟨rfl, hf⟩⟩

theorem authR_failed_truth (h : (authR i enf).failed = true) : authFailedTruth i = true := by
  rw [authR_failed, nativeId_eq] at h
  unfold authFailedTruth
  cases ha : askedIdentity i <;> simp_all

theorem authR_failed_eq (h : askedIdentity i = false) : (authR i enf).failed = authFailedTruth i := by
  rw [authR_failed, nativeId_eq, authFailedTruth, h]
  rfl

theorem sound_expR : Sound i enf (expR i enf) :=
  ⟨rfl, .inr (.inl ⟨rfl, rfl⟩)⟩

theorem sound_tsR : Sound i enf (tsR i enf) :=
  ⟨rfl, .inr (.inr (.inl ⟨rfl, rfl⟩))⟩

theorem sound_rev (hs : revSkippedBy enf = false) :
    Sound i enf { revR i enf with failed := revFailedTruth i enf } :=
  ⟨rfl, .inr (.inr (.inr ⟨rfl, hs, rfl⟩))⟩


/-- what is checked of the state at every exit of the workflow (it is established exit by exit, not stage by stage) -/
structure Inv (s : St) : Prop where
  sound : ∀ r ∈ s.results, Sound i enf r
  calls : s.validatorCalls ≤ if nativeRev i enf then 1 else 0
  caps : ∀ c, s.pluginVerifyCaps = some c → named i = true ∧ c = toVerify i enf

/-- what an accepting exit has on top: every validation reported (revocation unless skipped), the authenticity result final -/
structure Complete (s : St) : Prop where
  auth : ∃ r, s.results.find? (·.type == Facts.typeAuthenticity) = some r ∧ r.failed = authFailedTruth i
  expiry : s.results.find? (·.type == Facts.typeExpiry) ≠ none
  timestamp : s.results.find? (·.type == Facts.typeAuthenticTimestamp) ≠ none
  revocation : s.results.find? (·.type == Facts.typeRevocation) = none → revSkippedBy enf = true

/-- the property's clauses hold at an exit: `.ok` accepts, `.error` rejects -/
def HoldsAt : Except St St → Prop
  | .ok s => (clausesFor i enf (s.obs true)).holds = true
  | .error s => (clausesFor i enf (s.obs false)).holds = true

variable {i enf} in
theorem Inv.acceptSpec_false {s : St} (inv : Inv i enf s) (h : s.results.any isCritical = true) :
    acceptSpec i enf = false := by
  obtain ⟨r, hr, hcr⟩ := List.any_eq_true.1 h
  exact (inv.sound r hr).critical hcr

variable {i enf} in
/-- for sound and complete results the closed formula is the right-hand side of the first clause -/
theorem Inv.acceptSpec_eq {s : St} (inv : Inv i enf s) (hc : Complete i enf s) :
    acceptSpec i enf = (!s.results.any isCritical && pluginOK i enf) := by
  cases hnc : s.results.any isCritical
  · have key : ∀ {t r}, s.results.find? (·.type == t) = some r →
        r ∈ s.results ∧ r.type = t ∧ (enforced enf t && r.failed) = false := by
      intro t r h
      have hr := List.mem_of_find?_eq_some h
      have ht : r.type = t := by simpa using List.find?_some h
      have := List.any_eq_false.1 hnc r hr
      exact ⟨hr, ht, by simpa [isCritical, enforced, (inv.sound r hr).action, ht] using this⟩
    obtain ⟨⟨a, ha, hat⟩, he, ht, hrev⟩ := hc
    obtain ⟨e, he⟩ := Option.ne_none_iff_exists'.1 he
    obtain ⟨t, ht⟩ := Option.ne_none_iff_exists'.1 ht
    have h1 := (key ha).2.2
    obtain ⟨hem, het, h2⟩ := key he
    obtain ⟨htm, htt, h3⟩ := key ht
    rw [hat] at h1
    rw [(inv.sound e hem).expiry het] at h2
    rw [(inv.sound t htm).timestamp htt] at h3
    have h4 : (enforced enf Facts.typeRevocation && !revSkippedBy enf && revFailedTruth i enf) = false := by
      cases hr : s.results.find? (·.type == Facts.typeRevocation) with
      | some r =>
        obtain ⟨hrm, hrt, h⟩ := key hr
        rw [← ((inv.sound r hrm).revocation hrt).2, Bool.and_right_comm, h, Bool.false_and]
      | none => simp [hrev hr]
    simp only [acceptSpec, h1, h2, h3, h4, Bool.not_false, Bool.true_and]
  · rw [inv.acceptSpec_false hnc]
    rfl

variable {i enf} in
/-- The property follows from the invariant: a state with sound results, left with verdict `acc`, satisfies every
clause provided `acc` is as the first clause says and an accepting state is complete. -/
theorem Inv.holds {s : St} (inv : Inv i enf s) (acc : Bool)
    (hacc : inDomain i = true → acc = (!s.results.any isCritical && pluginOK i enf))
    (hcomp : acc = true → Complete i enf s) :
    (clausesFor i enf (s.obs acc)).holds = true := by
  have hcalls : nativeRev i enf = false → s.validatorCalls = 0 := fun h => by
    have := inv.calls
    rw [h] at this
    exact Nat.le_zero.1 this
  have hnr := nativeRev_eq i enf
  have hspec : inDomain i = true → acc = acceptSpec i enf := by
    intro hd
    cases acc with
    | false =>
      have := (hacc hd).symm
      simp only [Bool.and_eq_false_iff, Bool.not_eq_false'] at this
      rcases this with hc | hp
      · exact (inv.acceptSpec_false hc).symm
      · simp [acceptSpec, hp]
    | true => rw [← inv.acceptSpec_eq (hcomp rfl)] at hacc; exact hacc hd
  simp only [clausesFor, Clauses.holds_cons, Clauses.holds_nil, St.obs, resultOf, enforcedFailure, Bool.and_true,
    Bool.and_eq_true]
  refine ⟨?_, ?_, ?_, ?_, ?_, ?_, ?_, ?_, ?_, ?_, ?_⟩
  · -- reject_iff_enforced_failure_or_plugin
    cases hd : inDomain i
    · rfl
    · simp [hacc hd]
  · -- accepted_iff_closed_formula
    cases hd : inDomain i
    · rfl
    · simp [hspec hd]
  · -- results_carry_level_action
    simpa using fun r hr => (inv.sound r hr).action
  · -- authenticity_result_truthful
    cases acc with
    | false => split <;> rfl
    | true =>
      obtain ⟨a, ha, hat⟩ := (hcomp rfl).auth
      rw [ha]
      simp [hat]
  · -- expiry_result_truthful
    rcases find_type_cases s.results Facts.typeExpiry with h | ⟨r, hr, ht, h⟩
    · rw [h]
      cases acc with
      | false => rfl
      | true => exact absurd h (hcomp rfl).expiry
    · rw [h]; simp [(inv.sound r hr).expiry ht]
  · -- timestamp_result_truthful
    rcases find_type_cases s.results Facts.typeAuthenticTimestamp with h | ⟨r, hr, ht, h⟩
    · rw [h]
      cases acc with
      | false => rfl
      | true => exact absurd h (hcomp rfl).timestamp
    · rw [h]; simp [(inv.sound r hr).timestamp ht]
  · -- revocation_result_truthful
    rcases find_type_cases s.results Facts.typeRevocation with h | ⟨r, hr, ht, h⟩
    · rw [h]
      cases acc with
      | false => rfl
      | true => simp [(hcomp rfl).revocation h]
    · rw [h]
      simp [(inv.sound r hr).revocation ht]
  · -- skipped_revocation_not_performed
    cases hs : revSkippedBy enf
    · rfl
    · have hc := hcalls (by simp [hnr, hs])
      have hr : s.results.find? (·.type == Facts.typeRevocation) = none := by
        rcases find_type_cases s.results Facts.typeRevocation with h | ⟨r, hr, ht, _⟩
        · exact h
        · have := ((inv.sound r hr).revocation ht).1
          simp [hs] at this
      simp only [hr, hc, Bool.not_true, Bool.false_or, Option.isNone_none, beq_self_eq_true, Bool.true_and]
      cases hp : s.pluginVerifyCaps with
      | none => rfl
      | some c =>
        obtain ⟨hn, rfl⟩ := inv.caps c hp
        rw [toVerify_eq i enf hn]
        cases i.capIdentity <;> simp [hs, capIdentity, capRevocation]
  · -- plugin_revocation_replaces_native
    cases hn : (named i && i.capRevocation)
    · rfl
    · simp [hcalls (by simp [hnr, hn])]
  · -- native_revocation_once
    have := inv.calls
    apply decide_eq_true
    split at this <;> omega
  · -- plugin_request_capabilities
    cases hp : s.pluginVerifyCaps with
    | none => rfl
    | some c =>
      obtain ⟨hn, rfl⟩ := inv.caps c hp
      simp [hn, toVerify_eq i enf hn]


/-! ### the states from the revocation stage on -/

theorem PState_any_critical (fa rv exec : Bool) :
    (PState i enf fa rv exec).results.any isCritical =
      (enforced enf Facts.typeAuthenticity && fa || isCritical (expR i enf) || isCritical (tsR i enf) ||
        rv && (enforced enf Facts.typeRevocation && revFailedTruth i enf)) := by
  cases rv <;> simp [PState, isCritical, enforced, Bool.or_assoc]

/-- `hfa`, `hrv`, `hex` say when a state of the family is sound: a failed authenticity result is justified, a revocation
result is there only if revocation is not skipped, the plugin is executed only if named -/
theorem inv_PState (fa rv exec : Bool) (hfa : fa = true → authFailedTruth i = true)
    (hrv : rv = true → revSkippedBy enf = false) (hex : exec = true → named i = true) :
    Inv i enf (PState i enf fa rv exec) where
  sound r hr := by
    simp only [PState, List.mem_cons] at hr
    rcases hr with rfl | rfl | rfl | hr
    · exact sound_auth i enf fa hfa
    · exact sound_expR i enf
    · exact sound_tsR i enf
    · cases rv with
      | false => simp at hr
      | true =>
        simp only [if_true, List.mem_singleton] at hr
        exact hr ▸ sound_rev i enf (hrv rfl)
  calls := Nat.le_refl _
  caps c hc := by
    cases exec with
    | false => simp [PState] at hc
    | true => simp only [PState, if_true, Option.some.injEq] at hc; exact ⟨hex rfl, hc.symm⟩

variable {i enf} in
/-- an exit rejects for one of two reasons: a result is critical, or a plugin condition is not met -/
theorem Inv.rejects {s : St} (inv : Inv i enf s)
    (h : inDomain i = true → s.results.any isCritical = true ∨ pluginOK i enf = false) : HoldsAt i enf (.error s) :=
  inv.holds false (fun hd => by rcases h hd with h | h <;> simp [h]) nofun

/-- the states before the revocation stage: some of the first three results, no validator call, no plugin request -/
theorem inv_early (s : St) (hr : ∀ r ∈ s.results, r ∈ [authR i enf, expR i enf, tsR i enf])
    (hc : s.validatorCalls = 0) (hp : s.pluginVerifyCaps = none) : Inv i enf s where
  sound r h := by
    have := hr r h
    simp only [List.mem_cons, List.not_mem_nil, or_false] at this
    rcases this with rfl | rfl | rfl
    · exact sound_auth i enf _ (authR_failed_truth i enf)
    · exact sound_expR i enf
    · exact sound_tsR i enf
  calls := by rw [hc]; exact Nat.zero_le _
  caps c h := by rw [hp] at h; cases h

theorem PState_rejects {fa rv exec : Bool} (hfa : fa = true → authFailedTruth i = true)
    (hrv : rv = true → revSkippedBy enf = false) (hex : exec = true → named i = true)
    (h : inDomain i = true → (PState i enf fa rv exec).results.any isCritical = true ∨ pluginOK i enf = false) :
    HoldsAt i enf (.error (PState i enf fa rv exec)) :=
  (inv_PState i enf fa rv exec hfa hrv hex).rejects h

/-- an accepting exit has the authenticity flag at the truth (`Complete.auth`) and misses the revocation result only under
skip (`hsk`, `Complete.revocation`) -/
theorem PState_accepts {rv exec : Bool} (hrv : rv = true → revSkippedBy enf = false)
    (hsk : rv = false → revSkippedBy enf = true) (hex : exec = true → named i = true)
    (hnc : (PState i enf (authFailedTruth i) rv exec).results.any isCritical = false)
    (hp : inDomain i = true → pluginOK i enf = true) :
    HoldsAt i enf (.ok (PState i enf (authFailedTruth i) rv exec)) :=
  (inv_PState i enf _ rv exec id hrv hex).holds true (fun hd => by simp [hnc, hp hd]) fun _ =>
    { auth := ⟨{ authR i enf with failed := authFailedTruth i }, by simp [PState], rfl⟩
      expiry := by simp [PState, Facts.typeAuthenticity, Facts.typeExpiry]
      timestamp := by simp [PState, Facts.typeAuthenticity, Facts.typeExpiry, Facts.typeAuthenticTimestamp]
      revocation := by
        cases rv with
        | false => exact fun _ => hsk rfl
        | true => simp [PState, Facts.typeAuthenticity, Facts.typeExpiry, Facts.typeAuthenticTimestamp, Facts.typeRevocation] }

/-- every outcome is written at the flag `authFailedTruth i`; for the verdict `success` the state is unchanged and `h1`
rules out the stop -/
theorem respondCap_identity (rv : Bool) (ha : askedIdentity i = true) (h1 : isCritical (authR i enf) = false) :
    respondCap i enf (PState i enf (authR i enf).failed rv true) capIdentity =
      if i.verdictIdentity = .missing then .error (PState i enf (authR i enf).failed rv true)
      else if enforced enf Facts.typeAuthenticity && authFailedTruth i then .error (PState i enf (authFailedTruth i) rv true)
      else .ok (PState i enf (authFailedTruth i) rv true) := by
  cases hv : i.verdictIdentity
  · have ht : authFailedTruth i = (authR i enf).failed := by
      simp [authFailedTruth, ha, hv, nativeId_eq]
    rw [ht, show (enforced enf Facts.typeAuthenticity && (authR i enf).failed) = false from h1]
    simp [respondCap, hv]
  · have ht : authFailedTruth i = true := by simp [authFailedTruth, ha, hv]
    rw [ht, Bool.and_true]
    simp [respondCap, hv, PState, failAuthenticity, authResult, isCritical, enforced]
  · simp [respondCap, hv]

theorem respondCap_revocation (fa : Bool) (hr : askedRevocation i enf = true) :
    respondCap i enf (PState i enf fa false true) capRevocation =
      if i.verdictRevocation = .missing then .error (PState i enf fa false true)
      else if enforced enf Facts.typeRevocation && revFailedTruth i enf then .error (PState i enf fa true true)
      else .ok (PState i enf fa true true) := by
  cases hv : i.verdictRevocation <;>
    simp [respondCap, hv, PState, isCritical, enforced, capIdentity, capRevocation, revR, revFailedTruth, hr]

theorem respondCaps_eq_foldlM (l : List String) (s : St) :
    respondCaps i enf l s = l.foldlM (respondCap i enf) s := by
  induction l generalizing s with
  | nil => rfl
  | cons c l ih =>
    rw [respondCaps, List.foldlM_cons]
    cases respondCap i enf s c with
    | error s' => rfl
    | ok s' => exact ih s'


/-! ### the plugin conditions; who checks revocation -/

theorem named_of_executed (h : pluginExecuted i enf = true) : named i = true := by
  cases hn : named i
  · simp [pluginExecuted, askedIdentity, askedRevocation, hn] at h
  · rfl

theorem pluginOK_not_executed (h : pluginExecuted i enf = false) :
    pluginOK i enf = ((!named i || pluginUsable i) && !i.extAttrs.any (·.critical)) := by
  unfold pluginOK
  cases named i <;> simp [h]

theorem pluginOK_executed (h : pluginExecuted i enf = true) :
    pluginOK i enf = (pluginUsable i && !i.pluginCallError &&
      (!askedIdentity i || i.verdictIdentity != .missing) &&
      (!askedRevocation i enf || i.verdictRevocation != .missing) &&
      !i.extAttrs.any (fun a => !i.processed.contains a.key)) := by
  simp [pluginOK, named_of_executed i enf h, h, List.all_eq_not_any_not, Bool.and_assoc]

theorem not_skipped_of_asked (h : askedRevocation i enf = true) : revSkippedBy enf = false := by
  simp [askedRevocation] at h
  exact h.2

theorem nativeRev_not_skipped (h : nativeRev i enf = true) : revSkippedBy enf = false := by
  rw [nativeRev_eq] at h
  simp_all

theorem skipped_of_not_native (ha : askedRevocation i enf = false) (h : nativeRev i enf = false) :
    revSkippedBy enf = true := by
  rw [nativeRev_eq] at h
  unfold askedRevocation at ha
  cases hs : revSkippedBy enf <;> simp_all

theorem nativeRev_asked (h : askedRevocation i enf = true) : nativeRev i enf = false := by
  rw [nativeRev_eq, not_skipped_of_asked i enf h]
  unfold askedRevocation at h
  simp_all

/-- the state the validations left, before any verdict of the plugin is read, rejects when a plugin condition is not met -/
theorem PState_rejects_plugin {exec : Bool} (hex : exec = true → named i = true)
    (h : inDomain i = true → pluginOK i enf = false) :
    HoldsAt i enf (.error (PState i enf (authR i enf).failed (nativeRev i enf) exec)) :=
  PState_rejects i enf (authR_failed_truth i enf) (nativeRev_not_skipped i enf) hex fun hd => .inr (h hd)

/-! ### the plugin stage -/

theorem toVerify_isEmpty (hn : named i = true) : (toVerify i enf).isEmpty = !pluginExecuted i enf := by
  rw [toVerify_eq i enf hn]
  cases hi : i.capIdentity <;> cases hr : (i.capRevocation && !revSkippedBy enf) <;>
    simp [pluginExecuted, askedIdentity, askedRevocation, hn, hi, hr]

theorem pluginStage_named (hn : named i = true) :
    pluginStage i enf (S4 i enf) =
      if pluginExecuted i enf then
        if i.pluginCallError then .error (PState i enf (authR i enf).failed (nativeRev i enf) true)
        else if i.extAttrs.any (fun a => !i.processed.contains a.key) then
          .error (PState i enf (authR i enf).failed (nativeRev i enf) true)
        else respondCaps i enf (toVerify i enf) (PState i enf (authR i enf).failed (nativeRev i enf) true)
      else .ok (S4 i enf) := by
  unfold pluginStage processResponse
  rw [show (i.pluginAttr == .named) = true from hn, toVerify_isEmpty i enf hn]
  cases pluginExecuted i enf <;> rfl

section PluginStage
variable {i enf}
  (h2 : isCritical (expR i enf) = false) (h3 : isCritical (tsR i enf) = false)
  (h4 : (nativeRev i enf && isCritical (revR i enf)) = false)
include h2 h3 h4

theorem critical_native (fa exec : Bool) :
    (PState i enf fa (nativeRev i enf) exec).results.any isCritical = (enforced enf Facts.typeAuthenticity && fa) := by
  have hn : (nativeRev i enf && (enforced enf Facts.typeRevocation && revFailedTruth i enf)) = false := by
    cases hn : nativeRev i enf
    · rfl
    · rw [revFailedTruth_native i enf hn]
      rw [hn] at h4; exact h4
  rw [PState_any_critical, h2, h3, hn]
  simp

omit h4 in
theorem critical_plugin (fa exec : Bool) :
    (PState i enf fa true exec).results.any isCritical =
      (enforced enf Facts.typeAuthenticity && fa || enforced enf Facts.typeRevocation && revFailedTruth i enf) := by
  rw [PState_any_critical, h2, h3]
  simp

theorem holds_not_executed (h1 : isCritical (authR i enf) = false) (hx : pluginExecuted i enf = false)
    (hp : inDomain i = true → pluginOK i enf = true) : HoldsAt i enf (.ok (S4 i enf)) := by
  simp only [pluginExecuted, Bool.or_eq_false_iff] at hx
  have hfa := authR_failed_eq i enf hx.1
  unfold S4
  rw [hfa]
  exact PState_accepts i enf (nativeRev_not_skipped i enf) (skipped_of_not_native i enf hx.2) nofun
    (by rw [critical_native h2 h3 h4, ← hfa]; exact h1) hp

section Executed
variable (hn : named i = true) (hu : inDomain i = true → pluginUsable i = true)
  (hx : pluginExecuted i enf = true) (hce : i.pluginCallError = false)
  (hup : i.extAttrs.any (fun a => !i.processed.contains a.key) = false)
include hn hu hx hce hup

/-- the loop of `processPluginResponse` from the revocation capability on -/
theorem holds_revocation_part (hid : (!askedIdentity i || i.verdictIdentity != .missing) = true)
    (h1 : (enforced enf Facts.typeAuthenticity && authFailedTruth i) = false) :
    HoldsAt i enf ((if i.capRevocation && !revSkippedBy enf then [capRevocation] else []).foldlM (respondCap i enf)
      (PState i enf (authFailedTruth i) (nativeRev i enf) true)) := by
  have hpo := pluginOK_executed i enf hx
  have har : askedRevocation i enf = (i.capRevocation && !revSkippedBy enf) := by simp [askedRevocation, hn]
  rw [← har]
  cases hr : askedRevocation i enf
  · exact PState_accepts i enf (nativeRev_not_skipped i enf) (skipped_of_not_native i enf hr) (fun _ => hn)
      (by rw [critical_native h2 h3 h4, h1]) fun hd => by rw [hpo, hu hd, hce, hup, hid, hr]; rfl
  · have hs := not_skipped_of_asked i enf hr
    rw [nativeRev_asked i enf hr]
    simp only [if_true, List.foldlM_cons, List.foldlM_nil, bind_pure]
    rw [respondCap_revocation i enf _ hr]
    by_cases hm : i.verdictRevocation = .missing
    · rw [if_pos hm]
      exact PState_rejects i enf id nofun (fun _ => hn) fun _ => .inr (by simp [hpo, hr, hm])
    · rw [if_neg hm]
      cases hc : (enforced enf Facts.typeRevocation && revFailedTruth i enf)
      · exact PState_accepts i enf (fun _ => hs) nofun (fun _ => hn)
          (by rw [critical_plugin h2 h3, h1, hc]; rfl) fun hd => by rw [hpo, hu hd, hce, hup, hid]; simp [hm]
      · exact PState_rejects i enf id (fun _ => hs) (fun _ => hn) fun _ =>
          .inl (by rw [critical_plugin h2 h3, hc]; simp)

/-- the loop of `processPluginResponse` over the capabilities asked for -/
theorem holds_response (h1 : isCritical (authR i enf) = false) :
    HoldsAt i enf (respondCaps i enf (toVerify i enf) (PState i enf (authR i enf).failed (nativeRev i enf) true)) := by
  have hai : askedIdentity i = i.capIdentity := by simp [askedIdentity, hn]
  rw [respondCaps_eq_foldlM, toVerify_eq i enf hn, List.foldlM_append, ← hai]
  cases ha : askedIdentity i
  · have hfa := authR_failed_eq i enf ha
    simp only [Bool.false_eq_true, if_false, List.foldlM_nil, pure_bind]
    rw [hfa]
    exact holds_revocation_part h2 h3 h4 hn hu hx hce hup (by simp [ha]) (hfa ▸ h1)
  · simp only [if_true, List.foldlM_cons, List.foldlM_nil, bind_pure]
    rw [respondCap_identity i enf _ ha h1]
    by_cases hm : i.verdictIdentity = .missing
    · rw [if_pos hm]
      exact PState_rejects_plugin i enf (fun _ => hn) fun _ => by simp [pluginOK_executed i enf hx, ha, hm]
    · rw [if_neg hm]
      cases hc : (enforced enf Facts.typeAuthenticity && authFailedTruth i)
      · exact holds_revocation_part h2 h3 h4 hn hu hx hce hup (by simp [hm]) hc
      · exact PState_rejects i enf id (nativeRev_not_skipped i enf) (fun _ => hn) fun _ =>
          .inl (by rw [critical_native h2 h3 h4, hc])

end Executed

/-- all validations passed without a critical failure: the clauses hold at every exit of the plugin stage
(outside the known finding) -/
theorem holds_plugin_stage (h1 : isCritical (authR i enf) = false)
    (hdom : inDomain i = true → named i = false ∨ pluginUsable i = true) (hF : knownFinding i enf = false) :
    HoldsAt i enf (pluginStage i enf (S4 i enf)) := by
  cases hx : pluginExecuted i enf
  · have hpo := pluginOK_not_executed i enf hx
    cases hn : named i
    · unfold pluginStage
      rw [show (i.pluginAttr == .named) = false from hn]
      cases hc : i.extAttrs.any (·.critical)
      · exact holds_not_executed h2 h3 h4 h1 hx fun _ => by simp [hpo, hn, hc]
      · exact PState_rejects_plugin i enf nofun fun _ => by simp [hpo, hn, hc]
    · rw [pluginStage_named i enf hn, hx]
      refine holds_not_executed h2 h3 h4 h1 hx fun hd => ?_
      have hu := (hdom hd).resolve_left (by simp [hn])
      simp only [knownFinding, hn, hu, hx, Bool.not_false, Bool.true_and] at hF
      simp [hpo, hu, hF]
  · have hn := named_of_executed i enf hx
    have hu : inDomain i = true → pluginUsable i = true := fun hd => (hdom hd).resolve_left (by simp [hn])
    rw [pluginStage_named i enf hn, hx]
    simp only [if_true]
    cases hce : i.pluginCallError
    · cases hup : i.extAttrs.any (fun a => !i.processed.contains a.key)
      · exact holds_response h2 h3 h4 hn hu hx hce hup h1
      · exact PState_rejects_plugin i enf (fun _ => hn) fun _ => by rw [pluginOK_executed i enf hx, hup]; simp
    · exact PState_rejects_plugin i enf (fun _ => hn) fun _ => by rw [pluginOK_executed i enf hx, hce]; simp

end PluginStage

/-! ### every exit of the workflow -/

/-- the property's clauses hold of the model of `processSignature` for every scenario outside
the known finding, for *every* enforcement map (not only those `effective` can return) -/
theorem holds_process (hF : knownFinding i enf = false) :
    (clausesFor i enf (process i enf)).holds = true := by
  suffices h : HoldsAt i enf (processE i enf) by
    unfold process
    cases hp : processE i enf <;> rw [hp] at h <;> exact h
  have hdisc : inDomain i = true → (discover i {} = .ok (S0 i) ↔ (named i = false ∨ pluginUsable i = true)) := by
    intro h
    simp only [inDomain, Bool.and_eq_true, Bool.or_eq_true, beq_iff_eq] at h
    exact discover_ok_iff i h.1.1.2 h.1.2
  -- discovery fails only for a named plugin that cannot be used: a plugin condition is not met
  have hfail : ∀ s, discover i {} = .error s → s.results = [] → s.validatorCalls = 0 → s.pluginVerifyCaps = none →
      HoldsAt i enf (processE i enf) := fun s hd hr hc hp => by
    rw [processE_err i enf s hd]
    refine (inv_early i enf s (by simp [hr]) hc hp).rejects fun h => .inr ?_
    have : ¬ (named i = false ∨ pluginUsable i = true) := fun hu => by
      rw [(hdisc h).2 hu] at hd; cases hd
    simp only [not_or, Bool.not_eq_false, Bool.not_eq_true] at this
    simp [pluginOK, this.1, this.2]
  -- a validation stops the workflow when its result is critical
  have hstop : ∀ s, (∀ r ∈ s.results, r ∈ [authR i enf, expR i enf, tsR i enf]) → s.validatorCalls = 0 →
      s.pluginVerifyCaps = none → s.results.any isCritical = true → HoldsAt i enf (.error s) :=
    fun s hr hc hp h => (inv_early i enf s hr hc hp).rejects fun _ => .inl h
  rcases discover_cases i with hd | hd | hd
  case inr.inl => exact hfail _ hd rfl rfl rfl
  case inr.inr => exact hfail _ hd rfl rfl rfl
  · rw [processE_ok i enf hd, authStage_closed]
    cases h1 : isCritical (authR i enf) with
    | true => exact hstop (S1 i enf) (by simp [S1]) rfl rfl (by simp [S1, h1])
    | false =>
    simp only [Bool.false_eq_true, if_false, bind, Except.bind]
    rw [expiryStage_closed]
    cases h2 : isCritical (expR i enf) with
    | true =>
      exact hstop (S2 i enf) (by simp [S2]) rfl rfl (by simp [S2, h2])
    | false =>
    simp only [Bool.false_eq_true, if_false]
    rw [timestampStage_closed]
    cases h3 : isCritical (tsR i enf) with
    | true =>
      exact hstop (S3 i enf) (by simp [S3]) rfl rfl (by simp [S3, h3])
    | false =>
    simp only [Bool.false_eq_true, if_false]
    rw [revocationStage_closed]
    cases h4 : (nativeRev i enf && isCritical (revR i enf)) with
    | false => exact holds_plugin_stage h2 h3 h4 h1 (fun h => (hdisc h).1 hd) hF
    | true =>
      show HoldsAt i enf (.error (S4 i enf))
      unfold S4
      refine PState_rejects i enf (authR_failed_truth i enf) (nativeRev_not_skipped i enf) nofun
        fun _ => .inl ?_
      simp only [Bool.and_eq_true] at h4
      rw [PState_any_critical, h4.1, revFailedTruth_native i enf h4.1,
        show (enforced enf _ && (i.revocation != .ok)) = true from h4.2]
      simp

end Workflow

end NotationModel.C02
