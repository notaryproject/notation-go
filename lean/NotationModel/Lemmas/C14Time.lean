/-
C14 - the time part of the invariant: renames are stamped by a logical clock (`now` = number of
renames so far, `stamp w` = value of the clock when writer `w` renamed, `openAt r` = value when
reader `r` opened), the current writer of a key carries the latest stamp, and what a reader
pinned at open is at least as new as every rename that preceded the open.
-/
import NotationModel.Lemmas.C14Inv

namespace NotationModel.C14

/-- what a reader of `r`'s key pinned when it opened at clock value `t` (the entry renamed by `w0`)
is not older than any rename of that key that happened before -/
def FreshAt (p : Prog) (s : Sys) (r t w0 : Nat) : Prop :=
  s.wst w0 = .done ∧
  ∀ w, s.wst w = .done → p.wkey w = p.rkey r → s.stamp w < t → s.stamp w ≤ s.stamp w0

def ReaderTime (p : Prog) (s : Sys) (r t : Nat) : RState → Prop
  | .idle => True
  | .reading _ _ snap | .finished (some _) snap =>
    t ≤ s.now ∧ ∀ w0, snap = some w0 → FreshAt p s r t w0
  | .finished none _ => t ≤ s.now ∧ ∀ w, s.wst w = .done → p.wkey w = p.rkey r → t ≤ s.stamp w

structure InvT (p : Prog) (s : Sys) : Prop where
  done_stamp : ∀ w, s.wst w = .done → s.stamp w < s.now ∧ s.dir (.key (p.wkey w)) ≠ none
  cur_latest : ∀ k w0, s.cur k = some w0 → ∀ w, s.wst w = .done → p.wkey w = k → s.stamp w ≤ s.stamp w0
  reader : ∀ r, ReaderTime p s r (s.openAt r) (s.rst r)

theorem invT_init (p : Prog) : InvT p init := by
  constructor <;> simp [init, ReaderTime]

theorem ReaderTime.transfer {p : Prog} {s s' : Sys} {r t : Nat} {x : RState} (h : ReaderTime p s r t x)
    (hnow : s.now ≤ s'.now)
    (hfresh : t ≤ s.now → ∀ w0, FreshAt p s r t w0 → FreshAt p s' r t w0)
    (hmiss : t ≤ s.now → (∀ w, s.wst w = .done → p.wkey w = p.rkey r → t ≤ s.stamp w) →
      ∀ w, s'.wst w = .done → p.wkey w = p.rkey r → t ≤ s'.stamp w) : ReaderTime p s' r t x :=
  match x, h with
  | .idle, _ => trivial
  | .reading _ _ _, ⟨a, b⟩ => ⟨Nat.le_trans a hnow, fun w0 e => hfresh a w0 (b w0 e)⟩
  | .finished (some _) _, ⟨a, b⟩ => ⟨Nat.le_trans a hnow, fun w0 e => hfresh a w0 (b w0 e)⟩
  | .finished none _, ⟨a, b⟩ => ⟨Nat.le_trans a hnow, hmiss a b⟩

theorem WriterMove.invT {p : Prog} {s s' : Sys} {w : Nat} (m : WriterMove p s s' w) (h : InvT p s) :
    InvT p s' := by
  obtain ⟨hcur, hrst, hnow, hst, hop⟩ := m.ghost
  have hd := m.done_iff
  refine ⟨fun w hw => ?_, fun k w0 hc w hw hk => ?_, fun r => ?_⟩
  · rw [hst, hnow, m.key]
    exact h.done_stamp w ((hd w).1 hw)
  · rw [hcur] at hc
    rw [hst]
    exact h.cur_latest k w0 hc w ((hd w).1 hw) hk
  · rw [hrst, hop]
    refine (h.reader r).transfer (Nat.le_of_eq hnow.symm) (fun _ w0 ⟨f1, f2⟩ => ⟨(hd w0).2 f1, ?_⟩) ?_
    · intro w hw hk hlt
      rw [hst] at *
      exact f2 w ((hd w).1 hw) hk hlt
    · intro _ b w hw hk
      rw [hst]
      exact b w ((hd w).1 hw) hk

theorem invT_rename (p : Prog) (s : Sys) (w t i : Nat) (h : InvT p s) (hw : s.wst w = .closed t i) :
    InvT p (renamed p s w t i) := by
  have hnd : s.wst w ≠ .done := by rw [hw]; nofun
  -- a writer that is done afterwards is `w` (stamped now) or was done before (stamped earlier)
  have hdone : ∀ w', (renamed p s w t i).wst w' = .done →
      (w' = w ∧ (renamed p s w t i).stamp w' = s.now) ∨
      (w' ≠ w ∧ s.wst w' = .done ∧ (renamed p s w t i).stamp w' = s.stamp w' ∧ s.stamp w' < s.now) := by
    intro w' hd
    by_cases hww : w' = w
    · exact Or.inl ⟨hww, by rw [hww]; exact upd_same _ _ _⟩
    · have hd' : s.wst w' = .done := (upd_other _ _ _ _ hww).symm.trans hd
      exact Or.inr ⟨hww, hd', upd_other _ _ _ _ hww, (h.done_stamp w' hd').1⟩
  have hnow : (renamed p s w t i).now = s.now + 1 := rfl
  refine ⟨fun w' hd => ?_, fun k w0 hc w' hd hk => ?_, fun r => ?_⟩
  · rw [hnow, renamed_dir_key]
    rcases hdone w' hd with ⟨rfl, e⟩ | ⟨hne, hd', e, hlt⟩
    · exact ⟨by rw [e]; exact Nat.lt_succ_self _, by rw [if_pos rfl]; nofun⟩
    · refine ⟨by rw [e]; exact Nat.lt_succ_of_lt hlt, ?_⟩
      split
      · nofun
      · exact (h.done_stamp w' hd').2
  · have hcur : (renamed p s w t i).cur k = upd s.cur (p.wkey w) (some w) k := rfl
    rw [hcur] at hc
    by_cases hw0 : w0 = w
    · subst hw0
      rw [show (renamed p s w0 t i).stamp w0 = s.now from upd_same _ _ _]
      rcases hdone w' hd with ⟨_, e⟩ | ⟨_, _, e, hlt⟩
      · exact Nat.le_of_eq e
      · rw [e]; exact Nat.le_of_lt hlt
    · have hkk : k ≠ p.wkey w := fun e => by
        rw [e, upd_same] at hc
        exact hw0 (Option.some.inj hc).symm
      rw [upd_other _ _ _ _ hkk] at hc
      rw [show (renamed p s w t i).stamp w0 = s.stamp w0 from upd_other _ _ _ _ hw0]
      rcases hdone w' hd with ⟨rfl, _⟩ | ⟨_, hd', e, _⟩
      · exact absurd hk.symm hkk
      · rw [e]; exact h.cur_latest k w0 hc w' hd' hk
  · refine (h.reader r).transfer (Nat.le_succ _) (fun a w0 ⟨f1, f2⟩ => ?_) fun a b w' hd hk => ?_
    · have hw0 : w0 ≠ w := fun e => hnd (e ▸ f1)
      refine ⟨(upd_other _ _ _ _ hw0).trans f1, fun w' hd hk hlt => ?_⟩
      rw [show (renamed p s w t i).stamp w0 = s.stamp w0 from upd_other _ _ _ _ hw0]
      rcases hdone w' hd with ⟨_, e⟩ | ⟨_, hd', e, _⟩
      · rw [e] at hlt; omega
      · rw [e] at hlt ⊢; exact f2 w' hd' hk hlt
    · -- a miss stays true: the new rename is stamped `now`, not before the open
      rcases hdone w' hd with ⟨_, e⟩ | ⟨_, hd', e, _⟩
      · rw [e]; exact a
      · rw [e]; exact b w' hd' hk

theorem InvT.set_reader {p : Prog} {s : Sys} (h : InvT p s) (r : Nat) (x : RState) (t : Nat)
    (hx : ReaderTime p s r t x) :
    InvT p { s with rst := upd s.rst r x, openAt := upd s.openAt r t } := by
  refine ⟨h.done_stamp, h.cur_latest, fun r' => ?_⟩
  by_cases hr : r' = r
  · subst hr
    simp only [upd_same]
    exact hx
  · simp only [upd_other _ _ _ _ hr]
    exact h.reader r'

theorem ReaderMove.time {p : Prog} {s : Sys} {r t : Nat} {x : RState} (m : ReaderMove p s r x t)
    (hi : Inv p s) (h : InvT p s) : ReaderTime p s r t x := by
  cases m with
  | miss _ hk =>
    -- a writer of this key that is done would have left the key name present
    refine ⟨Nat.le_refl _, fun w hd hkk => ?_⟩
    have := (h.done_stamp w hd).2
    rw [hkk] at this
    exact absurd hk this
  | opened i _ hk =>
    -- the reader pins the current writer of the key, which carries the latest stamp
    refine ⟨Nat.le_refl _, fun w0 e' => ?_⟩
    obtain ⟨w1, k1, -, -, k4, -, -⟩ := hi.key_sealed _ _ hk
    obtain rfl : w1 = w0 := Option.some.inj (k1.symm.trans e')
    exact ⟨k4, fun w' hd hkk _ => h.cur_latest _ _ k1 w' hd hkk⟩
  | eof i buf snap n hr _ =>
    have ht := h.reader r
    rw [hr] at ht
    exact ht
  | more i buf snap n hr _ =>
    have ht := h.reader r
    rw [hr] at ht
    exact ht

theorem invT_step (p : Prog) (s : Sys) (e : Event) (hi : Inv p s) (h : InvT p s) : InvT p (step p s e) := by
  rcases step_shape p s e with ⟨w, t, i, hw, -, hs⟩ | ⟨r, x, t, m, hs⟩ | hs | ⟨w, -, m⟩
  · rw [hs]; exact invT_rename p s w t i h hw
  · rw [hs]; exact h.set_reader r x t (m.time hi h)
  · rw [hs]; exact h
  · exact m.invT h

end NotationModel.C14
