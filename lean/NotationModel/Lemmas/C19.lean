/-
C19 - helper lemmas: the state machine of `Model/C19.lean` (`step`, `scan`, `fetchSig`) run over a
history equals the declarative reading of that history (`stored`, `sigsFor`, `refused`,
`expectFetch`). Everything is by induction over the history - no bound on its length.
-/
import NotationModel.Model.C19

namespace NotationModel.C19

/-- the state after a history (newest operation first) -/
def stateOf : List Op → State
  | [] => {}
  | o :: h => (step (stateOf h) o).1

/-- the manifests a history leaves in the layout, in order of arrival -/
def manifestsOf : List Op → List Manifest
  | [] => []
  | o :: h => manifestsOf h ++ (if creates h o then [mkManifest o] else [])

/-- `o` occurs in the history and stored a manifest when it was executed -/
def CreatedIn (o : Op) : List Op → Prop
  | [] => False
  | x :: h => (x = o ∧ creates h x = true) ∨ CreatedIn o h

/-- `o` occurs in the history and stored a signature manifest of `q` when it was executed -/
def SigIn (q : Desc) (o : Op) : List Op → Prop
  | [] => False
  | x :: h => (x = o ∧ isSigFor h x q = true) ∨ SigIn q o h

theorem CreatedIn.ind {o : Op} {P : List Op → Prop} (here : ∀ h, creates h o = true → P (o :: h))
    (there : ∀ x h, P h → P (x :: h)) : ∀ h, CreatedIn o h → P h
  | [], hc => hc.elim
  | _ :: h, Or.inl ⟨rfl, hcr⟩ => here h hcr
  | x :: h, Or.inr hc => there x h (CreatedIn.ind here there h hc)

theorem SigIn.ind {q : Desc} {o : Op} {P : List Op → Prop} (here : ∀ h, isSigFor h o q = true → P (o :: h))
    (there : ∀ x h, P h → P (x :: h)) : ∀ h, SigIn q o h → P h
  | [], hs => hs.elim
  | _ :: h, Or.inl ⟨rfl, hsig⟩ => here h hsig
  | x :: h, Or.inr hs => there x h (SigIn.ind here there h hs)

/-! ### the state after a history: blobs, step, manifests -/

theorem storedSize_isSome : ∀ (h : List Op) (b : Nat), (storedSize h b).isSome = stored h b := by
  intro h b
  induction h with
  | nil => rfl
  | cons o h ih =>
    rw [stored, List.any_cons, ← stored, ← ih, storedSize]
    cases storedSize h b <;> cases (writesBlob o && o.blob == b) <;> rfl

theorem storedSize_eq_none (h : List Op) (b : Nat) (hs : stored h b = false) : storedSize h b = none := by
  rw [← storedSize_isSome, Option.isSome_eq_false_iff, Option.isNone_iff_eq_none] at hs
  exact hs

theorem step_eq (h : List Op) (st : State) (o : Op) (hb : (blobSize st o.blob).isSome = stored h o.blob) :
    step st o =
      ({ manifests := st.manifests ++ (if creates h o then [mkManifest o] else []),
         blobs := st.blobs ++ (if writesBlob o && !stored h o.blob then [(o.blob, o.bsize)] else []) },
       succeeds h o) := by
  unfold step creates succeeds writesBlob
  cases o.kind <;> cases hs : stored h o.blob <;> simp [hb, hs]

theorem blobSize_same_blobs (ms ms' : List Manifest) (bs : List (Nat × Nat)) (b : Nat) :
    blobSize { manifests := ms, blobs := bs } b = blobSize { manifests := ms', blobs := bs } b := rfl

theorem blobSize_stateOf : ∀ (h : List Op) (b : Nat), blobSize (stateOf h) b = storedSize h b := by
  intro h
  induction h with
  | nil => intro b; rfl
  | cons o h ih =>
    intro b
    have ihb : ((stateOf h).blobs.find? (·.1 == b)).map (·.2) = storedSize h b := ih b
    rw [stateOf, step_eq h _ o (by rw [ih, storedSize_isSome])]
    simp only [blobSize, storedSize, List.find?_append, Option.map_or, ihb]
    cases hs : storedSize h b with
    | some s => rfl
    | none =>
      have hsb : stored h b = false := by rw [← storedSize_isSome, hs]; rfl
      by_cases hob : o.blob = b
      · subst hob; cases writesBlob o <;> simp [hsb]
      · cases (writesBlob o && !stored h o.blob) <;> simp [hob]

theorem step_stateOf (h : List Op) (o : Op) :
    step (stateOf h) o =
      ({ manifests := (stateOf h).manifests ++ (if creates h o then [mkManifest o] else []),
         blobs := (stateOf h).blobs ++ (if writesBlob o && !stored h o.blob then [(o.blob, o.bsize)] else []) },
       succeeds h o) :=
  step_eq h _ o (by rw [blobSize_stateOf, storedSize_isSome])

/-- the "no error" flag of a step is what the history says -/
theorem step_ok (h : List Op) (o : Op) : (step (stateOf h) o).2 = succeeds h o := by rw [step_stateOf]

theorem manifests_stateOf : ∀ (h : List Op), (stateOf h).manifests = manifestsOf h := by
  intro h
  induction h with
  | nil => rfl
  | cons o h ih => rw [stateOf, step_stateOf, manifestsOf, ih]

@[simp] theorem mk_id (o : Op) : (mkManifest o).id = o.id := by
  unfold mkManifest; cases o.kind <;> rfl
@[simp] theorem mk_subject (o : Op) : (mkManifest o).subject = o.subject := by
  unfold mkManifest; cases o.kind <;> rfl
@[simp] theorem mk_size (o : Op) : (mkManifest o).size = o.msize := by
  unfold mkManifest; cases o.kind <;> rfl
@[simp] theorem mk_mt (o : Op) : (mkManifest o).mt = opMt o := by
  unfold mkManifest opMt; cases o.kind <;> simp
@[simp] theorem mk_layers (o : Op) : (mkManifest o).layers = opLayers o := by
  unfold mkManifest opLayers; cases o.kind <;> simp

theorem mem_manifestsOf_id : ∀ (h : List Op) (m : Manifest), m ∈ manifestsOf h → m.id ∈ h.map (·.id) := by
  intro h
  induction h with
  | nil => intro m hm; simp [manifestsOf] at hm
  | cons o h ih =>
    intro m hm
    simp only [manifestsOf, List.mem_append] at hm
    rcases hm with hm | hm
    · simp only [List.map_cons, List.mem_cons]; exact Or.inr (ih m hm)
    · by_cases hc : creates h o = true
      · simp [hc] at hm; subst hm; simp
      · simp [hc] at hm

/-- distinct labels: looking a created manifest up by its label finds it -/
theorem find_created (o : Op) : ∀ (h : List Op), CreatedIn o h → (h.map (·.id)).Nodup →
    (manifestsOf h).find? (fun m => m.id == o.id) = some (mkManifest o) := by
  refine CreatedIn.ind (fun h hcr hn => ?_) (fun x h ih hn => ?_)
  · have hnone : (manifestsOf h).find? (fun m => m.id == o.id) = none := by
      apply List.find?_eq_none.2
      intro m hm heq
      have hid : m.id = o.id := by simpa using heq
      have hmem := mem_manifestsOf_id h m hm
      rw [hid] at hmem
      exact (List.nodup_cons.1 hn).1 hmem
    simp [manifestsOf, List.find?_append, hnone, hcr, List.find?]
  · simp [manifestsOf, List.find?_append, ih (List.nodup_cons.1 hn).2]

/-! ### the scan loop -/

/-- what `refused` is matched against -/
def bigP (m : Manifest) : Bool := isManifestType m.mt && decide (m.size > capM)
/-- what `sigsFor` is matched against -/
def keepP (q : Desc) (m : Manifest) : Bool := isManifestType m.mt && m.subject == some q && m.atype == notationType

theorem scan_cons (q : Desc) (m : Manifest) (r : List Manifest) :
    scan q (m :: r) = if isManifestType m.mt then scanCase q m (scan q r) else scan q r := by
  simp only [scan, isManifestType]
  by_cases h1 : (m.mt == mtArtifact) = true <;> by_cases h2 : (m.mt == mtImage) = true <;> simp [h1, h2]

theorem scanCase_big (q : Desc) (m : Manifest) (s : Scan) (h : m.size > capM) : scanCase q m s = ⟨true, [], []⟩ := by
  simp [scanCase, h]

theorem scanCase_small (q : Desc) (m : Manifest) (s : Scan) (h : ¬ m.size > capM) :
    scanCase q m s =
      { s with kept := if m.subject == some q && m.atype == notationType then m :: s.kept else s.kept,
               read := m :: s.read } := by
  unfold scanCase
  by_cases h1 : (m.subject == some q) = true <;> by_cases h2 : (m.atype == notationType) = true <;> simp [h, bne, h1, h2]

theorem scan_spec (q : Desc) : ∀ (ms : List Manifest),
    (scan q ms).err = ms.any bigP ∧
    (ms.any bigP = false → (scan q ms).kept = ms.filter (keepP q)) ∧
    (scan q ms).read.any (fun m => decide (m.size > capM)) = false := by
  intro ms
  induction ms with
  | nil => simp [scan]
  | cons m r ih =>
    obtain ⟨ih1, ih2, ih3⟩ := ih
    rw [scan_cons, List.any_cons, List.filter_cons]
    by_cases hmt : isManifestType m.mt = true
    · by_cases hbig : m.size > capM
      · simp [hmt, scanCase_big, hbig, bigP]
      · simp only [hmt, if_true, scanCase_small q m _ hbig, bigP, keepP, hbig, decide_false, Bool.and_false, Bool.false_or,
          Bool.true_and, List.any_cons, ih3, Bool.or_false]
        refine ⟨ih1, fun hr => ?_, trivial⟩
        rw [ih2 hr]
    · simp only [hmt, Bool.false_eq_true, if_false, bigP, keepP, Bool.false_and, Bool.false_or]
      exact ⟨ih1, ih2, ih3⟩

/-! ### candidates, refusal and the listed signatures, by induction over the history -/

theorem isCandidate_mk (mode : Index) (q : Desc) (o : Op) :
    isCandidate mode q (mkManifest o) = subjMatches mode q o.subject := by
  rw [← mk_subject]; rfl

theorem isManifestType_image : isManifestType mtImage = true := by simp [isManifestType]

theorem refused_spec (mode : Index) (q : Desc) : ∀ (h : List Op),
    ((manifestsOf h).filter (isCandidate mode q)).any bigP = refused mode q h := by
  intro h
  induction h with
  | nil => rfl
  | cons o h ih =>
    simp only [manifestsOf, refused, List.filter_append, List.any_append, ih]
    cases creates h o <;> cases hs : subjMatches mode q o.subject <;>
      simp [isCandidate_mk, hs, bigP]

theorem keep_implies_candidate (mode : Index) (q : Desc) (m : Manifest) (hk : keepP q m = true) :
    isCandidate mode q m = true := by
  simp only [keepP, Bool.and_eq_true] at hk
  have hs : m.subject = some q := by simpa using hk.1.2
  simp only [isCandidate, hs]
  cases mode <;> simp

theorem isSigFor_spec (h : List Op) (o : Op) (q : Desc) :
    (creates h o && keepP q (mkManifest o)) = isSigFor h o q := by
  simp only [creates, keepP, isSigFor, mk_mt, mk_subject, opMt]
  cases hk : o.kind with
  | push =>
    have : (mkManifest o).atype = notationType := by simp [mkManifest, hk]
    simp [this, isManifestType_image]
  | raw =>
    have : (mkManifest o).atype = o.atype := by simp [mkManifest, hk]
    simp [this]
  | blob => simp

theorem kept_spec (mode : Index) (q : Desc) : ∀ (h : List Op),
    ((manifestsOf h).filter (isCandidate mode q)).filter (keepP q) = (sigsFor q h).map mkManifest := by
  intro h
  induction h with
  | nil => rfl
  | cons o h ih =>
    simp only [manifestsOf, sigsFor, List.filter_append, List.map_append, ih, ← isSigFor_spec]
    cases creates h o <;> cases hk : keepP q (mkManifest o) <;>
      simp [List.filter_cons, hk, keep_implies_candidate]

/-- **what a listing is**, for every history: refused exactly when a referrer manifest is over the
cap, otherwise exactly the signature manifests of `q` in order of arrival; an oversized
manifest is never read -/
theorem listObs_spec (mode : Index) (h : List Op) (q : Desc) :
    listObs mode (stateOf h) q =
      { ok := !refused mode q h,
        sigs := if refused mode q h then [] else (sigsFor q h).map (fun o => sigObs (stateOf h) (mkManifest o)),
        bigRead := false } := by
  have hs := scan_spec q ((manifestsOf h).filter (isCandidate mode q))
  obtain ⟨h1, h2, h3⟩ := hs
  rw [refused_spec] at h1 h2
  simp only [listObs, manifests_stateOf, h1, h3]
  by_cases hr : refused mode q h = true
  · simp [hr]
  · have hr' : refused mode q h = false := by simpa using hr
    rw [h2 hr', kept_spec]
    simp [hr', List.map_map, Function.comp_def]

/-! ### membership in the expected listing -/

/-- `SigIn` has the induction principle, `∈ sigsFor` is what the clauses of the property hold -/
theorem mem_sigsFor (q : Desc) (o : Op) : ∀ (h : List Op), o ∈ sigsFor q h ↔ SigIn q o h := by
  intro h
  induction h with
  | nil => simp [sigsFor, SigIn]
  | cons x h ih =>
    simp only [sigsFor, SigIn, List.mem_append, ih]
    cases isSigFor h x q <;> simp [or_comm, eq_comm]

theorem isSigFor_creates (h : List Op) (o : Op) (q : Desc) (hs : isSigFor h o q = true) :
    creates h o = true := by
  rw [← isSigFor_spec] at hs
  simp only [Bool.and_eq_true] at hs
  exact hs.1

theorem sigIn_created (q : Desc) (o : Op) : ∀ (h : List Op), SigIn q o h → CreatedIn o h :=
  SigIn.ind (fun h hs => Or.inl ⟨rfl, isSigFor_creates h o q hs⟩) (fun _ _ ih => Or.inr ih)

theorem isSigFor_props (h : List Op) (x : Op) (q : Desc) (hs : isSigFor h x q = true) :
    x.subject = some q ∧ isManifestType (opMt x) = true ∧
    (x.kind = .push ∨ (x.kind = .raw ∧ x.atype = notationType ∧ isManifestType x.mt = true)) := by
  unfold isSigFor at hs
  cases hk : x.kind with
  | push =>
    simp only [hk, Bool.and_eq_true, beq_iff_eq] at hs
    exact ⟨hs.2, by simp [opMt, hk, isManifestType_image], Or.inl rfl⟩
  | raw =>
    simp only [hk, Bool.and_eq_true, beq_iff_eq] at hs
    exact ⟨hs.1.2, by simp [opMt, hk, hs.1.1], Or.inr ⟨rfl, hs.2, hs.1.1⟩⟩
  | blob => simp [hk] at hs

theorem sigIn_props (q : Desc) (o : Op) : ∀ (h : List Op), SigIn q o h →
    o ∈ h ∧ o.subject = some q ∧ isManifestType (opMt o) = true ∧
    (o.kind = .push ∨ (o.kind = .raw ∧ o.atype = notationType ∧ isManifestType o.mt = true)) :=
  SigIn.ind (fun h hs => ⟨List.mem_cons_self, isSigFor_props h o q hs⟩)
    (fun _ _ ih => ⟨List.mem_cons_of_mem _ ih.1, ih.2⟩)

/-- a listing that is not refused has no oversized signature manifest -/
theorem sigIn_small (mode : Index) (q : Desc) (o : Op) : ∀ (h : List Op), SigIn q o h →
    refused mode q h = false → o.msize ≤ capM := by
  refine SigIn.ind (fun h hs hr => ?_) (fun x h ih hr => ih ?_)
  · obtain ⟨hsub, hmt, _⟩ := isSigFor_props h o q hs
    have hm : subjMatches mode q o.subject = true := by
      rw [hsub]; cases mode <;> simp [subjMatches]
    simp only [refused, Bool.or_eq_false_iff, isSigFor_creates h o q hs, hm, hmt, Bool.true_and,
      decide_eq_false_iff_not] at hr
    omega
  · simp only [refused, Bool.or_eq_false_iff] at hr
    exact hr.1

/-! ### fetch -/

/-- the envelope of a successful `PushSignature` is in the layout with its size, forever -/
theorem pushed_blob_stored (o : Op) (hk : o.kind = .push) : ∀ (h : List Op), CreatedIn o h →
    storedSize h o.blob = some o.bsize := by
  refine CreatedIn.ind (fun h hcr => ?_) (fun x h ih => by simp [storedSize, ih])
  simp only [creates, hk, Bool.not_eq_true'] at hcr
  simp [storedSize, storedSize_eq_none h o.blob hcr, writesBlob, hk]

theorem fetchLayers_spec (h : List Op) (o : Op) :
    fetchLayers (stateOf h) (opLayers o) = expectFetch h o := by
  unfold fetchLayers expectFetch
  split <;> simp [blobSize_stateOf]

/-- fetching a stored manifest by its true descriptor -/
theorem fetchSig_spec (h : List Op) (o : Op) (hn : (h.map (·.id)).Nodup) (hc : CreatedIn o h)
    (hmt : isManifestType (opMt o) = true) (hsz : o.msize ≤ capM) :
    fetchSig (stateOf h) ⟨opMt o, o.id, o.msize⟩ = expectFetch h o := by
  have hfind := find_created o h hc hn
  have hmt' : ((opMt o != mtArtifact) && (opMt o != mtImage)) = false := by
    simp only [isManifestType, Bool.or_eq_true] at hmt
    rcases hmt with h1 | h1 <;> simp [bne, h1]
  have hsz' : ¬ (o.msize > capM) := by omega
  simp only [fetchSig, hmt', hsz', manifests_stateOf, hfind, mk_size, mk_mt, mk_layers,
    bne_self_eq_false, beq_self_eq_true, if_true, if_false, Bool.false_eq_true]
  exact fetchLayers_spec h o

end NotationModel.C19
