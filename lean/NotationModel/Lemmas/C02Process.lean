/-
C02 - lemmas for the tie of `processSignature` / `processPluginResponse` (translated as a whole,
`Generated/SrcProcess.lean`) to the model: positions in a pointer slice, the search for the
authenticity result, a functional reading (`respSpec`) of the translated `processPluginResponse`
proved equal to it for all inputs, and its simulation by the model's `processResponse`.
-/
import NotationModel.Props.C02
import NotationModel.Generated.SrcProcess

namespace GoLite

theorem enum_cons' {α : Type} (x : α) (xs : List α) :
    enum (x :: xs) = (0, x) :: (enum xs).map (fun p => (p.1 + 1, p.2)) := by
  simp only [enum, List.length_cons, List.range_succ_eq_map, List.map_cons, List.zip_cons_cons, List.map_map]
  congr 1
  apply List.ext_getElem
  · simp
  · intro i h1 h2
    simp

/-- `for i, x := range l { if p(x) { k, r = i, x; break } }` -/
theorem forIn_findPair {α : Type} (l : List (Int × α)) (p : α → Bool) (init : Int × Option α)
    (body : Int × α → Int × Option α → Id (ForInStep (Int × Option α)))
    (h : ∀ x s, body x s = pure (if p x.2 = true then ForInStep.done (x.1, some x.2) else ForInStep.yield s)) :
    forIn l init body = pure (match l.find? (fun x => p x.2) with
      | some x => (x.1, some x.2)
      | none => init) := by
  rw [forIn_findSome (fun x => if p x.2 then some (x.1, some x.2) else none) init body
    (fun x => by rw [h]; cases p x.2 <;> rfl), findSome?_if]
  cases l.find? (fun x => p x.2) <;> rfl

/-- the first element satisfying `p` replaced by its image under `f` -/
def markFirst {α : Type} (p : α → Bool) (f : α → α) : List α → List α
  | [] => []
  | x :: xs => if p x then f x :: xs else x :: markFirst p f xs

theorem find_enum_none {α : Type} (p : α → Bool) (xs : List α) :
    (enum xs).find? (fun x => p x.2) = none ↔ xs.find? p = none := by
  induction xs with
  | nil => simp [enum]
  | cons x xs ih =>
    rw [enum_cons']
    by_cases hp : p x = true
    · simp [hp]
    · simp only [List.find?_cons, hp]
      rw [List.find?_map]
      simp only [Option.map_eq_none_iff]
      exact ih

theorem find_enum_some {α : Type} (p : α → Bool) (f : α → α) (xs : List α) (k : Int) (y : α)
    (h : (enum xs).find? (fun x => p x.2) = some (k, y)) :
    0 ≤ k ∧ xs.find? p = some y ∧ setAt xs k (f y) = markFirst p f xs := by
  induction xs generalizing k with
  | nil => simp [enum] at h
  | cons x xs ih =>
    rw [enum_cons'] at h
    by_cases hp : p x = true
    · simp [hp] at h
      obtain ⟨rfl, rfl⟩ := h
      simp [hp, setAt, markFirst]
    · simp only [List.find?_cons, hp] at h
      rw [List.find?_map] at h
      cases hq : (enum xs).find? ((fun x => p x.2) ∘ fun p => (p.1 + 1, p.2)) with
      | none => simp [hq] at h
      | some q =>
        simp [hq] at h
        obtain ⟨hk, hy⟩ := h
        have hq' : (enum xs).find? (fun x => p x.2) = some (q.1, y) := by
          have : ((fun x => p x.2) ∘ fun (p : Int × α) => (p.1 + 1, p.2)) = (fun x => p x.2) := by funext z; rfl
          rw [this] at hq
          rw [hq, ← hy]
        obtain ⟨h0, hf, hs⟩ := ih q.1 hq'
        refine ⟨by omega, by simp [hp, hf], ?_⟩
        subst hk
        have : (q.1 + 1).toNat = q.1.toNat + 1 := by omega
        simp only [setAt, this, List.set_cons_succ, markFirst, hp]
        simp only [setAt] at hs
        simp [hs]


end GoLite

namespace NotationModel.C02.Process
open NotationModel.Src NotationModel.Src.verifier NotationModel.Src.«notation» NotationModel.Src.pluginframework
open NotationModel.C02

theorem mapGet_eq_enfGet (m : List (String × String)) (k : String) : GoLite.Map.get m k = Enf.get m k := by
  rw [GoLite.Map.get, GoLite.Map.lookup, GoLite.Map.get?_eq_lookup, Enf.get]
  cases List.lookup k m <;> rfl

/-- a validation result as the model's observation records it -/
def resOf (r : ValidationResult) : Result := { type := r.«Type», action := r.Action, failed := r.Error.isSome }

def isAuth (r : ValidationResult) : Bool := r.«Type» == trustpolicy.TypeAuthenticity

/-- the other orientation of the comparison in the regenerated text -/
theorem isAuth_comm (r : ValidationResult) : (trustpolicy.TypeAuthenticity == r.«Type») = isAuth r := BEq.comm

def setErr (e : GoLite.Err) (r : ValidationResult) : ValidationResult := { r with Error := some e }

/-- one capability of the loop as Go runs it: with no authenticity result it stops (nil dereference) where the
translation goes on, so this is not the reading of the translated text (`stepCapG` is) -/
def stepCap (resp : VerifySignatureResponse) (o : Outcome) (cap : String) : Except (Option GoLite.Err × Outcome) Outcome :=
  match GoLite.Map.get resp.VerificationResults cap with
  | none => .error (some (GoLite.errT "notation.ErrorVerificationInconclusive" ""), o)
  | some pr =>
    if cap == CapabilityTrustedIdentityVerifier then
      if !pr.Success then
        match o.VerificationResults.find? isAuth with
        | none => .error (none, o)       -- Go: nil dereference (no authenticity result recorded)
        | some r =>
          let o' := { o with VerificationResults := GoLite.markFirst isAuth (setErr (GoLite.errorf "")) o.VerificationResults }
          if isCriticalFailure (setErr (GoLite.errorf "") r) then .error (some (GoLite.errorf ""), o') else .ok o'
      else .ok o
    else if cap == CapabilityRevocationCheckVerifier then
      let r : ValidationResult :=
        { «Type» := trustpolicy.TypeRevocation,
          Action := GoLite.Map.get o.VerificationLevel.Enforcement trustpolicy.TypeRevocation,
          Error := if !pr.Success then some (GoLite.errorf "") else none }
      let o' := { o with VerificationResults := o.VerificationResults ++ [r] }
      if isCriticalFailure r then .error (r.Error, o') else .ok o'
    else .ok o

/-- one capability of the translated loop, with the ghost position of the pointer into
`outcome.VerificationResults`: `.ok (outcome, position)` goes on, `.error ((error returned, outcome left
behind), position)` returns. Without an authenticity result the translation goes on with the zero object and
position `-1`; `hasAuth` excludes that. -/
def stepCapG (resp : VerifySignatureResponse) (t : Outcome × Int) (cap : String) :
    Except ((Option GoLite.Err × Outcome) × Int) (Outcome × Int) :=
  match GoLite.Map.get resp.VerificationResults cap with
  | none => .error ((some (GoLite.errT "notation.ErrorVerificationInconclusive" ""), t.1), t.2)
  | some pr =>
    if cap == CapabilityTrustedIdentityVerifier then
      if !pr.Success then
        match (GoLite.enum t.1.VerificationResults).find? (fun x => isAuth x.2) with
        | none => .ok (t.1, -1)
        | some x =>
          let o' := { t.1 with VerificationResults := GoLite.setAt t.1.VerificationResults x.1 (setErr (GoLite.errorf "") x.2) }
          if isCriticalFailure (setErr (GoLite.errorf "") x.2) then .error ((some (GoLite.errorf ""), o'), x.1) else .ok (o', x.1)
      else .ok t
    else if cap == CapabilityRevocationCheckVerifier then
      let r : ValidationResult :=
        { «Type» := trustpolicy.TypeRevocation,
          Action := GoLite.Map.get t.1.VerificationLevel.Enforcement trustpolicy.TypeRevocation,
          Error := if !pr.Success then some (GoLite.errorf "") else none }
      let o' := { t.1 with VerificationResults := t.1.VerificationResults ++ [r] }
      if isCriticalFailure r then .error ((r.Error, o'), t.2) else .ok (o', t.2)
    else .ok t

theorem defaultError : (default : ValidationResult).Error = none := rfl
theorem defaultNotEnforced : ((default : ValidationResult).Action == trustpolicy.ActionEnforce) = false := by decide

/-- `processPluginResponse` read functionally -/
def respSpec (caps : List String) (resp : VerifySignatureResponse) (o : Outcome) : Option GoLite.Err × Outcome :=
  if (getVerificationPlugin (GoLite.deref o.EnvelopeContent).SignerInfo).2.isSome then
    ((getVerificationPlugin (GoLite.deref o.EnvelopeContent).SignerInfo).2, o)
  else if (getNonPluginExtendedCriticalAttributes (GoLite.deref o.EnvelopeContent).SignerInfo).any
      (fun a => !slices.ContainsAny resp.ProcessedAttributes a.Key) then (some (GoLite.errorf ""), o)
  else match GoLite.foldE (stepCapG resp) caps (o, -1) with
    | .ok t' => (none, t'.1)
    | .error (_, e) => e.1

theorem processPluginResponse_eq_spec (caps : List String) (resp) (o : Outcome) : processPluginResponse caps resp o = respSpec caps resp o := by
  unfold processPluginResponse
  simp only [Id.run]
  rw [GoLite.forIn_any (fun a => !slices.ContainsAny resp.ProcessedAttributes a.Key) _ _ _ (by intro a; rfl)]
  rw [GoLite.forIn_eq_foldE' _ (stepCapG resp) (fun t => (none, t.1, t.2)) (fun _ e => (some e.1, e.1.2, e.2)) ?h _ _ (o, -1) rfl]
  case h =>
    intro a t
    rw [GoLite.forIn_findPair _ isAuth _ _ (by intro x s; by_cases h : isAuth x.2 = true <;> simp_all [isAuth, isAuth_comm])]
    simp only [pure_bind]
    cases hpr : GoLite.Map.get resp.VerificationResults a with
    | none => simp [stepCapG, hpr]
    | some pr =>
      by_cases h1 : (a == CapabilityTrustedIdentityVerifier) = true
      · -- whichever capability the source tests first, the other test is false here (`h3`: for the swapped `case`s)
        have h3 : (a == CapabilityRevocationCheckVerifier) = false := by
          have ha : a = CapabilityTrustedIdentityVerifier := by simpa using h1
          rw [ha]; decide
        by_cases h2 : pr.Success = true
        · simp [stepCapG, hpr, h1, h3, h2, GoLite.deref]
        · cases hf : List.find? (fun x => isAuth x.2) (GoLite.enum t.1.VerificationResults) with
          | none =>
            simp [stepCapG, hpr, h1, h3, h2, GoLite.deref, hf, isCriticalFailure, defaultNotEnforced, Id.run]
          | some x =>
            have hx := (GoLite.find_enum_some isAuth id t.1.VerificationResults x.1 x.2 hf).1
            by_cases hc : isCriticalFailure (setErr (GoLite.errorf "") x.2) = true
            · have hc' := hc
              simp only [setErr, GoLite.errorf] at hc'
              simp [stepCapG, hpr, h1, h3, h2, GoLite.deref, hf, hx, hc', setErr, GoLite.errorf]
            · have hc' := hc
              simp only [setErr, GoLite.errorf] at hc'
              simp [stepCapG, hpr, h1, h3, h2, GoLite.deref, hf, hx, hc', setErr, GoLite.errorf]
      · by_cases h3 : (a == CapabilityRevocationCheckVerifier) = true
        · by_cases h2 : pr.Success = true
          · by_cases hc : isCriticalFailure { «Type» := trustpolicy.TypeRevocation, Action := GoLite.Map.get t.1.VerificationLevel.Enforcement trustpolicy.TypeRevocation, Error := none } = true
            · simp [stepCapG, hpr, h1, h2, h3, GoLite.deref, defaultError, hc]
            · simp [stepCapG, hpr, h1, h2, h3, GoLite.deref, defaultError, hc]
          · by_cases hc : isCriticalFailure { «Type» := trustpolicy.TypeRevocation, Action := GoLite.Map.get t.1.VerificationLevel.Enforcement trustpolicy.TypeRevocation, Error := some ⟨"error"⟩ } = true
            · simp [stepCapG, hpr, h1, h2, h3, GoLite.deref, hc, GoLite.errorf]
            · simp [stepCapG, hpr, h1, h2, h3, GoLite.deref, hc, GoLite.errorf]
        · simp [stepCapG, hpr, h1, h3]
  unfold respSpec
  by_cases hp : (getVerificationPlugin (GoLite.deref o.EnvelopeContent).SignerInfo).2.isSome = true
  · simp [hp, GoLite.idPure]
  · by_cases ha : (getNonPluginExtendedCriticalAttributes (GoLite.deref o.EnvelopeContent).SignerInfo).any
      (fun a => !slices.ContainsAny resp.ProcessedAttributes a.Key) = true
    · simp only [hp, ha, ↓reduceIte, pure_bind, Bool.false_eq_true]
      simp [GoLite.idPure, GoLite.errorf]
    · simp only [hp, ha, ↓reduceIte, pure_bind, Bool.false_eq_true]
      cases hf : GoLite.foldE (stepCapG resp) caps (o, -1) with
      | ok t' => rfl
      | error p => obtain ⟨t', e⟩ := p; rfl


def verdictOf (resp : VerifySignatureResponse) (cap : String) : Verdict :=
  match GoLite.Map.get resp.VerificationResults cap with
  | none => .missing
  | some pr => if pr.Success then .success else .failure

/-- the outcome's results, after a prefix the model does not record, are the model's results -/
def Rel (pre : List ValidationResult) (o : Outcome) (s : St) : Prop :=
  ∃ rs, o.VerificationResults = pre ++ rs ∧ s.results = rs.map resOf

theorem typeAuth_eq : trustpolicy.TypeAuthenticity = Facts.typeAuthenticity := rfl
theorem typeRev_eq : trustpolicy.TypeRevocation = Facts.typeRevocation := rfl

theorem isCriticalFailure_eq (r : ValidationResult) : isCriticalFailure r = isCritical (resOf r) :=
  Tie.source_isCriticalFailure_refines_model r

theorem failAuthenticity_map (e : GoLite.Err) (rs : List ValidationResult) :
    failAuthenticity (rs.map resOf) = (GoLite.markFirst isAuth (setErr e) rs).map resOf := by
  induction rs with
  | nil => rfl
  | cons r rs ih =>
    by_cases h : isAuth r = true
    · have h' : (r.«Type» == Facts.typeAuthenticity) = true := by simpa [isAuth, typeAuth_eq] using h
      simp [failAuthenticity, GoLite.markFirst, h, resOf, h', setErr]
    · have h' : (r.«Type» == Facts.typeAuthenticity) = false := by simpa [isAuth, typeAuth_eq] using h
      simp [failAuthenticity, GoLite.markFirst, h, resOf, h', ih]

theorem markFirst_append_pre {α : Type} (p : α → Bool) (f : α → α) (pre rs : List α) (h : pre.all (fun r => !p r) = true) :
    GoLite.markFirst p f (pre ++ rs) = pre ++ GoLite.markFirst p f rs := by
  induction pre with
  | nil => rfl
  | cons a pre ih =>
    simp only [List.all_cons, Bool.and_eq_true, Bool.not_eq_true'] at h
    simp [GoLite.markFirst, h.1, ih h.2]

theorem find_append_pre {α : Type} (p : α → Bool) (pre rs : List α) (h : pre.all (fun r => !p r) = true) :
    (pre ++ rs).find? p = rs.find? p := by
  have : pre.find? p = none := List.find?_eq_none.2 (by simpa using h)
  simp [List.find?_append, this]

theorem authResult_fail (e : GoLite.Err) (rs : List ValidationResult) (r : ValidationResult) (h : rs.find? isAuth = some r) :
    authResult ((GoLite.markFirst isAuth (setErr e) rs).map resOf) = some (resOf (setErr e r)) := by
  induction rs with
  | nil => simp at h
  | cons a rs ih =>
    by_cases ha : isAuth a = true
    · simp [ha] at h
      subst h
      have h' : (a.«Type» == Facts.typeAuthenticity) = true := by simpa [isAuth, typeAuth_eq] using ha
      simp [GoLite.markFirst, ha, authResult, resOf, setErr, h']
    · have h' : (a.«Type» == Facts.typeAuthenticity) = false := by simpa [isAuth, typeAuth_eq] using ha
      simp [ha] at h
      have := ih h
      simp [GoLite.markFirst, ha, authResult, resOf, h'] at this ⊢
      exact this


theorem capId_eq : CapabilityTrustedIdentityVerifier = capIdentity := rfl
theorem capRev_eq : CapabilityRevocationCheckVerifier = capRevocation := rfl

/-- the invariant of the simulation: an authenticity result has been recorded, so the search finds its object
(no nil dereference, and the branch of `respondCap` the model calls unreachable is not taken) -/
def hasAuth (s : St) : Prop := ∃ r ∈ s.results, (r.type == Facts.typeAuthenticity) = true

theorem critFail_isSome (r : ValidationResult) (h : isCriticalFailure r = true) : r.Error.isSome = true := by
  rw [isCriticalFailure_eq] at h
  simp [isCritical, resOf] at h
  exact h.2

theorem Rel.append {pre : List ValidationResult} {o : Outcome} {s : St} (h : Rel pre o s) (r : ValidationResult) :
    Rel pre { o with VerificationResults := o.VerificationResults ++ [r] } { s with results := s.results ++ [resOf r] } := by
  obtain ⟨rs, ho, hs⟩ := h
  exact ⟨rs ++ [r], by simp [ho], by simp [hs]⟩

theorem hasAuth.append {s : St} (h : hasAuth s) (r : Result) : hasAuth { s with results := s.results ++ [r] } := by
  obtain ⟨r0, hm, h0⟩ := h
  exact ⟨r0, by simp [hm], h0⟩

theorem respondCap_revocation (i : Input) (enf : Enf) (s : St) (h : i.verdictRevocation ≠ .missing) :
    respondCap i enf s capRevocation =
      s.push ⟨Facts.typeRevocation, enf.get Facts.typeRevocation, i.verdictRevocation == .failure⟩ := by
  have hne : (capRevocation == capIdentity) = false := by decide
  unfold respondCap St.push
  cases hv : i.verdictRevocation <;> simp_all

theorem stepCap_sim (i : Input) (resp : VerifySignatureResponse) (pre : List ValidationResult) (o : Outcome) (s : St)
    (k : Int) (cap : String)
    (hrel : Rel pre o s) (hpre : pre.all (fun r => !isAuth r) = true)
    (hvi : i.verdictIdentity = verdictOf resp CapabilityTrustedIdentityVerifier)
    (hvr : i.verdictRevocation = verdictOf resp CapabilityRevocationCheckVerifier)
    (hcap : cap = CapabilityTrustedIdentityVerifier ∨ cap = CapabilityRevocationCheckVerifier)
    (hauth : hasAuth s) :
    match stepCapG resp (o, k) cap, respondCap i o.VerificationLevel.Enforcement s cap with
    | .ok t', .ok s' => Rel pre t'.1 s' ∧ t'.1.VerificationLevel = o.VerificationLevel ∧
        t'.1.EnvelopeContent = o.EnvelopeContent ∧ hasAuth s'
    | .error e, .error s' => e.1.1.isSome = true ∧ Rel pre e.1.2 s'
    | _, _ => False := by
  rcases hcap with rfl | rfl
  · obtain ⟨rs, ho, hs⟩ := hrel
    have hne : (CapabilityTrustedIdentityVerifier == capRevocation) = false := by decide
    cases hpr : GoLite.Map.get resp.VerificationResults CapabilityTrustedIdentityVerifier with
    | none =>
      have : i.verdictIdentity = .missing := by rw [hvi]; simp [verdictOf, hpr]
      simp [stepCapG, respondCap, hpr, this, capId_eq.symm]
      exact ⟨rs, ho, hs⟩
    | some pr =>
      by_cases h2 : pr.Success = true
      · have : i.verdictIdentity = .success := by rw [hvi]; simp [verdictOf, hpr, h2]
        simp [stepCapG, respondCap, hpr, this, capId_eq.symm, h2]
        exact ⟨⟨rs, ho, hs⟩, hauth⟩
      · have hv : i.verdictIdentity = .failure := by rw [hvi]; simp [verdictOf, hpr, h2]
        -- the first authenticity result exists in rs
        obtain ⟨r0, hr0m, hr0⟩ := hauth
        have hfind : ∃ r, rs.find? isAuth = some r := by
          rw [hs] at hr0m
          obtain ⟨r1, hr1m, rfl⟩ := List.mem_map.1 hr0m
          cases hf : rs.find? isAuth with
          | some r => exact ⟨r, rfl⟩
          | none =>
            have := List.find?_eq_none.1 hf r1 hr1m
            simp [isAuth, typeAuth_eq] at this
            simp [resOf] at hr0
            exact absurd hr0 this
        obtain ⟨r, hfr⟩ := hfind
        have hfo : o.VerificationResults.find? isAuth = some r := by rw [ho, find_append_pre _ _ _ hpre, hfr]
        cases hfe : (GoLite.enum o.VerificationResults).find? (fun x => isAuth x.2) with
        | none => rw [GoLite.find_enum_none] at hfe; rw [hfe] at hfo; cases hfo
        | some x =>
          obtain ⟨hx0, hxf, hset⟩ := GoLite.find_enum_some isAuth (setErr (GoLite.errorf "")) o.VerificationResults x.1 x.2 hfe
          have hxr : x.2 = r := by rw [hfo] at hxf; cases hxf; rfl
          have hmark : GoLite.setAt o.VerificationResults x.1 (setErr (GoLite.errorf "") x.2) =
              pre ++ GoLite.markFirst isAuth (setErr (GoLite.errorf "")) rs := by
            rw [hset, ho, markFirst_append_pre _ _ _ _ hpre]
          have hfa := failAuthenticity_map (GoLite.errorf "") rs
          have har := authResult_fail (GoLite.errorf "") rs r hfr
          simp only [stepCapG, respondCap, hpr, hv, ← capId_eq, h2, hfe, hxr, hs, hfa, har, ← isCriticalFailure_eq,
            BEq.rfl, Bool.not_false, if_true]
          have hrel' : Rel pre { o with VerificationResults := GoLite.setAt o.VerificationResults x.1 (setErr (GoLite.errorf "") r) }
              { s with results := (GoLite.markFirst isAuth (setErr (GoLite.errorf "")) rs).map resOf } :=
            ⟨_, by rw [← hxr]; exact hmark, rfl⟩
          cases hc : isCriticalFailure (setErr (GoLite.errorf "") r)
          · simp only [Bool.false_eq_true, if_false]
            refine ⟨hrel', trivial, trivial, _, List.mem_of_find?_eq_some har, ?_⟩
            simpa [resOf, setErr, isAuth, typeAuth_eq] using List.find?_some hfr
          · exact ⟨rfl, hrel'⟩
  · have hne : (CapabilityRevocationCheckVerifier == capIdentity) = false := by decide
    have hne2 : (CapabilityRevocationCheckVerifier == CapabilityTrustedIdentityVerifier) = false := by decide
    cases hpr : GoLite.Map.get resp.VerificationResults CapabilityRevocationCheckVerifier with
    | none =>
      have : i.verdictRevocation = .missing := by rw [hvr]; simp [verdictOf, hpr]
      simp [stepCapG, respondCap, hpr, this, capRev_eq.symm, hne]
      exact hrel
    | some pr =>
      obtain ⟨r, hr⟩ : ∃ r : ValidationResult, r = ⟨trustpolicy.TypeRevocation,
          GoLite.Map.get o.VerificationLevel.Enforcement trustpolicy.TypeRevocation,
          if (!pr.Success) = true then some (GoLite.errorf "") else none⟩ := ⟨_, rfl⟩
      have hres : resOf r = ⟨Facts.typeRevocation, Enf.get o.VerificationLevel.Enforcement Facts.typeRevocation,
          i.verdictRevocation == .failure⟩ := by
        rw [hr, hvr]
        cases hS : pr.Success <;> simp [resOf, verdictOf, hpr, hS, typeRev_eq, mapGet_eq_enfGet] <;> decide
      have hv : i.verdictRevocation ≠ .missing := by rw [hvr]; simp [verdictOf, hpr]; split <;> simp
      have hstep : stepCapG resp (o, k) CapabilityRevocationCheckVerifier =
          if isCriticalFailure r = true then .error ((r.Error, { o with VerificationResults := o.VerificationResults ++ [r] }), k)
          else .ok ({ o with VerificationResults := o.VerificationResults ++ [r] }, k) := by
        simp only [stepCapG, hpr, hne2, Bool.false_eq_true, if_false, BEq.rfl, if_true, hr]
      rw [hstep, show respondCap i _ s CapabilityRevocationCheckVerifier = _ from respondCap_revocation i _ s hv,
        ← hres, St.push, ← isCriticalFailure_eq]
      cases hcr : isCriticalFailure r
      · exact ⟨hrel.append r, rfl, rfl, hauth.append _⟩
      · exact ⟨critFail_isSome r hcr, hrel.append r⟩

theorem foldCaps_sim (i : Input) (resp : VerifySignatureResponse) (pre : List ValidationResult) (caps : List String)
    (o : Outcome) (s : St) (k : Int)
    (hrel : Rel pre o s) (hpre : pre.all (fun r => !isAuth r) = true)
    (hvi : i.verdictIdentity = verdictOf resp CapabilityTrustedIdentityVerifier)
    (hvr : i.verdictRevocation = verdictOf resp CapabilityRevocationCheckVerifier)
    (hcaps : ∀ c ∈ caps, c = CapabilityTrustedIdentityVerifier ∨ c = CapabilityRevocationCheckVerifier)
    (hauth : hasAuth s) :
    match GoLite.foldE (stepCapG resp) caps (o, k), respondCaps i o.VerificationLevel.Enforcement caps s with
    | .ok t', .ok s' => Rel pre t'.1 s'
    | .error e, .error s' => e.2.1.1.isSome = true ∧ Rel pre e.2.1.2 s'
    | _, _ => False := by
  induction caps generalizing o s k with
  | nil => simpa [GoLite.foldE, respondCaps] using hrel
  | cons c caps ih =>
    have hstep := stepCap_sim i resp pre o s k c hrel hpre hvi hvr (hcaps c (by simp)) hauth
    simp only [GoLite.foldE, respondCaps]
    cases h1 : stepCapG resp (o, k) c with
    | ok t' =>
      cases h2 : respondCap i o.VerificationLevel.Enforcement s c with
      | ok s' =>
        rw [h1, h2] at hstep
        obtain ⟨hr, hl, _, ha⟩ := hstep
        have := ih t'.1 s' t'.2 hr (fun c hc => hcaps c (by simp [hc])) ha
        rw [hl] at this
        exact this
      | error s' => rw [h1, h2] at hstep; exact hstep.elim
    | error e =>
      cases h2 : respondCap i o.VerificationLevel.Enforcement s c with
      | ok s' => rw [h1, h2] at hstep; exact hstep.elim
      | error s' => rw [h1, h2] at hstep; exact hstep

theorem respSpec_sim (i : Input) (resp : VerifySignatureResponse) (pre : List ValidationResult) (caps : List String)
    (o : Outcome) (s : St)
    (hrel : Rel pre o s) (hpre : pre.all (fun r => !isAuth r) = true)
    (hvi : i.verdictIdentity = verdictOf resp CapabilityTrustedIdentityVerifier)
    (hvr : i.verdictRevocation = verdictOf resp CapabilityRevocationCheckVerifier)
    (hcaps : ∀ c ∈ caps, c = CapabilityTrustedIdentityVerifier ∨ c = CapabilityRevocationCheckVerifier)
    (hauth : hasAuth s)
    (hplug : (getVerificationPlugin (GoLite.deref o.EnvelopeContent).SignerInfo).2 = none)
    (hext : i.extAttrs.any (fun a => !i.processed.contains a.key) =
      (getNonPluginExtendedCriticalAttributes (GoLite.deref o.EnvelopeContent).SignerInfo).any
        (fun a => !slices.ContainsAny resp.ProcessedAttributes a.Key)) :
    match processResponse i o.VerificationLevel.Enforcement caps s with
    | .ok s' => (respSpec caps resp o).1 = none ∧ Rel pre (respSpec caps resp o).2 s'
    | .error s' => (respSpec caps resp o).1.isSome = true ∧ Rel pre (respSpec caps resp o).2 s' := by
  unfold processResponse respSpec
  simp only [hplug, Option.isSome_none, Bool.false_eq_true, if_false, hext]
  by_cases ha : (getNonPluginExtendedCriticalAttributes (GoLite.deref o.EnvelopeContent).SignerInfo).any
        (fun a => !slices.ContainsAny resp.ProcessedAttributes a.Key) = true
  · simp only [ha, if_true]
    exact ⟨rfl, hrel⟩
  · simp only [ha, Bool.false_eq_true, if_false]
    have := foldCaps_sim i resp pre caps o s (-1) hrel hpre hvi hvr hcaps hauth
    cases h1 : GoLite.foldE (stepCapG resp) caps (o, -1) with
    | ok t' =>
      cases h2 : respondCaps i o.VerificationLevel.Enforcement caps s with
      | ok s' => rw [h1, h2] at this; exact ⟨rfl, this⟩
      | error s' => rw [h1, h2] at this; exact this.elim
    | error e =>
      obtain ⟨t', e⟩ := e
      cases h2 : respondCaps i o.VerificationLevel.Enforcement caps s with
      | ok s' => rw [h1, h2] at this; exact this.elim
      | error s' => rw [h1, h2] at this; exact this

/-- plugin discovery goes through -/
def discOK (i : Input) : Bool :=
  i.pluginAttr == .absent ||
  (i.pluginAttr == .named && (i.minVerAttr == .absent || i.minVerAttr == .valid) &&
    i.pluginState == .installed && i.pluginVersion != .invalidSemver &&
    !(i.minVerAttr == .valid && i.pluginVersion == .tooOld) && !(capsOf i).isEmpty)

theorem discover_spec (i : Input) :
    ∃ s, s.results = [] ∧ discover i {} = (if discOK i then .ok s else .error s) := by
  unfold discover discOK
  cases i.pluginAttr with
  | named =>
    cases i.minVerAttr with
    | absent | valid =>
      cases i.pluginState with
      | installed => cases i.pluginVersion <;> cases (capsOf i).isEmpty <;> exact ⟨_, rfl, rfl⟩
      | _ => exact ⟨_, rfl, rfl⟩
    | _ => exact ⟨_, rfl, rfl⟩
  | _ => exact ⟨_, rfl, rfl⟩

end NotationModel.C02.Process
