/-
C08 - helper lemmas: lists with at most one element satisfying a test, the "last match" loop, the
selections in closed form, the clone reference model under all-fresh facts.
-/
import NotationModel.Model.C08

namespace NotationModel.C08

/-! ### lists with at most one element -/

theorem le_one_cases {α : Type} (l : List α) (h : l.length ≤ 1) : l = [] ∨ ∃ x, l = [x] := by
  match l, h with
  | [], _ => exact Or.inl rfl
  | [x], _ => exact Or.inr ⟨x, rfl⟩
  | _ :: _ :: _, h => simp at h

theorem eq_singleton_of_mem {α : Type} {l : List α} (h : l.length ≤ 1) {s : α} (hs : s ∈ l) : l = [s] := by
  rcases le_one_cases l h with rfl | ⟨x, rfl⟩
  · cases hs
  · rw [List.mem_singleton.1 hs]

theorem perm_eq_of_length_le_one {α : Type} {l l' : List α} (hp : l.Perm l') (h : l.length ≤ 1) : l = l' := by
  rcases le_one_cases l h with rfl | ⟨x, rfl⟩
  · exact hp.nil_eq
  · exact List.singleton_perm.1 hp

theorem getLast?_of_le_one {α : Type} (l : List α) (h : l.length ≤ 1) : l.getLast? = l.head? := by
  rcases le_one_cases l h with rfl | ⟨x, rfl⟩ <;> rfl

theorem the_of_le_one {α : Type} (l : List α) (h : l.length ≤ 1) : the l = l.head? := by
  rcases le_one_cases l h with rfl | ⟨x, rfl⟩ <;> rfl

/-! ### at most one element satisfies a test -/

theorem the_filter {α : Type} {p : α → Bool} {l : List α} (h : (l.filter p).length ≤ 1) :
    the (l.filter p) = l.find? p := by
  rw [the_of_le_one _ h, List.head?_filter]

theorem find?_of_le_one {α : Type} {p : α → Bool} {l : List α} (h : (l.filter p).length ≤ 1) {s : α}
    (hs : s ∈ l) (hp : p s = true) : l.find? p = some s := by
  rw [← List.head?_filter, eq_singleton_of_mem h (List.mem_filter.2 ⟨hs, hp⟩)]
  rfl

theorem find?_perm {α : Type} {p : α → Bool} {l l' : List α} (hp : l.Perm l') (h : (l.filter p).length ≤ 1) :
    l.find? p = l'.find? p := by
  rw [← List.head?_filter, ← List.head?_filter, perm_eq_of_length_le_one (hp.filter p) h]

theorem nodup_flatMap_filter {α β : Type} [BEq β] [LawfulBEq β] (f : α → List β) (x : β) : ∀ (d : List α),
    (d.flatMap f).Nodup → (d.filter (fun a => (f a).contains x)).length ≤ 1 := by
  intro d
  induction d with
  | nil => intro _; simp
  | cons a r ih =>
    intro h
    rw [List.flatMap_cons, List.nodup_append] at h
    obtain ⟨_, hr, hdis⟩ := h
    by_cases hx : (f a).contains x = true
    · have : r.filter (fun a => (f a).contains x) = [] := by
        apply List.filter_eq_nil_iff.2
        intro b hb hbx
        have h1 : x ∈ f a := List.contains_iff_mem.1 hx
        have h2 : x ∈ r.flatMap f := List.mem_flatMap.2 ⟨b, hb, List.contains_iff_mem.1 hbx⟩
        exact hdis x h1 x h2 rfl
      rw [List.filter_cons, if_pos hx, this]
      exact Nat.le_refl 1
    · rw [List.filter_cons, if_neg hx]
      exact ih hr

/-- a `map` is a `flatMap` of singletons -/
theorem nodup_map_filter {α β : Type} [BEq β] [LawfulBEq β] (g : α → β) (n : β) (l : List α)
    (h : (l.map g).Nodup) : (l.filter (fun a => g a == n)).length ≤ 1 := by
  rw [List.map_eq_flatMap] at h
  simpa only [List.contains_cons, List.contains_nil, Bool.or_false, BEq.comm (a := n)] using
    nodup_flatMap_filter (fun a => [g a]) n l h

/-- one `simp` fact for either way round of a comparison in the regenerated text -/
theorem beq_false_both {α : Type} [BEq α] [LawfulBEq α] {a b : α} (h : a ≠ b) :
    (a == b) = false ∧ (b == a) = false :=
  ⟨beq_false_of_ne h, beq_false_of_ne (Ne.symm h)⟩

/-! ### trimming -/

theorem dropWhile_nil_iff {α : Type} (p : α → Bool) : ∀ l : List α, l.dropWhile p = [] ↔ ∀ x ∈ l, p x = true
  | [] => by simp
  | a :: r => by
    by_cases h : p a = true
    · simp [h, dropWhile_nil_iff p r]
    · simp [h]

theorem trim_nil {α : Type} (p : α → Bool) (l : List α) :
    ((l.dropWhile p).reverse.dropWhile p).reverse = [] ↔ l.all p = true := by
  rw [List.reverse_eq_nil_iff, dropWhile_nil_iff, List.all_eq_true]
  constructor
  · intro h
    apply (dropWhile_nil_iff p l).1
    cases hd : l.dropWhile p with
    | nil => rfl
    | cons x r =>
      -- the first element left by `dropWhile` fails `p`
      have hx := List.head?_dropWhile_not p l
      rw [hd] at hx h
      exact absurd (h x (List.mem_reverse.2 List.mem_cons_self)) (Bool.eq_false_iff.1 hx)
  · intro h x hx
    rw [(dropWhile_nil_iff p l).2 h] at hx
    cases hx

/-! ### the last-match loop -/

/-- one pass keeping the last element that satisfies `p` -/
def lastMatch {α : Type} (p : α → Bool) : List α → Option α → Option α
  | [], acc => acc
  | x :: r, acc => lastMatch p r (if p x then some x else acc)

theorem lastMatch_eq {α : Type} (p : α → Bool) : ∀ (l : List α) (acc : Option α),
    lastMatch p l acc = (l.filter p).getLast?.or acc
  | [], acc => rfl
  | x :: r, acc => by
    rw [lastMatch, lastMatch_eq p r, List.filter_cons]
    by_cases hx : p x = true
    · rw [if_pos hx, if_pos hx, Option.or_some, List.getLast?_cons, Option.some_or]
    · rw [if_neg hx, if_neg hx]

/-! ### what validity gives -/

theorem scopesUnique_filter (d : List Stmt) (h : scopesUnique d = true) (x : Text) :
    (d.filter (fun s => s.scopes.contains x)).length ≤ 1 := by
  simp only [scopesUnique, Bool.and_eq_true, decide_eq_true_eq] at h
  exact nodup_flatMap_filter (fun s : Stmt => s.scopes) x d h.1

theorem scopesUnique_wild (d : List Stmt) (h : scopesUnique d = true) (s : Stmt) (hs : s ∈ d)
    (hw : s.scopes.contains wildcard = true) : s.scopes = [wildcard] := by
  simp only [scopesUnique, Bool.and_eq_true, List.all_eq_true] at h
  have := h.2 s hs
  simp only [hw, Bool.not_true, Bool.false_or] at this
  simpa using this

theorem scopesUnique_perm (d d' : List Stmt) (hperm : d.Perm d') (hu : scopesUnique d = true) :
    scopesUnique d' = true := by
  simp only [scopesUnique, Bool.and_eq_true, decide_eq_true_eq, List.all_eq_true] at hu ⊢
  exact ⟨(hperm.flatMap_right _).nodup_iff.1 hu.1, fun s hs => hu.2 s (hperm.mem_iff.2 hs)⟩

theorem namesUnique_filter (d : List Stmt) (h : namesUnique d = true) (n : Text) :
    (d.filter (fun s => s.name == n)).length ≤ 1 :=
  nodup_map_filter (fun s : Stmt => s.name) n d (of_decide_eq_true h)

theorem oneGlobal_filter (d : List Stmt) (h : oneGlobal d = true) : (d.filter (fun s => s.isGlobal)).length ≤ 1 :=
  of_decide_eq_true h

/-! ### the selections in closed form -/

/-- the end of every selection: the statement found, or the no-applicable-policy error -/
def orRefuse : Option Stmt → Except SelErr Stmt
  | some s => .ok s
  | none => .error .noApplicablePolicy

theorem orRefuse_eq_ok (o : Option Stmt) (s : Stmt) : orRefuse o = .ok s ↔ o = some s := by
  cases o <;> simp [orRefuse]

theorem nameOf_orRefuse (o : Option Stmt) : nameOf (orRefuse o) = o.map (·.name) := by
  cases o <;> rfl

theorem selectBlob_eq (d : List Stmt) (name : Text) :
    selectBlob d name = if isBlank name then .error .emptyName else orRefuse (d.find? (fun s => s.name == name)) := rfl

theorem selectGlobal_eq (d : List Stmt) : selectGlobal d = orRefuse (d.find? (fun s => s.isGlobal)) := rfl

def isWild (s : Stmt) : Bool := s.scopes.contains wildcard
/-- the loop's `else if`: reached only when the wildcard test fails -/
def isExact (path : Text) (s : Stmt) : Bool := !s.scopes.contains wildcard && s.scopes.contains path

theorem isExact_iff (path : Text) (s : Stmt) : isExact path s = true ↔ wildcard ∉ s.scopes ∧ path ∈ s.scopes := by
  simp only [isExact, Bool.and_eq_true, Bool.not_eq_true', List.contains_iff_mem, ← Bool.not_eq_true]

/-- the loop of `GetApplicableTrustPolicy` is two independent last-match loops -/
theorem scan_eq (path : Text) : ∀ (d : List Stmt) (w a : Option Stmt),
    scan path d w a = (lastMatch isWild d w, lastMatch (isExact path) d a)
  | [], w, a => rfl
  | s :: r, w, a => by
    simp only [scan, lastMatch, isWild, isExact, scan_eq path r]
    by_cases h1 : s.scopes.contains wildcard = true
    · simp only [h1, ↓reduceIte, Bool.not_true, Bool.false_and, Bool.false_eq_true]
    · by_cases h2 : s.scopes.contains path = true <;>
        simp only [h1, h2, ↓reduceIte, Bool.not_false, Bool.true_and, Bool.false_eq_true]

theorem selectOCI_none (d : List Stmt) (ref : Text) (hp : artifactPath ref = none) :
    selectOCI d ref = .error .invalidReference := by
  simp only [selectOCI, hp]

theorem selectOCI_some (d : List Stmt) (ref path : Text) (hp : artifactPath ref = some path) :
    selectOCI d ref = orRefuse ((d.filter (isExact path)).getLast?.or (d.filter isWild).getLast?) := by
  unfold selectOCI
  simp only [hp, scan_eq, lastMatch_eq, Option.or_none]
  cases (d.filter (isExact path)).getLast? <;> cases (d.filter isWild).getLast? <;> rfl

theorem selectOCI_ok (d : List Stmt) (ref : Text) (s : Stmt) (h : selectOCI d ref = .ok s) :
    ∃ path, artifactPath ref = some path ∧ s ∈ d ∧
      (isExact path s = true ∨ (isWild s = true ∧ ∀ t ∈ d, ¬ isExact path t = true)) := by
  cases hp : artifactPath ref with
  | none => rw [selectOCI_none d ref hp] at h; cases h
  | some path =>
    refine ⟨path, rfl, ?_⟩
    rw [selectOCI_some d ref path hp, orRefuse_eq_ok, Option.or_eq_some_iff] at h
    rcases h with h | ⟨hn, h⟩
    · have hs := List.mem_filter.1 (List.mem_of_getLast? h)
      exact ⟨hs.1, Or.inl hs.2⟩
    · have hs := List.mem_filter.1 (List.mem_of_getLast? h)
      exact ⟨hs.1, Or.inr ⟨hs.2, List.filter_eq_nil_iff.1 (List.getLast?_eq_none_iff.1 hn)⟩⟩

theorem selectOCI_mem (d : List Stmt) (ref : Text) (s : Stmt) (h : selectOCI d ref = .ok s) : s ∈ d := by
  obtain ⟨_, _, hs, _⟩ := selectOCI_ok d ref s h
  exact hs

theorem selectBlob_ok (d : List Stmt) (name : Text) (s : Stmt) (h : selectBlob d name = .ok s) :
    d.find? (fun s => s.name == name) = some s := by
  rw [selectBlob_eq] at h
  split at h
  · cases h
  · exact (orRefuse_eq_ok _ s).1 h

theorem selectBlob_mem (d : List Stmt) (name : Text) (s : Stmt) (h : selectBlob d name = .ok s) : s ∈ d :=
  List.mem_of_find?_eq_some (selectBlob_ok d name s h)

theorem selectGlobal_mem (d : List Stmt) (s : Stmt) (h : selectGlobal d = .ok s) : s ∈ d :=
  List.mem_of_find?_eq_some ((orRefuse_eq_ok _ s).1 h)

theorem selectQ_mem (d : List Stmt) (q : Query) (s : Stmt) (h : selectQ d q = .ok s) : s ∈ d := by
  cases q with
  | oci ref => exact selectOCI_mem d ref s h
  | blob name => exact selectBlob_mem d name s h
  | global => exact selectGlobal_mem d s h

theorem validFormat_of_artifactPath (ref path : Text) (h : artifactPath ref = some path) :
    validFormat path = true := by
  unfold artifactPath at h
  split at h
  · cases h
  · split at h
    · cases h
      assumption
    · cases h

theorem artifactPath_ne_wildcard (ref path : Text) (h : artifactPath ref = some path) : path ≠ wildcard := by
  intro hw
  have hv := validFormat_of_artifactPath ref path h
  rw [hw] at hv
  exact absurd hv (by decide)

/-- in a valid document the code's test for an exact match (`else if`, after the wildcard test)
is plain membership of the path -/
theorem isExact_eq_contains (d : List Stmt) (h : scopesUnique d = true) (path : Text) (hp : path ≠ wildcard)
    (s : Stmt) (hs : s ∈ d) : isExact path s = s.scopes.contains path := by
  unfold isExact
  cases hw : s.scopes.contains wildcard with
  | false => rfl
  | true =>
    have : s.scopes.contains path = false := by
      rw [scopesUnique_wild d h s hs hw]
      exact Bool.eq_false_iff.2 (fun hc => hp (List.mem_singleton.1 (List.contains_iff_mem.1 hc)))
    rw [this]
    rfl

/-- first match = last match, since there is at most one -/
theorem selectOCI_valid (d : List Stmt) (hu : scopesUnique d = true) (ref path : Text)
    (hp : artifactPath ref = some path) :
    selectOCI d ref = orRefuse ((d.find? (fun s => s.scopes.contains path)).or
      (d.find? (fun s => s.scopes.contains wildcard))) := by
  have hE : d.filter (isExact path) = d.filter (fun s => s.scopes.contains path) :=
    List.filter_congr (isExact_eq_contains d hu path (artifactPath_ne_wildcard ref path hp))
  rw [selectOCI_some d ref path hp, hE, getLast?_of_le_one _ (scopesUnique_filter d hu path)]
  unfold isWild
  rw [getLast?_of_le_one _ (scopesUnique_filter d hu wildcard), List.head?_filter, List.head?_filter]

theorem nameOf_selectOCI (d : List Stmt) (h : scopesUnique d = true) (ref : Text) :
    nameOf (selectOCI d ref) = expectedOCI d ref := by
  cases hp : artifactPath ref with
  | none => simp only [selectOCI_none d ref hp, expectedOCI, hp, nameOf]
  | some path =>
    rw [selectOCI_valid d h ref path hp, nameOf_orRefuse]
    simp only [expectedOCI, hp]
    rw [the_filter (scopesUnique_filter d h wildcard),
      ← List.head?_filter (p := fun s : Stmt => s.scopes.contains path)]
    rcases le_one_cases _ (scopesUnique_filter d h path) with hf | ⟨s, hf⟩
    · rw [hf]
      rfl
    · rw [hf]
      rfl

theorem nameOf_selectBlob (d : List Stmt) (h : namesUnique d = true) (name : Text) :
    nameOf (selectBlob d name) = expectedBlob d name := by
  rw [selectBlob_eq, expectedBlob, the_filter (namesUnique_filter d h name)]
  split
  · rfl
  · exact nameOf_orRefuse _

theorem nameOf_selectGlobal (d : List Stmt) (h : oneGlobal d = true) :
    nameOf (selectGlobal d) = expectedGlobal d := by
  rw [selectGlobal_eq, expectedGlobal, the_filter (oneGlobal_filter d h)]
  exact nameOf_orRefuse _

/-! ### classes and observation records -/

theorem classOf_eq (r : Except SelErr Stmt) : classOf r = classOfExpected (nameOf r) := by
  cases r <;> rfl

theorem regObs_regSkip (d : List Stmt) (t : Text) : (regObs d t).regSkip = classOf (selectOCI d t) := by
  cases h : selectOCI d t <;> simp only [regObs, h, classOf]

theorem regObs_regVerify (d : List Stmt) (t : Text) :
    (regObs d t).regVerify = notReached ∨ (regObs d t).regVerify = (regObs d t).regSkip := by
  cases h : selectOCI d t with
  | error e => simp only [regObs, h, true_or]
  | ok s =>
    simp only [regObs, h]
    exact (Decidable.em (s.level = "skip")).imp (if_pos ·) (if_neg ·)

theorem forall₂_map {α β : Type} (p : α → β → Bool) (f : α → β) : ∀ (l : List α),
    forall₂ p l (l.map f) = l.all (fun a => p a (f a)) := by
  intro l
  induction l with
  | nil => rfl
  | cons a r ih => simp [forall₂, ih]

/-! ### clone under all-fresh facts, writes through private copies -/

def SliceCell.isOwn : SliceCell → Bool
  | .own _ => true
  | .shared _ _ => false

def MapCell.isOwn : MapCell → Bool
  | .own _ => true
  | .shared _ => false

def Copy.isPrivate (c : Copy) : Bool :=
  c.scopes.isOwn && c.stores.isOwn && c.identities.isOwn && c.override.isOwn

theorem cloneFresh_lookups (fields : List (String × String)) (mm blob : Bool) (h : CloneFresh fields mm blob = true) :
    fields.lookup "Name" = some "copied:t.Name" ∧
    fields.lookup "SignatureVerification" = some "deep-clone" ∧ mm = true ∧
    fields.lookup "TrustStores" = some "fresh-slice" ∧
    fields.lookup "TrustedIdentities" = some "fresh-slice" ∧
    (blob = true → fields.lookup "GlobalPolicy" = some "copied:t.GlobalPolicy") ∧
    (blob = false → fields.lookup "RegistryScopes" = some "fresh-slice") := by
  unfold CloneFresh at h
  simp only [Bool.and_eq_true, beq_iff_eq] at h
  obtain ⟨⟨⟨⟨⟨h1, h2⟩, h3⟩, h4⟩, h5⟩, h6⟩ := h
  refine ⟨h1, h2, h3, h4, h5, ?_, ?_⟩
  · intro hb; simpa [hb] using h6
  · intro hb; simpa [hb] using h6

theorem sliceCell_fresh (fields : List (String × String)) (s : Stmt) (f : SliceField)
    (h : fields.lookup f.goName = some "fresh-slice") : sliceCell fields s f = .own (s.get f) := by
  simp only [sliceCell, h, if_true]

theorem clone_eq_of_fresh (F : CloneFacts) (hF : F.fresh = true) (blob : Bool) (s : Stmt) :
    clone F blob s =
      { name := s.name, level := s.level, isGlobal := s.isGlobal, scopes := .own s.scopes,
        stores := .own s.stores, identities := .own s.identities, override := .own s.override } := by
  unfold CloneFacts.fresh at hF
  rw [Bool.and_eq_true] at hF
  cases blob with
  | false =>
    obtain ⟨hName, hSV, hMap, hStores, hIds, _, hScopes⟩ := cloneFresh_lookups _ _ _ hF.1
    simp only [clone, Bool.false_eq_true, if_false, hName, hSV, hMap, if_true, true_or,
      sliceCell_fresh F.oci s .scopes (hScopes rfl), sliceCell_fresh F.oci s .stores hStores,
      sliceCell_fresh F.oci s .identities hIds, Stmt.get]
  | true =>
    obtain ⟨hName, hSV, hMap, hStores, hIds, hGlobal, _⟩ := cloneFresh_lookups _ _ _ hF.2
    simp only [clone, if_true, hName, hSV, hMap, true_or, hGlobal rfl,
      sliceCell_fresh F.blob s .stores hStores, sliceCell_fresh F.blob s .identities hIds, Stmt.get]

theorem clone_fresh (F : CloneFacts) (hF : F.fresh = true) (blob : Bool) (s : Stmt) (doc : List Stmt) :
    (clone F blob s).isPrivate = true ∧ (clone F blob s).read doc = s := by
  rw [clone_eq_of_fresh F hF]
  exact ⟨rfl, rfl⟩
theorem isPrivate_cell (c : Copy) (h : c.isPrivate = true) (f : SliceField) : ∃ v, c.cell f = .own v := by
  simp only [Copy.isPrivate, Bool.and_eq_true] at h
  obtain ⟨⟨⟨h1, h2⟩, h3⟩, _⟩ := h
  have own : ∀ x : SliceCell, x.isOwn = true → ∃ v, x = .own v
    | .own v, _ => ⟨v, rfl⟩
    | .shared _ _, h => by cases h
  cases f with
  | scopes => exact own _ h1
  | stores => exact own _ h2
  | identities => exact own _ h3

theorem isPrivate_override (c : Copy) (h : c.isPrivate = true) : ∃ v, c.override = .own v := by
  simp only [Copy.isPrivate, Bool.and_eq_true] at h
  cases hc : c.override with
  | own v => exact ⟨v, rfl⟩
  | shared o => rw [hc] at h; cases h.2

theorem isPrivate_setCell (c : Copy) (h : c.isPrivate = true) (f : SliceField) (v : List Text) :
    (c.setCell f (.own v)).isPrivate = true := by
  simp only [Copy.isPrivate, Bool.and_eq_true] at h ⊢
  obtain ⟨⟨⟨h1, h2⟩, h3⟩, h4⟩ := h
  cases f with
  | scopes => exact ⟨⟨⟨rfl, h2⟩, h3⟩, h4⟩
  | stores => exact ⟨⟨⟨h1, rfl⟩, h3⟩, h4⟩
  | identities => exact ⟨⟨⟨h1, h2⟩, rfl⟩, h4⟩

def Op.onHandle : Op → Option Nat
  | .select _ => none
  | .writeSlice h _ _ => some h
  | .writeMap h _ => some h
  | .writeScalars h _ _ _ => some h

def AllPrivate (st : State) : Prop := ∀ c ∈ st.handles, c.isPrivate = true

theorem allPrivate_nil (d : List Stmt) : AllPrivate { doc := d, handles := [] } := by
  intro c hc
  cases hc

/-- an operation does nothing, or hands out one more private copy, or replaces the copy it writes
through by another private copy -/
theorem step_cases (F : CloneFacts) (hF : F.fresh = true) (st : State) (hI : AllPrivate st) (op : Op) :
    step F st op = st ∨ ∃ c, c.isPrivate = true ∧
      (step F st op = { st with handles := st.handles ++ [c] } ∨
       ∃ h, op.onHandle = some h ∧ step F st op = { st with handles := st.handles.set h c }) := by
  cases op with
  | select q =>
    simp only [step]
    cases selectQ st.doc q with
    | error e => exact Or.inl rfl
    | ok s => exact Or.inr ⟨_, (clone_fresh F hF _ s st.doc).1, Or.inl rfl⟩
  | writeSlice h f v =>
    simp only [step]
    cases hh : st.handles[h]? with
    | none => exact Or.inl rfl
    | some c =>
      have hc : c.isPrivate = true := hI c (List.mem_of_getElem? hh)
      obtain ⟨v0, hv0⟩ := isPrivate_cell c hc f
      simp only [hv0]
      exact Or.inr ⟨_, isPrivate_setCell c hc f v, Or.inr ⟨h, rfl, rfl⟩⟩
  | writeMap h v =>
    simp only [step]
    cases hh : st.handles[h]? with
    | none => exact Or.inl rfl
    | some c =>
      have hc : c.isPrivate = true := hI c (List.mem_of_getElem? hh)
      obtain ⟨v0, hv0⟩ := isPrivate_override c hc
      simp only [hv0]
      refine Or.inr ⟨_, ?_, Or.inr ⟨h, rfl, rfl⟩⟩
      simp only [Copy.isPrivate, Bool.and_eq_true] at hc ⊢
      exact ⟨hc.1, rfl⟩
  | writeScalars h name level g =>
    simp only [step]
    cases hh : st.handles[h]? with
    | none => exact Or.inl rfl
    | some c =>
      exact Or.inr ⟨{ c with name := name, level := level, isGlobal := g }, hI c (List.mem_of_getElem? hh),
        Or.inr ⟨h, rfl, rfl⟩⟩

theorem step_fresh (F : CloneFacts) (hF : F.fresh = true) (st : State) (hI : AllPrivate st) (op : Op) :
    (step F st op).doc = st.doc ∧ AllPrivate (step F st op) ∧
    st.handles.length ≤ (step F st op).handles.length ∧
    ∀ k < st.handles.length, op.onHandle ≠ some k → (step F st op).handles[k]? = st.handles[k]? := by
  rcases step_cases F hF st hI op with e | ⟨c, hc, e | ⟨h, hh, e⟩⟩ <;> rw [e]
  · exact ⟨rfl, hI, Nat.le_refl _, fun _ _ _ => rfl⟩
  · refine ⟨rfl, ?_, by simp, fun k hk _ => List.getElem?_append_left hk⟩
    intro x hx
    rcases List.mem_append.1 hx with hx | hx
    · exact hI x hx
    · rw [List.mem_singleton.1 hx]; exact hc
  · refine ⟨rfl, ?_, by simp, fun k _ hne => List.getElem?_set_ne (fun e : h = k => hne (e ▸ hh))⟩
    intro x hx
    rcases List.mem_or_eq_of_mem_set hx with hx | hx
    · exact hI x hx
    · rw [hx]; exact hc

theorem exec_fresh (F : CloneFacts) (hF : F.fresh = true) : ∀ (ops : List Op) (st : State), AllPrivate st →
    (exec F st ops).doc = st.doc ∧ AllPrivate (exec F st ops) ∧
    st.handles.length ≤ (exec F st ops).handles.length ∧
    ∀ k < st.handles.length, (∀ op ∈ ops, op.onHandle ≠ some k) → (exec F st ops).handles[k]? = st.handles[k]?
  | [], st, hI => ⟨rfl, hI, Nat.le_refl _, fun _ _ _ => rfl⟩
  | op :: r, st, hI => by
    obtain ⟨d1, i1, l1, o1⟩ := step_fresh F hF st hI op
    obtain ⟨d2, i2, l2, o2⟩ := exec_fresh F hF r (step F st op) i1
    refine ⟨d2.trans d1, i2, Nat.le_trans l1 l2, fun k hk hall => ?_⟩
    exact (o2 k (Nat.lt_of_lt_of_le hk l1) (fun o ho => hall o (List.mem_cons_of_mem _ ho))).trans
      (o1 k hk (hall op List.mem_cons_self))

/-! ### the experiment in closed form -/

/-- the observation of one query when nothing is shared -/
def pureQ (d : List Stmt) (q : Query) (rej : Bool) (viaV viaS : Text) : QObs :=
  { selected := nameOf (selectQ d q), reversedSelected := nameOf (selectQ d.reverse q), refRejected := rej,
    viaVerify := viaV, viaSkip := viaS, copyEqual := true, intact := true, independent := true }

theorem scramble_onHandle (mark : Text) (markS : String) (doc : List Stmt) (h : Nat) (c : Copy) :
    ∀ op ∈ scrambleOpsWith mark markS doc h c, op.onHandle = some h := by
  intro op hop
  simp only [scrambleOpsWith, List.mem_cons, List.not_mem_nil, or_false] at hop
  rcases hop with rfl | rfl | rfl | rfl | rfl <;> rfl

theorem runQuery_fresh (F : CloneFacts) (hF : F.fresh = true) (d : List Stmt) (st : State) (hI : AllPrivate st)
    (hd : st.doc = d) (q : Query) (rej : Bool) (viaV viaS : Text) :
    (runQuery F d st q rej viaV viaS).1 = pureQ d q rej viaV viaS ∧
    (runQuery F d st q rej viaV viaS).2.doc = d ∧ AllPrivate (runQuery F d st q rej viaV viaS).2 := by
  subst hd
  unfold runQuery pureQ
  cases hs : selectQ st.doc q with
  | error e => exact ⟨rfl, rfl, hI⟩
  | ok s =>
    simp only []
    obtain ⟨d1, i1, _, _⟩ := step_fresh F hF st hI (.select q)
    have l1 : (step F st (.select q)).handles.length = st.handles.length + 1 := by simp [step, hs]
    obtain ⟨d2, i2, l2, _⟩ := exec_fresh F hF
      (scrambleOps (step F st (.select q)).doc st.handles.length (clone F q.isBlob s)) _ i1
    have d2 := d2.trans d1
    -- the document is unchanged, so the second selection finds `s` again
    rw [d2, hs]
    simp only []
    generalize exec F (step F st (.select q)) (scrambleOps (step F st (.select q)).doc st.handles.length
        (clone F q.isBlob s)) = st2 at i2 l2 d2 ⊢
    obtain ⟨d3, i3, l3, _⟩ := step_fresh F hF st2 i2 (.select q)
    generalize step F st2 (.select q) = st3 at d3 i3 l3 ⊢
    obtain ⟨d4, i4, _, o4⟩ := exec_fresh F hF
      (scrambleOpsWith mutated2 "y-mutated" st3.doc st2.handles.length (clone F q.isBlob s)) st3 i3
    have o4 := o4 st.handles.length (by omega) (fun op hop => by
      rw [scramble_onHandle _ _ _ _ _ op hop]
      intro e
      injection e with e
      omega)
    refine ⟨?_, by rw [d4, d3, d2], i4⟩
    have hind : readHandle (exec F st3 (scrambleOpsWith mutated2 "y-mutated" st3.doc st2.handles.length
        (clone F q.isBlob s))) st.handles.length = readHandle st3 st.handles.length := by
      unfold readHandle
      rw [o4, d4]
    -- every copy of `s` reads as `s` (`selected`, `copyEqual`, `intact`); ours was not touched (`independent`)
    have hread : ∀ doc, (clone F q.isBlob s).read doc = s := fun doc => (clone_fresh F hF q.isBlob s doc).2
    rw [hread, hread, hind, List.contains_iff_mem.2 (selectQ_mem st.doc q s hs), decide_eq_true rfl,
      decide_eq_true rfl]
    rfl
def pureT (i : Input) (t : Text) : QObs :=
  pureQ i.stmts (mkQuery i.kind t)
    (match i.kind with | .oci => (artifactPath t).isNone | .blob => false)
    (match i.kind with
      | .oci => classOf (selectOCI i.stmts t)
      | .blob => classOf (selectQ i.stmts (blobVerifyQuery t)))
    (match i.kind with | .oci => classOf (selectOCI i.stmts t) | .blob => [])

theorem runQueries_fresh (F : CloneFacts) (hF : F.fresh = true) (i : Input) : ∀ (ts : List Text) (st : State),
    AllPrivate st → st.doc = i.stmts →
    (runQueries F i ts st).1 = ts.map (pureT i) ∧ (runQueries F i ts st).2.doc = i.stmts ∧
      AllPrivate (runQueries F i ts st).2
  | [], st, hI, hd => ⟨rfl, hd, hI⟩
  | t :: r, st, hI, hd => by
    cases hk : i.kind with
    | oci =>
      obtain ⟨h1, d1, i1⟩ := runQuery_fresh F hF i.stmts st hI hd (.oci t) (artifactPath t).isNone
        (classOf (selectOCI i.stmts t)) (classOf (selectOCI i.stmts t))
      obtain ⟨h2, d2, i2⟩ := runQueries_fresh F hF i r _ i1 d1
      simp only [runQueries, hk, mkQuery, List.map_cons, pureT]
      exact ⟨by rw [h1, h2], d2, i2⟩
    | blob =>
      obtain ⟨h1, d1, i1⟩ := runQuery_fresh F hF i.stmts st hI hd (.blob t) false
        (classOf (selectQ i.stmts (blobVerifyQuery t))) []
      obtain ⟨h2, d2, i2⟩ := runQueries_fresh F hF i r _ i1 d1
      simp only [runQueries, hk, mkQuery, List.map_cons, pureT]
      exact ⟨by rw [h1, h2], d2, i2⟩

def pureRun (i : Input) : Obs :=
  { validated := true, verifierAccepts := true, queries := i.queries.map (pureT i)
    globalSel := match i.kind with
      | .oci => none
      | .blob => some (pureQ i.stmts .global false (classOf (selectGlobal i.stmts)) [])
    registry := i.registryQueries.map (regObs i.stmts) }

/-- with all-fresh clone facts nothing a caller does to a handed-out statement shows up anywhere -/
theorem runValid_fresh (F : CloneFacts) (hF : F.fresh = true) (i : Input) : runValid F i = pureRun i := by
  obtain ⟨h, d, hI⟩ := runQueries_fresh F hF i i.queries { doc := i.stmts, handles := [] } (allPrivate_nil _) rfl
  unfold runValid pureRun
  cases hk : i.kind with
  | oci => simp only [h]
  | blob => simp only [h, (runQuery_fresh F hF i.stmts _ hI d .global false (classOf (selectGlobal i.stmts)) []).1]

end NotationModel.C08
