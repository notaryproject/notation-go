/-
C16 - `Clean` is compositional, hence a relative plugin root behaves as `Join(cwd, root)`
(lemmas for `Props/C16.lean`; the model's `absRoot` / `eff` rest on `relative_root_resolves_as_absolute`).
-/
import NotationModel.Lemmas.C16Path
namespace NotationModel.C16

/-- what `step` keeps on its stack -/
def Kept (c : Text) : Prop := c ≠ [] ∧ c ≠ dot

theorem step_kept (r : Bool) (stk : List Text) (c : Text) (hs : ∀ x ∈ stk, Kept x) : ∀ x ∈ step r stk c, Kept x :=
  step_forall hs (fun _ => ⟨by decide, by decide⟩) (fun h1 h2 _ => ⟨h1, h2⟩)

theorem replay_step (S T : List Text) (c : Text) (hT : ∀ x ∈ T, Kept x) :
    List.foldl (step true) S (step false T c).reverse = step true (List.foldl (step true) S T.reverse) c := by
  by_cases h0 : c = [] ∨ c = dot
  · rw [step_drop _ _ h0, step_drop _ _ h0]
  · by_cases hd : c = dotdot
    · subst hd
      cases T with
      | nil =>
        rw [step_dotdot_nil]
        simp only [Bool.false_eq_true, if_false, List.reverse_cons, List.reverse_nil, List.nil_append, List.foldl_cons,
          List.foldl_nil]
      | cons t rest =>
        rw [step_dotdot_cons]
        by_cases ht : t = dotdot
        · simp only [ht, if_true, List.reverse_cons, List.foldl_append, List.foldl_cons, List.foldl_nil]
        · have hk := hT t (by simp)
          simp only [ht, if_false, List.reverse_cons, List.foldl_append, List.foldl_cons, List.foldl_nil]
          rw [step_push true _ hk.1 hk.2 ht, step_dotdot_cons]
          simp only [ht, if_false]
    · rw [step_push false T (fun e => h0 (Or.inl e)) (fun e => h0 (Or.inr e)) hd]
      simp only [List.reverse_cons, List.foldl_append, List.foldl_cons, List.foldl_nil]

/-- Cleaning the relative path `b` leaves a stack (top first; `T` at the start). Replaying it bottom-first on the
absolute stack `S` gives what processing `b` directly on `S` gives: the `..` left over are resolved on `S`. -/
theorem replay (S : List Text) : ∀ (b T : List Text), (∀ x ∈ T, Kept x) →
    List.foldl (step true) S (List.foldl (step false) T b).reverse =
      List.foldl (step true) (List.foldl (step true) S T.reverse) b
  | [], T, _ => by simp
  | c :: b, T, hT => by
    simp only [List.foldl_cons]
    rw [replay S b (step false T c) (step_kept false T c hT), replay_step S T c hT]

/-- `Clean` is compositional: cleaning a relative path first and resolving the result against an
absolute directory gives what resolving the raw path gives -/
theorem normComps_abs_rel (a b : List Text) :
    normComps true (a ++ normComps false b) = normComps true (a ++ b) := by
  simp only [normComps, List.foldl_append]
  congr 1
  have := replay (List.foldl (step true) [] a) b [] (by simp)
  simpa using this

theorem clean_rooted {p : Text} (hp : isRooted p = true) : clean p = '/' :: joinSlash (rootComps p) := by
  rw [clean_eq (by rintro rfl; cases hp), if_pos hp]

theorem comps_clean_rooted {p : Text} (hp : isRooted p = true) : comps (clean p) = rootComps p := by
  rw [clean_rooted hp, comps_cons_slash, comps_joinSlash _ (rootComps_plain p)]

theorem rootComps_clean_rooted {p : Text} (hp : isRooted p = true) : rootComps (clean p) = rootComps p := by
  have hg : ∀ x ∈ rootComps p, Good x := by
    rw [rootComps, hp]
    exact normComps_true_good _ (splitSlash_slashfree p)
  rw [clean_rooted hp]
  generalize rootComps p = C at hg
  have hs : splitSlash ('/' :: joinSlash C) = [] :: splitSlash (joinSlash C) := by simp [splitSlash]
  rw [rootComps, show isRooted ('/' :: joinSlash C) = true from rfl, hs, normComps_nil_cons]
  cases C with
  | nil => decide
  | cons a r =>
    rw [splitSlash_joinSlash _ (by simp) (fun x hx => (hg x hx).2.2.2)]
    exact normComps_good true _ hg

theorem join_rooted (cwd b : Text) (hc : isRooted cwd = true) :
    ∃ p, join [cwd, b] = clean p ∧ isRooted p = true ∧
      rootComps p = normComps true (splitSlash cwd ++ splitSlash b) := by
  have hcwd : cwd ≠ [] := by rintro rfl; cases hc
  cases b with
  | nil =>
    refine ⟨cwd, ?_, hc, ?_⟩
    · rw [join_pair_nil, join_eq_clean (by simp) (by simpa using hcwd), joinSlash_singleton]
    · rw [rootComps, hc]
      exact (normComps_append_nil true _).symm
  | cons c r =>
    have hp : isRooted (cwd ++ '/' :: c :: r) = true := (isRooted_append _ hcwd).trans hc
    refine ⟨cwd ++ '/' :: c :: r, ?_, hp, ?_⟩
    · rw [join_eq_clean (by simp) (by simpa using hcwd), joinSlash_pair]
    · rw [rootComps, hp, splitSlash_append]

theorem comps_join_rooted (cwd b : Text) (hc : isRooted cwd = true) :
    comps (join [cwd, b]) = normComps true (splitSlash cwd ++ splitSlash b) := by
  obtain ⟨p, e, hp, hcs⟩ := join_rooted cwd b hc
  rw [e, comps_clean_rooted hp, hcs]

theorem rootComps_join_rooted (cwd b : Text) (hc : isRooted cwd = true) :
    rootComps (join [cwd, b]) = normComps true (splitSlash cwd ++ splitSlash b) := by
  obtain ⟨p, e, hp, hcs⟩ := join_rooted cwd b hc
  rw [e, rootComps_clean_rooted hp, hcs]

/-- **relative plugin roots**: for a root that is a relative path, the path the manager builds for a
validated name, resolved against the (absolute) working directory, is the path it builds for the
root `Join(cwd, root)` - for every working directory, every relative root, with any number of `..`.
This is what `eff` / `absRoot` of the model rest on. -/
theorem relative_root_resolves_as_absolute (cwd root : Text) {items : List Text} (hne : items ≠ [])
    (h : ∀ x ∈ items, Good x) (hc : isRooted cwd = true) (hr : isRooted root = false) :
    comps (join [cwd, sysPath root [joinSlash items]]) = comps (sysPath (join [cwd, root]) [joinSlash items]) := by
  have hne' : rootComps root ++ items ≠ [] := fun e => hne (List.append_eq_nil_iff.1 e).2
  have hfree : ∀ x ∈ rootComps root ++ items, '/' ∉ x :=
    List.forall_mem_append.2 ⟨fun x hx => (rootComps_plain root x hx).2, fun x hx => (h x hx).2.2.2⟩
  have hrel : sysPath root [joinSlash items] = joinSlash (rootComps root ++ items) := by
    rw [sysPath_good root hne h, hr]
    rfl
  -- joining the cleaned relative path to `cwd` cleans it once more, which changes nothing
  have hleft : comps (join [cwd, joinSlash (rootComps root ++ items)]) =
      normComps true (splitSlash cwd ++ splitSlash root) ++ items := by
    rw [comps_join_rooted cwd _ hc, splitSlash_joinSlash _ hne' hfree, ← List.append_assoc,
      normComps_append_good _ _ _ h, rootComps, hr, normComps_abs_rel]
  rw [hrel, hleft, comps_sysPath _ hne h, rootComps_join_rooted cwd root hc]

end NotationModel.C16
