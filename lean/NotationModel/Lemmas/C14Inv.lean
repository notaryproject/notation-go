/-
C14 - the invariant of the temp-file + rename protocol (space part `Inv`; time part in `C14Time.lean`).
The case analysis over the events is done once, in `step_shape`; everything else is read off that shape.
-/
import NotationModel.Model.C14

namespace NotationModel.C14

theorem upd_tmp_key {β} (f : FName → β) (t k : Nat) (b : β) : upd f (.tmp t) b (.key k) = f (.key k) :=
  upd_other f _ _ b nofun

theorem upd_self {α β} [DecidableEq α] (f : α → β) (a : α) : upd f a (f a) = f := by
  funext x
  by_cases hx : x = a <;> simp [upd, hx]

theorem upd_upd {α β} [DecidableEq α] (f : α → β) (a : α) (b c : β) : upd (upd f a b) a c = upd f a c := by
  funext x
  by_cases hx : x = a <;> simp [upd, hx]

theorem runFrom_append (p : Prog) (s : Sys) (a b : List Event) :
    runFrom p s (a ++ b) = runFrom p (runFrom p s a) b := List.foldl_append

theorem prefix_extend {α} {l buf : List α} (m : Nat) (hb : buf <+: l) :
    buf ++ (l.drop buf.length).take m <+: l := by
  obtain ⟨t, rfl⟩ := hb
  rw [List.drop_left]
  exact (List.prefix_append_right_inj buf).2 (List.take_prefix _ _)

/-- a reader that is reading holds a sealed inode of its key and has read a prefix of it; one that
has finished with a result has the complete data of a writer of its key -/
def ReaderOK (p : Prog) (s : Sys) (r : Nat) : RState → Prop
  | .idle | .finished none _ => True
  | .reading i buf snap =>
    (∀ w', ¬ Owns s w' i) ∧ i < s.next ∧ ∃ w, snap = some w ∧ p.wkey w = p.rkey r ∧ s.ino i = p.wdata w ∧
      buf <+: p.wdata w
  | .finished (some b) snap => ∃ w, snap = some w ∧ p.wkey w = p.rkey r ∧ b = p.wdata w

theorem ReaderOK.transfer {p : Prog} {s s' : Sys} {r : Nat} {x : RState} (h : ReaderOK p s r x)
    (hsealed : ∀ i, i < s.next → (∀ w', ¬ Owns s w' i) →
      s'.ino i = s.ino i ∧ i < s'.next ∧ ∀ w', ¬ Owns s' w' i) : ReaderOK p s' r x :=
  match x, h with
  | .idle, _ | .finished none _, _ => trivial
  | .finished (some _) _, h => h
  | .reading i _ _, ⟨h1, hlt, w0, h2, h3, h4, h5⟩ =>
    have ⟨a, b, c⟩ := hsealed i hlt h1
    ⟨c, b, w0, h2, h3, a.trans h4, h5⟩

structure Inv (p : Prog) (s : Sys) : Prop where
  /-- a key name points to a complete entry written for that key by the current writer -/
  key_sealed : ∀ k i, s.dir (.key k) = some i →
      ∃ w, s.cur k = some w ∧ p.wkey w = k ∧ s.ino i = p.wdata w ∧ s.wst w = .done ∧
        (∀ w', ¬ Owns s w' i) ∧ i < s.next
  /-- inodes in progress are fresh-allocated, private, and hold a prefix -/
  own_lt : ∀ w i, Owns s w i → i < s.next
  own_inj : ∀ w w' i, Owns s w i → Owns s w' i → w = w'
  opened_prefix : ∀ w t i off, s.wst w = .opened t i off → s.ino i = (p.wdata w).take off ∧ off ≤ (p.wdata w).length
  closed_full : ∀ w t i, s.wst w = .closed t i → s.ino i = p.wdata w
  reader : ∀ r, ReaderOK p s r (s.rst r)

theorem inv_init (p : Prog) : Inv p init := by
  constructor <;> simp [init, Owns, ReaderOK]

theorem owns_iff {s : Sys} {w j : Nat} :
    Owns s w j ↔ match s.wst w with
      | .opened _ i _ => j = i
      | .closed _ i => j = i
      | _ => False := by
  unfold Owns
  cases s.wst w <;> simp [eq_comm]

theorem Owns.congr {s s' : Sys} {w j : Nat} (h : s'.wst w = s.wst w) : Owns s' w j ↔ Owns s w j := by
  simp only [Owns, h]

theorem owns_upd_done {s s' : Sys} {w : Nat} (h : s'.wst = upd s.wst w .done) {w' j : Nat}
    (ho : Owns s' w' j) : Owns s w' j ∧ w' ≠ w := by
  by_cases hw : w' = w
  · subst hw; simp [owns_iff, h] at ho
  · exact ⟨(Owns.congr (by rw [h]; exact upd_other _ _ _ _ hw)).1 ho, hw⟩

/-- what `create`, `write`, `wfail`, `close`, `giveup`, `crash` of writer `w` share. `opened` / `closed` assume the
invariant before the move, which `close` needs. -/
structure WriterMove (p : Prog) (s s' : Sys) (w : Nat) : Prop where
  key : ∀ k, s'.dir (.key k) = s.dir (.key k)
  ghost : s'.cur = s.cur ∧ s'.rst = s.rst ∧ s'.now = s.now ∧ s'.stamp = s.stamp ∧ s'.openAt = s.openAt
  next : s.next ≤ s'.next
  wst : ∀ w', w' ≠ w → s'.wst w' = s.wst w'
  done_self : s'.wst w = .done ↔ s.wst w = .done
  own_self : ∀ j, Owns s' w j → Owns s w j ∨ (s.next ≤ j ∧ j < s'.next)
  ino : ∀ j, j < s.next → ¬ Owns s w j → s'.ino j = s.ino j
  opened : Inv p s → ∀ t i off, s'.wst w = .opened t i off →
    s'.ino i = (p.wdata w).take off ∧ off ≤ (p.wdata w).length
  closed : Inv p s → ∀ t i, s'.wst w = .closed t i → s'.ino i = p.wdata w

namespace WriterMove
variable {p : Prog} {s s' : Sys} {w : Nat} (m : WriterMove p s s' w)
include m

theorem done_iff (w' : Nat) : s'.wst w' = .done ↔ s.wst w' = .done := by
  by_cases hw : w' = w
  · rw [hw]; exact m.done_self
  · rw [m.wst w' hw]

theorem owns (w' j : Nat) (ho : Owns s' w' j) : Owns s w' j ∨ (w' = w ∧ s.next ≤ j ∧ j < s'.next) := by
  by_cases hw : w' = w
  · subst hw; exact (m.own_self j ho).imp id fun x => ⟨rfl, x⟩
  · exact Or.inl ((Owns.congr (m.wst w' hw)).1 ho)

theorem sealed {j : Nat} (hj : j < s.next) (hno : ∀ w', ¬ Owns s w' j) :
    s'.ino j = s.ino j ∧ j < s'.next ∧ ∀ w', ¬ Owns s' w' j := by
  refine ⟨m.ino j hj (hno w), Nat.lt_of_lt_of_le hj m.next, fun w' ho => ?_⟩
  rcases m.owns w' j ho with ho | ⟨_, hle, _⟩
  · exact hno w' ho
  · omega

theorem inv (h : Inv p s) : Inv p s' := by
  obtain ⟨hcur, hrst, -, -, -⟩ := m.ghost
  have hother : ∀ w' j, w' ≠ w → Owns s w' j → s'.ino j = s.ino j := fun w' j hw ho =>
    m.ino j (h.own_lt w' j ho) fun ho' => hw (h.own_inj w' w j ho ho')
  constructor
  · intro k i hk
    rw [m.key] at hk
    obtain ⟨w0, h1, h2, h3, h4, h5, h6⟩ := h.key_sealed k i hk
    obtain ⟨a, b, c⟩ := m.sealed h6 h5
    exact ⟨w0, by rw [hcur]; exact h1, h2, by rw [a]; exact h3, (m.done_iff w0).2 h4, c, b⟩
  · intro w' j ho
    rcases m.owns w' j ho with ho | ⟨_, _, hlt⟩
    · exact Nat.lt_of_lt_of_le (h.own_lt w' j ho) m.next
    · exact hlt
  · intro w1 w2 j h1 h2
    rcases m.owns w1 j h1 with h1 | ⟨e1, hle1, _⟩ <;> rcases m.owns w2 j h2 with h2 | ⟨e2, hle2, _⟩
    · exact h.own_inj w1 w2 j h1 h2
    · have := h.own_lt w1 j h1; omega
    · have := h.own_lt w2 j h2; omega
    · rw [e1, e2]
  · intro w' t i off hw'
    by_cases hw : w' = w
    · subst hw; exact m.opened h t i off hw'
    · rw [m.wst w' hw] at hw'
      rw [hother w' i hw (Or.inl ⟨t, off, hw'⟩)]
      exact h.opened_prefix w' t i off hw'
  · intro w' t i hw'
    by_cases hw : w' = w
    · subst hw; exact m.closed h t i hw'
    · rw [m.wst w' hw] at hw'
      rw [hother w' i hw (Or.inr ⟨t, hw'⟩)]
      exact h.closed_full w' t i hw'
  · intro r
    rw [hrst]
    exact (h.reader r).transfer fun _ => m.sealed

end WriterMove

theorem WriterMove.of_upd {p : Prog} {s : Sys} {w : Nat} {d : FName → Option Nat} {f : Nat → Bytes} {n : Nat}
    {x : WState} (keys : ∀ k, d (.key k) = s.dir (.key k)) (next : s.next ≤ n)
    (notDone : x ≠ .done ∧ s.wst w ≠ .done)
    (others : ∀ j, j < s.next → ¬ Owns s w j → f j = s.ino j)
    (opened : ∀ t i off, x = .opened t i off → (Owns s w i ∨ (s.next ≤ i ∧ i < n)) ∧
      (Inv p s → f i = (p.wdata w).take off ∧ off ≤ (p.wdata w).length))
    (closed : ∀ t i, x = .closed t i → (Owns s w i ∨ (s.next ≤ i ∧ i < n)) ∧ (Inv p s → f i = p.wdata w)) :
    WriterMove p s { s with dir := d, ino := f, next := n, wst := upd s.wst w x } w := by
  have hx : ({ s with dir := d, ino := f, next := n, wst := upd s.wst w x } : Sys).wst w = x := upd_same _ _ _
  refine ⟨keys, ⟨rfl, rfl, rfl, rfl, rfl⟩, next, fun w' hw' => upd_other _ _ _ _ hw', ?_, ?_, others, ?_, ?_⟩
  · rw [hx]
    exact ⟨fun e => absurd e notDone.1, fun e => absurd e notDone.2⟩
  · rintro j (⟨t, off, e⟩ | ⟨t, e⟩)
    · exact (opened t j off (hx ▸ e)).1
    · exact (closed t j (hx ▸ e)).1
  · intro h t i off e
    exact (opened t i off (hx ▸ e)).2 h
  · intro h t i e
    exact (closed t i (hx ▸ e)).2 h

def Event.writer : Event → Option Nat
  | .create w _ | .write w _ | .wfail w _ | .close w | .rename w | .giveup w | .crash w => some w
  | .ropen _ | .rread _ _ => none

def renamed (p : Prog) (s : Sys) (w t i : Nat) : Sys :=
  { s with dir := upd (upd s.dir (.tmp t) none) (.key (p.wkey w)) (some i),
           wst := upd s.wst w .done, cur := upd s.cur (p.wkey w) (some w),
           now := s.now + 1, stamp := upd s.stamp w s.now }

/-- a reader's move: the new state of reader `r` and the clock value at which it opened -/
inductive ReaderMove (p : Prog) (s : Sys) (r : Nat) : RState → Nat → Prop
  | miss : s.rst r = .idle → s.dir (.key (p.rkey r)) = none →
      ReaderMove p s r (.finished none (s.cur (p.rkey r))) s.now
  | opened (i : Nat) : s.rst r = .idle → s.dir (.key (p.rkey r)) = some i →
      ReaderMove p s r (.reading i [] (s.cur (p.rkey r))) s.now
  | eof (i : Nat) (buf : Bytes) (snap : Option Nat) (n : Nat) : s.rst r = .reading i buf snap →
      ((s.ino i).drop buf.length).take (n + 1) = [] →
      ReaderMove p s r (.finished (some buf) snap) (s.openAt r)
  | more (i : Nat) (buf : Bytes) (snap : Option Nat) (n : Nat) : s.rst r = .reading i buf snap →
      ((s.ino i).drop buf.length).take (n + 1) ≠ [] →
      ReaderMove p s r (.reading i (buf ++ ((s.ino i).drop buf.length).take (n + 1)) snap) (s.openAt r)

theorem step_shape (p : Prog) (s : Sys) (e : Event) :
    (∃ w t i, s.wst w = .closed t i ∧ e = .rename w ∧ step p s e = renamed p s w t i) ∨
    (∃ r x t, ReaderMove p s r x t ∧
      step p s e = { s with rst := upd s.rst r x, openAt := upd s.openAt r t }) ∨
    step p s e = s ∨ ∃ w, e.writer = some w ∧ WriterMove p s (step p s e) w := by
  cases e with
  | rename w =>
    simp only [step]
    split
    · rename_i t i hw
      exact Or.inl ⟨w, t, i, hw, rfl, rfl⟩
    · exact Or.inr (Or.inr (Or.inl rfl))
  | ropen r =>
    simp only [step]
    split
    · rename_i hr
      split
      · rename_i hk
        exact Or.inr (Or.inl ⟨r, _, _, .miss hr hk, rfl⟩)
      · rename_i i hk
        exact Or.inr (Or.inl ⟨r, _, _, .opened i hr hk, rfl⟩)
    · exact Or.inr (Or.inr (Or.inl rfl))
  | rread r n =>
    simp only [step]
    split
    · rename_i i buf snap hr
      split
      · rename_i hc
        exact Or.inr (Or.inl ⟨r, _, _, .eof i buf snap n hr hc, by rw [upd_self]⟩)
      · rename_i hc
        exact Or.inr (Or.inl ⟨r, _, _, .more i buf snap n hr hc, by rw [upd_self]⟩)
    · exact Or.inr (Or.inr (Or.inl rfl))
  | create w t =>
    refine Or.inr (Or.inr ?_)
    simp only [step]
    split
    · rename_i hw ht
      refine Or.inr ⟨w, rfl, .of_upd (keys := fun _ => upd_tmp_key s.dir t _ _) (next := Nat.le_succ _)
        (notDone := ⟨nofun, by rw [hw]; nofun⟩) (others := fun j hj _ => upd_other _ _ _ _ (Nat.ne_of_lt hj))
        (closed := nofun) (opened := ?_)⟩
      intro _ _ _ e
      cases e
      exact ⟨Or.inr ⟨Nat.le_refl _, Nat.lt_succ_self _⟩, fun _ => ⟨upd_same _ _ _, Nat.zero_le _⟩⟩
    · exact Or.inl rfl
  | write w n =>
    refine Or.inr (Or.inr ?_)
    simp only [step]
    split
    · rename_i t i off hw
      have hown : Owns s w i := Or.inl ⟨t, off, hw⟩
      refine Or.inr ⟨w, rfl, .of_upd (keys := fun _ => rfl) (next := Nat.le_refl _)
        (notDone := ⟨nofun, by rw [hw]; nofun⟩)
        (others := fun j _ hj => upd_other _ _ _ _ fun e => hj (e ▸ hown)) (closed := nofun) (opened := ?_)⟩
      intro _ _ _ e
      cases e
      exact ⟨Or.inl hown, fun _ => ⟨upd_same _ _ _, Nat.min_le_right _ _⟩⟩
    · exact Or.inl rfl
  | wfail w n =>
    refine Or.inr (Or.inr ?_)
    simp only [step]
    split
    · rename_i t i off hw
      have hown : Owns s w i := Or.inl ⟨t, off, hw⟩
      exact Or.inr ⟨w, rfl, .of_upd (keys := fun _ => upd_tmp_key s.dir t _ _) (next := Nat.le_refl _)
        (notDone := ⟨nofun, by rw [hw]; nofun⟩)
        (others := fun j _ hj => upd_other _ _ _ _ fun e => hj (e ▸ hown)) (opened := nofun) (closed := nofun)⟩
    · exact Or.inl rfl
  | close w =>
    refine Or.inr (Or.inr ?_)
    simp only [step]
    split
    · rename_i t i off hw
      split
      · rename_i hoff
        refine Or.inr ⟨w, rfl, .of_upd (keys := fun _ => rfl) (next := Nat.le_refl _)
          (notDone := ⟨nofun, by rw [hw]; nofun⟩) (others := fun _ _ _ => rfl) (opened := nofun) (closed := ?_)⟩
        intro _ _ e
        cases e
        refine ⟨Or.inl (Or.inl ⟨t, off, hw⟩), fun h => ?_⟩
        have := (h.opened_prefix w t i off hw).1
        rwa [hoff, List.take_length] at this
      · exact Or.inl rfl
    · exact Or.inl rfl
  | giveup w =>
    refine Or.inr (Or.inr ?_)
    simp only [step]
    split
    · rename_i t i off hw
      exact Or.inr ⟨w, rfl, .of_upd (keys := fun _ => upd_tmp_key s.dir t _ _) (next := Nat.le_refl _)
        (notDone := ⟨nofun, by rw [hw]; nofun⟩) (others := fun _ _ _ => rfl) (opened := nofun) (closed := nofun)⟩
    · rename_i t i hw
      exact Or.inr ⟨w, rfl, .of_upd (keys := fun _ => upd_tmp_key s.dir t _ _) (next := Nat.le_refl _)
        (notDone := ⟨nofun, by rw [hw]; nofun⟩) (others := fun _ _ _ => rfl) (opened := nofun) (closed := nofun)⟩
    · exact Or.inl rfl
  | crash w =>
    refine Or.inr (Or.inr ?_)
    simp only [step]
    split
    · exact Or.inl rfl
    · rename_i hnd
      exact Or.inr ⟨w, rfl, .of_upd (keys := fun _ => rfl) (next := Nat.le_refl _) (notDone := ⟨nofun, hnd⟩)
        (others := fun _ _ _ => rfl) (opened := nofun) (closed := nofun)⟩

theorem step_wst_other (p : Prog) (s : Sys) (e : Event) (w : Nat) (h : e.writer ≠ some w) :
    (step p s e).wst w = s.wst w := by
  rcases step_shape p s e with ⟨w', t, i, -, rfl, hs⟩ | ⟨r, x, t, -, hs⟩ | hs | ⟨w', hw', m⟩
  · rw [hs]
    exact upd_other _ _ _ _ fun e => h (e ▸ rfl)
  · rw [hs]
  · rw [hs]
  · exact m.wst w fun e => h (e ▸ hw')

theorem renamed_dir_key (p : Prog) (s : Sys) (w t i k : Nat) :
    (renamed p s w t i).dir (.key k) = if k = p.wkey w then some i else s.dir (.key k) := by
  show upd (upd s.dir (.tmp t) none) (.key (p.wkey w)) (some i) (.key k) = _
  by_cases h : k = p.wkey w
  · rw [if_pos h, h, upd_same]
  · rw [if_neg h, upd_other _ _ _ _ (fun e => h (FName.key.inj e)), upd_tmp_key]

theorem inv_rename (p : Prog) (s : Sys) (w t i : Nat) (h : Inv p s) (hw : s.wst w = .closed t i) :
    Inv p (renamed p s w t i) := by
  have hown_w : Owns s w i := Or.inr ⟨t, hw⟩
  have hown : ∀ w' j, Owns (renamed p s w t i) w' j → Owns s w' j ∧ w' ≠ w := fun w' j ho =>
    owns_upd_done rfl ho
  have hwst : ∀ w', w' ≠ w → (renamed p s w t i).wst w' = s.wst w' := fun w' hne => upd_other _ _ _ _ hne
  have hwst_w : (renamed p s w t i).wst w = .done := upd_same _ _ _
  refine ⟨fun k j hk => ?_, fun w' j ho => h.own_lt w' j (hown w' j ho).1,
    fun w1 w2 j h1 h2 => h.own_inj w1 w2 j (hown _ _ h1).1 (hown _ _ h2).1,
    fun w' t' j off' hw' => ?_, fun w' t' j hw' => ?_,
    fun r => (h.reader r).transfer fun j hj hno => ⟨rfl, hj, fun w' ho => hno w' (hown w' j ho).1⟩⟩
  · rw [renamed_dir_key] at hk
    by_cases hkk : k = p.wkey w
    · -- the key just renamed: `w`'s inode, complete since `w` had closed it, now owned by nobody
      rw [if_pos hkk] at hk
      obtain rfl := Option.some.inj hk
      refine ⟨w, by rw [hkk]; exact upd_same _ _ _, hkk.symm, h.closed_full w t i hw, hwst_w, fun w' ho => ?_,
        h.own_lt w i hown_w⟩
      obtain ⟨ho', hne⟩ := hown w' i ho
      exact hne (h.own_inj w' w i ho' hown_w)
    · rw [if_neg hkk] at hk
      obtain ⟨w0, h1, h2, h3, h4, h5, h6⟩ := h.key_sealed k j hk
      have hw0 : w0 ≠ w := fun e => by rw [e, hw] at h4; cases h4
      exact ⟨w0, (upd_other _ _ _ _ hkk).trans h1, h2, h3, (hwst w0 hw0).trans h4,
        fun w' ho => h5 w' (hown w' j ho).1, h6⟩
  · by_cases hww : w' = w
    · rw [hww] at hw'; cases hwst_w.symm.trans hw'
    · exact h.opened_prefix w' t' j off' ((hwst w' hww).symm.trans hw')
  · by_cases hww : w' = w
    · rw [hww] at hw'; cases hwst_w.symm.trans hw'
    · exact h.closed_full w' t' j ((hwst w' hww).symm.trans hw')

theorem Inv.set_reader {p : Prog} {s : Sys} (h : Inv p s) (r : Nat) (x : RState) (at' : Nat → Nat)
    (hx : ReaderOK p s r x) : Inv p { s with rst := upd s.rst r x, openAt := at' } := by
  refine ⟨h.key_sealed, h.own_lt, h.own_inj, h.opened_prefix, h.closed_full, fun r' => ?_⟩
  by_cases hr : r' = r
  · subst hr
    simp only [upd_same]
    exact hx
  · simp only [upd_other _ _ _ _ hr]
    exact h.reader r'

theorem ReaderMove.ok {p : Prog} {s : Sys} {r t : Nat} {x : RState} (m : ReaderMove p s r x t)
    (h : Inv p s) : ReaderOK p s r x := by
  cases m with
  | miss => trivial
  | opened i _ hk =>
    obtain ⟨w0, h1, h2, h3, -, h5, h6⟩ := h.key_sealed _ _ hk
    exact ⟨h5, h6, w0, h1, h2, h3, List.nil_prefix⟩
  | eof i buf snap n hr hc =>
    have hx := h.reader r
    rw [hr] at hx
    obtain ⟨-, -, w0, g2, g3, g4, g5⟩ := hx
    refine ⟨w0, g2, g3, ?_⟩
    -- nothing left to read: the buffer is the whole file
    obtain ⟨rest, hrest⟩ := g5
    rw [g4, ← hrest, List.drop_left, List.take_eq_nil_iff] at hc
    rw [← hrest, hc.resolve_left (Nat.succ_ne_zero n), List.append_nil]
  | more i buf snap n hr _ =>
    have hx := h.reader r
    rw [hr] at hx
    obtain ⟨g1, glt, w0, g2, g3, g4, g5⟩ := hx
    refine ⟨g1, glt, w0, g2, g3, g4, ?_⟩
    rw [g4]
    exact prefix_extend (n + 1) g5

theorem inv_step (p : Prog) (s : Sys) (e : Event) (h : Inv p s) : Inv p (step p s e) := by
  rcases step_shape p s e with ⟨w, t, i, hw, -, hs⟩ | ⟨r, x, t, m, hs⟩ | hs | ⟨w, -, m⟩
  · rw [hs]; exact inv_rename p s w t i h hw
  · rw [hs]; exact h.set_reader r x _ (m.ok h)
  · rw [hs]; exact h
  · exact m.inv h

end NotationModel.C14
